import ZtypV.Basic
import ZtypV.Sha256
import ZtypV.Spec
import ZtypV.FactsExpected
import ZtypV.Props.C01
import ZtypV.Props.C02
import ZtypV.Props.C03
import ZtypV.Props.C15
import ZtypV.Model.Tree
import ZtypV.Model.View
import ZtypV.Model.Decode
import ZtypV.Model.Machine
import ZtypV.Props.C16
import ZtypV.Model.Sizes
import ZtypV.Proofs.Sizes
import ZtypV.Model.Iter
import ZtypV.Model.Bitfields
import ZtypV.Proofs.Bitfields
import ZtypV.Props.C18
import ZtypV.Model.Merkleize
import ZtypV.Proofs.Merkleize
import ZtypV.Proofs.MerkleizeTyped
import ZtypV.Props.C08
import ZtypV.Props.C04
import ZtypV.Props.C05
import ZtypV.Props.C06
import ZtypV.Props.C07
import ZtypV.Props.C17
import ZtypV.Props.C19
import ZtypV.Model.TreeG
import ZtypV.Proofs.Fill
import ZtypV.Proofs.Tree
import ZtypV.Props.C11
import ZtypV.Props.C12
import ZtypV.Props.C14
import ZtypV.Props.C20
import ZtypV.Proofs.IterNav
import ZtypV.Model.Flat
import ZtypV.Props.C09
import ZtypV.Props.C10
import ZtypV.Model.Sim
import ZtypV.Model.IO
import ZtypV.Proofs.IO
import ZtypV.Props.C13
import ZtypV.Proofs.Rep
import ZtypV.Proofs.Shape
import ZtypV.Proofs.RepView
import ZtypV.Proofs.RepMut
import ZtypV.Proofs.DecodeComplete
import ZtypV.Props.C02b
import ZtypV.Proofs.Summ
import ZtypV.Proofs.SummView
import ZtypV.Proofs.SummMut
import ZtypV.Proofs.SummIter
import ZtypV.Proofs.SummEx
import ZtypV.Model.DecodeCost
import ZtypV.Proofs.CostLogic
import ZtypV.Proofs.DecodeCost
import ZtypV.Proofs.DecodeCostBound
import ZtypV.Model.FlatCost
import ZtypV.Proofs.FlatCostRes
import ZtypV.Proofs.FlatCostMono
import ZtypV.Proofs.FlatCostHelpers
import ZtypV.Proofs.FlatCost
import ZtypV.Proofs.RepSimBase
import ZtypV.Proofs.RepSimProp
import ZtypV.Proofs.RepSim
import ZtypV.Model.BasicApi
import ZtypV.Proofs.BasicApi
import ZtypV.Props.C09b
import ZtypV.Model.Tree2
import ZtypV.Proofs.Tree2
import ZtypV.Props.C11b
import ZtypV.Model.Api
import ZtypV.Proofs.Api
import ZtypV.Proofs.ApiView
import ZtypV.Proofs.ApiSkip
import ZtypV.Props.C02c
