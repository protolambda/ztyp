/-
C13 — Codec I/O is independent of chunking and surfaces faults.

Model: ZtypV/Model/IO.lean (`DecodingReader` over `io.LimitReader` over a scheduled `io.Reader`;
`EncodingWriter` over a failing `io.Writer`).

All theorems quantify over every legal delivery schedule (`ReaderState.legal`: any list of chunk
sizes ≥ 1, cycled from any position, any of the three end modes), any byte content, any scope and
any request size; the writer theorems over every failure position, every per-call limit and both
error conventions for short writes.  `Rd.avail` is the byte string that can still arrive through
the limiter stack: for `newDecodingReader (mkReader bs cycle endm k) scope` it is
`(bs.take k).take (int64 scope)`, independent of `cycle` and `endm`.
-/
import ZtypV.Proofs.IO
namespace ZtypV.Props.C13
open ZtypV ZtypV.CodecIO

/-! ## a single `Read` -/

/-- `Read` of `n` bytes within the scope, when at least `n` bytes can still arrive: returns exactly the
    next `n` bytes, advances the stream and the index by `n`, whatever the chunking and the end mode
    (in particular when the last bytes arrive together with EOF). -/
theorem C13_read_ok (dr : DR) (n : Nat) (hl : dr.input.legal)
    (hs : dr.i.toNat + n ≤ dr.max.toNat) (ha : n ≤ dr.input.avail.length) :
    (dr.read n).1 = .ok (dr.input.avail.take n) ∧
    (dr.read n).2.input.avail = dr.input.avail.drop n ∧
    (dr.read n).2.input.legal ∧
    (dr.read n).2.i.toNat = dr.i.toNat + n ∧
    (dr.read n).2.max = dr.max := by
  by_cases h0 : n = 0
  · subst h0
    rw [DR.read_zero]
    exact ⟨by simp, by simp, hl, by simp, rfl⟩
  · obtain ⟨hv1, hv2⟩ := scopeUpdate_ok dr.i dr.max n hs
    obtain ⟨r', e1, e2⟩ := DR.read_ok dr n _ h0 hl hv1 ha
    rw [e1]
    exact ⟨rfl, e2.avail, e2.legal, hv2, rfl⟩


/-- non-vacuity: six bytes in chunks 2,3,1 with the last byte arriving together with EOF -/
example :
    (newDecodingReader Ex.rdWith 6).input.legal ∧
    (newDecodingReader Ex.rdWith 6).i.toNat + 6 ≤ (newDecodingReader Ex.rdWith 6).max.toNat ∧
    6 ≤ (newDecodingReader Ex.rdWith 6).input.avail.length ∧
    ((newDecodingReader Ex.rdWith 6).read 6).1 = .ok [1, 2, 3, 4, 5, 6] := by decide +kernel

/-- the stream fails or ends before `n` bytes have been delivered: an error, never data -/
theorem C13_read_short (dr : DR) (n : Nat) (hl : dr.input.legal)
    (hs : dr.i.toNat + n ≤ dr.max.toNat) (ha : dr.input.avail.length < n) :
    ∃ e got dr', dr.read n = (.err e got, dr') := by
  obtain ⟨hv1, _⟩ := scopeUpdate_ok dr.i dr.max n hs
  exact DR.read_short dr n _ hl hv1 ha


/-- non-vacuity: the stream fails after 4 of the 5 requested bytes (scope 6) -/
example :
    (newDecodingReader Ex.rdFail 6).input.legal ∧
    (newDecodingReader Ex.rdFail 6).i.toNat + 5 ≤ (newDecodingReader Ex.rdFail 6).max.toNat ∧
    (newDecodingReader Ex.rdFail 6).input.avail.length < 5 ∧
    ((newDecodingReader Ex.rdFail 6).read 5).1 = .err .fault [1, 2, 3, 4] := by decide +kernel

/-- a non-empty request beyond the scope is an error and consumes nothing (reader and index
    unchanged); `n < 2^64`: `len(p)` is a Go `int`.  (`Read` of an empty slice always succeeds.) -/
theorem C13_read_scope (dr : DR) (n : Nat) (h0 : n ≠ 0) (hn : n < 2 ^ 64) (hs : dr.max.toNat < dr.i.toNat + n) :
    dr.read n = (.err .scope [], dr) :=
  DR.read_scope_err dr n h0 (by rw [scopeUpdate_ofNat dr.i dr.max n hn, if_neg (by omega)])


/-- non-vacuity: 7 bytes requested in a scope of 6 -/
example :
    (newDecodingReader Ex.rdWith 6).max.toNat < (newDecodingReader Ex.rdWith 6).i.toNat + 7 ∧
    (newDecodingReader Ex.rdWith 6).read 7 = (.err .scope [], newDecodingReader Ex.rdWith 6) :=
  ⟨by decide, C13_read_scope _ 7 (by decide) (by decide) (by decide)⟩

/-- complete description: the outcome of a `Read` is a function of index, bound and the bytes that can
    still arrive — not of the schedule; the loop never spins on a legal reader -/
theorem C13_read (dr : DR) (n : Nat) (hl : dr.input.legal) (hn : n < 2 ^ 64) :
    (dr.read n).1.val? =
      (if n = 0 then some []
       else if dr.i.toNat + n ≤ dr.max.toNat ∧ n ≤ dr.input.avail.length
         then some (dr.input.avail.take n) else none) ∧
    (dr.read n).1 ≠ .spin := by
  obtain ⟨h1, h2⟩ := DR.read_val dr n hl
  refine ⟨?_, h2⟩
  rw [h1]
  by_cases h0 : n = 0
  · simp [h0]
  · rw [if_neg h0, if_neg h0, scopeUpdate_ofNat dr.i dr.max n hn]
    by_cases hs : dr.i.toNat + n ≤ dr.max.toNat <;> simp [hs]


example : (newDecodingReader Ex.rdWith 6).input.legal ∧
    ((newDecodingReader Ex.rdWith 6).read 4).1.val? = some [1, 2, 3, 4] ∧
    ((newDecodingReader Ex.rdFail 6).read 5).1.val? = none := by decide +kernel

/-- a `Read` over any legal schedule returns what it returns over `bytes.Reader`-like delivery of
    the flat byte list -/
theorem C13_read_flat (st : ReaderState) (scope : UInt64) (n : Nat) (hl : st.legal) :
    ((newDecodingReader st scope).read n).1.val? =
      ((newDecodingReader (flatReader st.data) scope).read n).1.val? := by
  have hl1 : (newDecodingReader st scope).input.legal := by simpa [newDecodingReader, Rd.legal] using hl
  have hl2 : (newDecodingReader (flatReader st.data) scope).input.legal := by
    simp [newDecodingReader, Rd.legal, flatReader, ReaderState.legal]
  rw [(DR.read_val _ n hl1).1, (DR.read_val _ n hl2).1]
  rfl


/-- non-vacuity: chunks 2,3 and EOF-with-data versus the flat reader -/
example : Ex.rdWith.legal ∧
    ((newDecodingReader Ex.rdWith 6).read 5).1.val? = some [1, 2, 3, 4, 5] ∧
    ((newDecodingReader (flatReader Ex.rdWith.data) 6).read 5).1.val? = some [1, 2, 3, 4, 5] := by decide +kernel

/-! ## sequences of reads — what a decoder does -/

/-- plain `Read`s of sizes `ns`: the results over any legal schedule are the flat-stream answer
    `specReads`: consecutive slices of the available bytes, stopping with an error at the first
    request that leaves the scope or that the stream cannot satisfy -/
theorem C13_reads (dr : DR) (hl : dr.input.legal) (ns : List Nat) (hb : ∀ n ∈ ns, n < 2 ^ 64) :
    ((dr.reads ns).1, (dr.reads ns).2.isSome) = specReads dr.input.avail dr.i.toNat dr.max.toNat ns ∧
    (dr.reads ns).2 ≠ some .spin := by
  induction ns generalizing dr with
  | nil => simp [DR.reads, specReads]
  | cons n ns ih =>
    have hn : n < 2 ^ 64 := hb n (List.mem_cons_self ..)
    have hb' : ∀ m ∈ ns, m < 2 ^ 64 := fun m hm => hb m (List.mem_cons_of_mem _ hm)
    rw [specReads, DR.reads]
    by_cases h0 : n = 0
    · subst h0
      obtain ⟨i1, i2⟩ := ih dr hl hb'
      rw [DR.read_zero, if_pos rfl, ← i1]
      exact ⟨rfl, i2⟩
    rw [if_neg h0]
    by_cases hle : dr.i.toNat + n ≤ dr.max.toNat
    · obtain ⟨hs, hv⟩ := scopeUpdate_ok dr.i dr.max n hle
      by_cases ha : n ≤ dr.input.avail.length
      · obtain ⟨r', e1, e2⟩ := DR.read_ok dr n _ h0 hl hs ha
        obtain ⟨i1, i2⟩ := ih { input := r', i := dr.i + UInt64.ofNat n, max := dr.max } e2.legal hb'
        simp only [e2.avail, hv] at i1
        rw [e1, if_pos ⟨hle, ha⟩]
        dsimp only
        rw [← i1]
        exact ⟨rfl, i2⟩
      · obtain ⟨e, g, dr', e1⟩ := C13_read_short dr n hl hle (Nat.lt_of_not_le ha)
        rw [e1, if_neg (fun h => ha h.2)]
        exact ⟨rfl, by simp⟩
    · rw [C13_read_scope dr n h0 hn (Nat.lt_of_not_le hle), if_neg (fun h => hle h.1)]
      exact ⟨rfl, by simp⟩


/-- non-vacuity: three reads, the last one beyond what the failing stream delivers -/
example :
    (newDecodingReader Ex.rdFail 6).input.legal ∧
    ((newDecodingReader Ex.rdFail 6).reads [1, 0, 3, 2]).1 = [[1], [], [2, 3, 4]] ∧
    ((newDecodingReader Ex.rdFail 6).reads [1, 0, 3, 2]).2 = some (.err .fault) ∧
    specReads (newDecodingReader Ex.rdFail 6).input.avail 0 6 [1, 0, 3, 2] = ([[1], [], [2, 3, 4]], true) := by
  decide +kernel

/-- the request programs executed by the driver restricted to plain reads are `DR.reads` -/
theorem C13_reads_run (d : Dec) (ns : List Nat) :
    d.run (ns.map Req.read) = ((d.cur.reads ns).1.map Obs.bytes, (d.cur.reads ns).2) := by
  induction ns generalizing d with
  | nil => simp [Dec.run, DR.reads]
  | cons n ns ih =>
    simp only [List.map_cons, Dec.run, Dec.step, DR.reads]
    generalize d.cur.read n = r
    obtain ⟨res, dr'⟩ := r
    cases res with
    | ok bs => simp [FillRes.toExcept, ih]
    | err e g => simp [FillRes.toExcept]
    | spin => simp [FillRes.toExcept]

/-- full request language (raw and typed reads, nested sub-scopes, return to the parent with and
    without `UpdateIndexFromScoped`): a decoder run on `NewDecodingReader(scheduled reader, scope)`
    observes exactly what the flat specification `specRun` computes from the deliverable bytes, and
    stops with an error exactly where the specification does -/
theorem C13_prog (st : ReaderState) (scope : UInt64) (hl : st.legal) (qs : List Req) :
    ((Dec.new st scope).run qs).1 = (specRun (specNew st.data scope) qs).1 ∧
    ((Dec.new st scope).run qs).2.isSome = (specRun (specNew st.data scope) qs).2 ∧
    ((Dec.new st scope).run qs).2 ≠ some .spin := by
  have := Dec.run_spec (Dec.new st scope) (Dec.new_wf st scope hl) qs
  rw [Dec.new_abs] at this
  exact this


/-- non-vacuity: a decoder-like program with a sub-scope, complete on the EOF-with-data stream and
    stopped inside the sub-scope on the failing stream -/
example :
    Ex.rdWith.legal ∧ Ex.rdFail.legal ∧
    ((Dec.new Ex.rdWith 6).run Ex.prog) = ([.num 1, .sub, .num 84148994, .up, .num 6, .index 2 6], none) ∧
    ((Dec.new Ex.rdFail 6).run Ex.prog) = ([.num 1, .sub], some (.err .fault)) ∧
    specRun (specNew Ex.rdFail.data 6) Ex.prog = ([.num 1, .sub], true) := by decide +kernel

/-- adaptive decoders (every next request computed from the values read so far — offsets, selectors,
    lengths): same observations and same stopping point as on the flat specification -/
theorem C13_adaptive (st : ReaderState) (scope : UInt64) (hl : st.legal)
    (next : List Obs → Option Req) (fuel : Nat) :
    (Dec.runAdaptive next fuel (Dec.new st scope) []).1 = (specRunAdaptive next fuel (specNew st.data scope) []).1 ∧
    (Dec.runAdaptive next fuel (Dec.new st scope) []).2.isSome = (specRunAdaptive next fuel (specNew st.data scope) []).2 ∧
    (Dec.runAdaptive next fuel (Dec.new st scope) []).2 ≠ some .spin := by
  have := Dec.runAdaptive_spec next fuel (Dec.new st scope) (Dec.new_wf st scope hl) []
  rw [Dec.new_abs] at this
  exact this

/-- non-vacuity: length byte 1, then 1 byte -/
example : Ex.rdWith.legal ∧
    Dec.runAdaptive Ex.lenPrefixed 5 (Dec.new Ex.rdWith 6) [] = ([.num 1, .bytes [2]], none) := by decide +kernel

/-- the delivered bytes of a scheduled reader do not depend on chunk list and end mode -/
theorem C13_new_avail (bs : Bytes) (cycle : List Nat) (endm : EndMode) (k : Nat) (scope : UInt64) :
    (newDecodingReader (mkReader bs cycle endm k) scope).input.avail = (bs.take k).take (toInt64 scope).toNat ∧
    ((∀ c ∈ cycle, 1 ≤ c) → (mkReader bs cycle endm k).legal) := by
  refine ⟨rfl, fun h => ⟨by simp [mkReader], h⟩⟩

/-- chunking independence: two legal schedules delivering the same bytes give the same observations -/
theorem C13_prog_indep (st1 st2 : ReaderState) (scope : UInt64) (hl1 : st1.legal) (hl2 : st2.legal)
    (hd : st1.data = st2.data) (qs : List Req) :
    ((Dec.new st1 scope).run qs).1 = ((Dec.new st2 scope).run qs).1 ∧
    ((Dec.new st1 scope).run qs).2.isSome = ((Dec.new st2 scope).run qs).2.isSome := by
  obtain ⟨a1, a2, _⟩ := C13_prog st1 scope hl1 qs
  obtain ⟨b1, b2, _⟩ := C13_prog st2 scope hl2 qs
  rw [a1, a2, b1, b2, hd]
  exact ⟨rfl, rfl⟩


example : Ex.rdWith.legal ∧ (flatReader Ex.rdWith.data).legal ∧ Ex.rdWith.data = (flatReader Ex.rdWith.data).data ∧
    Ex.rdWith.cycle ≠ (flatReader Ex.rdWith.data).cycle ∧ Ex.rdWith.endm ≠ (flatReader Ex.rdWith.data).endm := by decide +kernel

/-- a decoder run over any legal schedule observes what it observes over the flat in-memory reader -/
theorem C13_prog_flat (st : ReaderState) (scope : UInt64) (hl : st.legal) (qs : List Req) :
    ((Dec.new st scope).run qs).1 = ((Dec.new (flatReader st.data) scope).run qs).1 ∧
    ((Dec.new st scope).run qs).2.isSome = ((Dec.new (flatReader st.data) scope).run qs).2.isSome :=
  C13_prog_indep st (flatReader st.data) scope hl (by simp [flatReader, ReaderState.legal]) rfl qs

/-! ## writing -/

/-- general writer law (any failure position, any per-call limit, with or without error on short
    writes): the accepted bytes are a prefix of the bytes offered, `Written()` is their number, an
    error is returned iff not everything was accepted, and the loop never spins -/
theorem C13_write (w : WriterState) (ps : List Bytes) (h0 : w.acc = []) :
    (ewWrites (newEncodingWriter w) ps).2.w.acc = ps.flatten.take (ewWrites (newEncodingWriter w) ps).2.written ∧
    (ewWrites (newEncodingWriter w) ps).2.written = (ewWrites (newEncodingWriter w) ps).2.w.acc.length ∧
    (ewWrites (newEncodingWriter w) ps).2.written ≤ ps.flatten.length ∧
    ((ewWrites (newEncodingWriter w) ps).1 = none ↔
      (ewWrites (newEncodingWriter w) ps).2.written = ps.flatten.length) ∧
    ((ewWrites (newEncodingWriter w) ps).1 = none ∨ ∃ e, (ewWrites (newEncodingWriter w) ps).1 = some (.err e)) := by
  obtain ⟨m, post, hacc, hcnt⟩ := ewWrites_new w ps h0
  generalize ewWrites (newEncodingWriter w) ps = r at post hacc hcnt ⊢
  generalize ps.flatten = total at post hacc ⊢
  have hle := post.le
  refine ⟨by rw [hacc, hcnt], by rw [hacc, hcnt, List.length_take_of_le hle], by rw [hcnt]; exact hle, ?_, ?_⟩
  · rw [hcnt]
    rcases post.status with ⟨h1, h2⟩ | ⟨e, h1, h2⟩
    · exact ⟨fun _ => h2, fun _ => h1⟩
    · constructor
      · intro h; rw [h] at h1; exact absurd h1 (by simp)
      · intro h; exact absurd h (Nat.ne_of_lt h2)
  · rcases post.status with ⟨h1, _⟩ | ⟨e, h1, _⟩
    · exact Or.inl h1
    · exact Or.inr ⟨e, h1⟩


/-- non-vacuity: failure at byte 9 with at most 2 bytes per call: the 4-byte slice is cut short -/
example :
    Ex.wShort.acc = [] ∧
    ewWrites (newEncodingWriter Ex.wShort) Ex.slices =
      (some (.err .short), { w := { Ex.wShort with acc := [1, 2, 3, 4, 5] }, n := 5 }) := by decide +kernel

/-- writer failing at byte `k` (no per-call limit, or short writes reported without error): an error
    iff more than `k` bytes are offered; accepted = first `k` bytes of the encoding; `Written() = min k total` -/
theorem C13_write_failAt (w : WriterState) (ps : List Bytes) (k : Nat) (h0 : w.acc = [])
    (hk : w.failAt = some k) (hx : w.cap = 0 ∨ w.lenient = true) :
    ((ewWrites (newEncodingWriter w) ps).1.isSome = true ↔ k < ps.flatten.length) ∧
    (ewWrites (newEncodingWriter w) ps).2.w.acc = ps.flatten.take k ∧
    (ewWrites (newEncodingWriter w) ps).2.written = min k ps.flatten.length := by
  obtain ⟨m, post, hacc, hcnt⟩ := ewWrites_new w ps h0
  have hm : m = min ps.flatten.length k := by
    have := post.exactSome hx k hk
    simpa only [newEncodingWriter, h0, List.length_nil, Nat.sub_zero] using this
  generalize ewWrites (newEncodingWriter w) ps = r at post hacc hcnt ⊢
  generalize ps.flatten = total at post hm hacc ⊢
  refine ⟨?_, ?_, by rw [hcnt, hm, Nat.min_comm]⟩
  · rcases post.status with ⟨h1, h2⟩ | ⟨e, h1, h2⟩
    · have hle : total.length ≤ k := by rw [← h2, hm]; exact Nat.min_le_right ..
      rw [h1]
      exact ⟨fun h => absurd h (by simp), fun h => absurd h (Nat.not_lt.mpr hle)⟩
    · have hlt : k < total.length := by
        rcases Nat.le_total total.length k with h | h
        · rw [hm, Nat.min_eq_left h] at h2; exact absurd h2 (Nat.lt_irrefl _)
        · rw [hm, Nat.min_eq_right h] at h2; exact h2
      rw [h1]
      exact ⟨fun _ => hlt, fun _ => rfl⟩
  · rw [hacc, hm]
    exact List.take_eq_take_iff.mpr (by rw [Nat.min_comm total.length k, Nat.min_assoc, Nat.min_self])


/-- non-vacuity: 7 bytes offered to a writer failing at byte 5 -/
example :
    Ex.wFail.acc = [] ∧ Ex.wFail.failAt = some 5 ∧ (Ex.wFail.cap = 0 ∨ Ex.wFail.lenient = true) ∧
    ewWrites (newEncodingWriter Ex.wFail) Ex.slices =
      (some (.err .fault), { w := { Ex.wFail with acc := [1, 2, 3, 4, 5] }, n := 5 }) := by decide +kernel

/-- a writer that never fails (and reports short writes, if any, without error) accepts everything -/
theorem C13_write_nofail (w : WriterState) (ps : List Bytes) (h0 : w.acc = [])
    (hk : w.failAt = none) (hx : w.cap = 0 ∨ w.lenient = true) :
    (ewWrites (newEncodingWriter w) ps).1 = none ∧
    (ewWrites (newEncodingWriter w) ps).2.w.acc = ps.flatten ∧
    (ewWrites (newEncodingWriter w) ps).2.written = ps.flatten.length := by
  obtain ⟨m, post, hacc, hcnt⟩ := ewWrites_new w ps h0
  have hm : m = ps.flatten.length := post.exactNone hx hk
  generalize ewWrites (newEncodingWriter w) ps = r at post hacc hcnt ⊢
  generalize ps.flatten = total at post hm hacc ⊢
  refine ⟨?_, by rw [hacc, hm, List.take_of_length_le (Nat.le_refl _)], by rw [hcnt, hm]⟩
  rcases post.status with ⟨h1, _⟩ | ⟨e, _, h2⟩
  · exact h1
  · exact absurd hm (Nat.ne_of_lt h2)


/-- non-vacuity: one byte per call, reported with a nil error: the loop continues until all is written -/
example :
    Ex.wLenient.acc = [] ∧ Ex.wLenient.failAt = none ∧ (Ex.wLenient.cap = 0 ∨ Ex.wLenient.lenient = true) ∧
    ewWrites (newEncodingWriter Ex.wLenient) Ex.slices =
      (none, { w := { Ex.wLenient with acc := [1, 2, 3, 4, 5, 6, 7] }, n := 7 }) := by decide +kernel

/-- the driver's write programs (`WriteByte`, `WriteUintN`, `WriteOffset`, raw `Write`) without a
    panicking `WriteOffset` are `ewWrites` of the little-endian bytes of the ops -/
theorem C13_write_prog (ew : EW) (os : List WOp) (bs : List Bytes) (h : os.map WOp.bytes = bs.map some) :
    ewRun ew os = (stopOutcome (ewWrites ew bs).1, (ewWrites ew bs).2) := by
  induction os generalizing ew bs with
  | nil =>
    cases bs with
    | nil => simp [ewRun, ewWrites, stopOutcome]
    | cons b bs => simp at h
  | cons o os ih =>
    cases bs with
    | nil => simp at h
    | cons b bs =>
      simp only [List.map_cons, List.cons.injEq] at h
      obtain ⟨h1, h2⟩ := h
      rw [ewRun, EW.op_bytes, h1]
      simp only [Option.map]
      rw [ewWrites]
      generalize ew.write b = r
      obtain ⟨s, ew'⟩ := r
      cases s with
      | none => simp only; exact ih ew' bs h2
      | some st =>
        cases st with
        | err e => simp [stopOutcome]
        | spin => simp [stopOutcome]


example :
    [WOp.byte 7, .offset 12 1, .u16 513].map WOp.bytes = [[7], [13, 0, 0, 0], [1, 2]].map some ∧
    ewRun (newEncodingWriter Ex.wFail) [.byte 7, .offset 12 1, .u16 513] =
      (.err, { w := { Ex.wFail with acc := [7, 13, 0, 0, 0] }, n := 5 }) := by decide +kernel

end ZtypV.Props.C13
