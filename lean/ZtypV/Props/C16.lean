/-
C16 — Generalized-index and bit-length arithmetic is exact.

All theorems are about the executable model `ZtypV.Bits64.*` (`Model/Bits64.lean`, the
functions the driver runs for the correspondence check against `/repo/tree/bitlen.go` and
`/repo/tree/gindex.go`) and hold for ALL 64-bit inputs; `g`/`n` below is `v.toNat`.
-/
import ZtypV.Proofs.Bits64
namespace ZtypV.Props.C16
open ZtypV ZtypV.Bits64

/-! ## bitlen.go -/

/-- `BitIndex(v) = ⌊log2 v⌋` for `v ≠ 0`, and `0` for `v = 0`. -/
theorem bitIndex_spec (v : UInt64) :
    (bitIndex v).toNat = if v = 0 then 0 else Nat.log2 v.toNat := by
  split
  · rename_i h; subst h; rfl
  · exact bitIndex_toNat v

/-- `BitIndex(v) = ⌊log2 v⌋` without the case split, since `Nat.log2 0 = 0` -/
theorem bitIndex_eq_log2 (v : UInt64) : (bitIndex v).toNat = Nat.log2 v.toNat :=
  bitIndex_toNat v

/-- `BitIndex` is the position of the highest set bit: `2^i ≤ v < 2^(i+1)`. -/
theorem bitIndex_bounds (v : UInt64) (hv : v ≠ 0) :
    2 ^ (bitIndex v).toNat ≤ v.toNat ∧ v.toNat < 2 ^ ((bitIndex v).toNat + 1) := by
  rw [bitIndex_toNat]
  exact ⟨Nat.log2_self_le (mt toNat_eq_zero.mp hv), Nat.lt_log2_self⟩

/-- `BitLength(v) = ⌊log2 v⌋ + 1` for `v ≠ 0`, and `0` for `v = 0`. -/
theorem bitLength_spec (v : UInt64) :
    (bitLength v).toNat = if v = 0 then 0 else Nat.log2 v.toNat + 1 := by
  split
  · rename_i h; subst h; rfl
  · rename_i h; exact bitLength_toNat h

/-- `BitLength(v)` is the least number of bits that can hold `v`. -/
theorem bitLength_le_iff (v : UInt64) (d : Nat) : (bitLength v).toNat ≤ d ↔ v.toNat < 2 ^ d := by
  by_cases h : v = 0
  · subst h
    have : 0 < 2 ^ d := Nat.two_pow_pos d
    simpa [show bitLength 0 = 0 from rfl] using this
  · rw [bitLength_toNat h, ← Nat.log2_lt (mt toNat_eq_zero.mp h)]; exact Nat.succ_le_iff

/-- `CoverDepth(v) = ⌈log2 v⌉`: `0` for `v ≤ 1`, else `⌊log2 (v-1)⌋ + 1`. -/
theorem coverDepth_spec (v : UInt64) :
    (Bits64.coverDepth v).toNat = if v.toNat ≤ 1 then 0 else Nat.log2 (v.toNat - 1) + 1 := by
  unfold Bits64.coverDepth
  by_cases h0 : v = 0
  · subst h0; rfl
  by_cases h1 : v = 1
  · subst h1; rfl
  have hn0 := mt toNat_eq_zero.mp h0
  have hn1 : v.toNat ≠ 1 := mt (UInt64.toNat_inj (b := 1)).mp h1
  rw [if_neg (fun h => ((Bool.or_eq_true _ _).mp h).elim (beq_zero_false h0) (h1 ∘ eq_of_beq)),
    if_neg (fun h => (Nat.le_one_iff_eq_zero_or_eq_one.mp h).elim hn0 hn1), bitIndex_succ_toNat,
    toNat_sub_one h0]

/-- the machine-integer `CoverDepth` is the `Nat` function used by the other models -/
theorem coverDepth_eq_basic (v : UInt64) : (Bits64.coverDepth v).toNat = ZtypV.coverDepth v.toNat :=
  coverDepth_spec v

/-- `CoverDepth(v)` is the least `d` with `v ≤ 2^d` (for every `d`, in particular `d ≤ 64`). -/
theorem coverDepth_le_iff (v : UInt64) (d : Nat) : (Bits64.coverDepth v).toNat ≤ d ↔ v.toNat ≤ 2 ^ d := by
  rw [coverDepth_spec]
  split
  · rename_i h
    exact ⟨fun _ => Nat.le_trans h Nat.one_le_two_pow, fun _ => Nat.zero_le d⟩
  · rename_i h
    have h1 : 1 < v.toNat := Nat.lt_of_not_le h
    rw [Nat.succ_le_iff, Nat.log2_lt (Nat.sub_ne_zero_of_lt h1),
      Nat.sub_lt_iff_lt_add (Nat.le_of_lt h1), Nat.lt_succ_iff]

example : (bitIndex 0x8000000000000000).toNat = 63 ∧ (bitLength 0xFFFFFFFFFFFFFFFF).toNat = 64
    ∧ (Bits64.coverDepth 0xFFFFFFFFFFFFFFFF).toNat = 64 ∧ (Bits64.coverDepth 9).toNat = 4 := by decide +kernel

/-! ## gindex.go : navigation -/

/-- `Left` is `2g` when the child is representable (`g < 2^63`). -/
theorem left_spec (v : UInt64) (h : v.toNat < 2 ^ 63) : (left v).toNat = 2 * v.toNat := by
  unfold left; rw [shl64_toNat_of_lt h (Nat.le_refl 64), Nat.pow_one, Nat.mul_comm]

/-- `Left` is `2g mod 2^64` in general: it wraps silently from `g = 2^63` on. -/
theorem left_wrap (v : UInt64) : (left v).toNat = 2 * v.toNat % 2 ^ 64 := by
  unfold left; rw [shl64_toNat, Nat.mul_comm]

/-- `Right` is `2g+1` when representable. -/
theorem right_spec (v : UInt64) (h : v.toNat < 2 ^ 63) : (right v).toNat = 2 * v.toNat + 1 := by
  unfold right
  rw [← left, UInt64.toNat_or, left_spec v h, UInt64.toNat_one]
  exact (Nat.two_pow_add_eq_or_of_lt (i := 1) (by decide) v.toNat).symm

/-- `Parent` is `⌊g/2⌋`. -/
theorem parent_spec (v : UInt64) : (parent v).toNat = v.toNat / 2 := by
  unfold parent; rw [shr64_toNat]

/-- children and parent are inverse to each other -/
theorem parent_left_right (v : UInt64) (h : v.toNat < 2 ^ 63) :
    parent (left v) = v ∧ parent (right v) = v := by
  constructor <;> apply UInt64.toNat_inj.mp
  · rw [parent_spec, left_spec v h]; exact Nat.mul_div_cancel_left _ (by decide)
  · rw [parent_spec, right_spec v h, Nat.mul_add_div (by decide)]; rfl

theorem isRoot_spec (v : UInt64) : isRoot v = true ↔ v.toNat = 1 := by
  unfold isRoot
  rw [beq_iff_eq, ← UInt64.toNat_inj]; rfl

/-- `IsClose` is `g ≤ 3`: true for 2 and 3 (the doc comment), but ALSO for the root 1
    (and for the invalid index 0). -/
theorem isClose_spec (v : UInt64) : isClose v = true ↔ v.toNat ≤ 3 := by
  unfold isClose
  rw [decide_eq_true_iff, UInt64.le_iff_toNat_le]; rfl

/-- `Depth = ⌊log2 g⌋`. -/
theorem depth_spec (v : UInt64) : (depth v).toNat = Nat.log2 v.toNat := by
  unfold depth; rw [UInt8.toNat_toUInt32, bitIndex_toNat]

/-- `Anchor = 2^depth`. -/
theorem anchor_spec (v : UInt64) : (anchor v).toNat = 2 ^ Nat.log2 v.toNat :=
  anchor_toNat v

/-- `IsLeft` for `g ≥ 2`: the bit right below the leading one is 0. -/
theorem isLeft_spec (v : UInt64) (h : 2 ≤ v.toNat) :
    isLeft v = true ↔ v.toNat.testBit (Nat.log2 v.toNat - 1) = false := by
  unfold isLeft
  rw [beq_iff_eq, ← UInt64.toNat_inj, UInt64.toNat_and, pivot_toNat h]
  exact and_two_pow_eq_zero_iff _ _

/-- `Subtree` for `g ≥ 2`: the first step below the root is dropped — the anchor moves one
    level down and the remaining path bits are kept. -/
theorem subtree_spec (v : UInt64) (h : 2 ≤ v.toNat) :
    (subtree v).toNat
      = 2 ^ (Nat.log2 v.toNat - 1) + v.toNat % 2 ^ (Nat.log2 v.toNat - 1) := by
  have hv0 : v.toNat ≠ 0 := Nat.ne_of_gt (Nat.lt_of_lt_of_le (by decide) h)
  have hl := one_le_log2 h
  unfold subtree
  rw [UInt64.toNat_or, UInt64.toNat_xor, pivot_toNat h, anchor_toNat]
  have htop := Nat.testBit_log2 hv0
  have hlt := Nat.lt_log2_self (n := v.toNat)
  generalize Nat.log2 v.toNat = L at *
  obtain ⟨P, rfl⟩ : ∃ P, L = P + 1 := ⟨L - 1, (Nat.sub_add_cancel hl).symm⟩
  rw [Nat.add_sub_cancel]
  have hsum := Nat.two_pow_add_eq_or_of_lt (Nat.mod_lt v.toNat (Nat.two_pow_pos P)) 1
  rw [Nat.mul_one] at hsum
  rw [hsum]
  -- bit by bit: below `P = L-1` both sides are `v`, bit `P` is set, the leading one at `P+1`
  -- is cancelled by the xor, and above it everything is 0
  apply Nat.eq_of_testBit_eq
  intro i
  simp only [Nat.testBit_or, Nat.testBit_xor, Nat.testBit_two_pow, Nat.testBit_mod_two_pow]
  rcases Nat.lt_trichotomy i P with h1 | rfl | h1
  · simp [h1, Nat.ne_of_gt h1, Nat.ne_of_gt (Nat.lt_succ_of_lt h1)]
  · simp
  · by_cases h3 : P + 1 = i
    · subst h3
      simp [htop]
    · have hhi : v.toNat.testBit i = false :=
        Nat.testBit_lt_two_pow (Nat.lt_of_lt_of_le hlt
          (Nat.pow_le_pow_right (by decide) (Nat.lt_of_le_of_ne h1 h3)))
      simp [hhi, h3, Nat.ne_of_lt h1, Nat.lt_asymm h1]

/-- `Subtree` is one level shallower -/
theorem subtree_depth (v : UInt64) (h : 2 ≤ v.toNat) :
    (depth (subtree v)).toNat = (depth v).toNat - 1 := by
  rw [depth_spec, depth_spec, subtree_spec v h]
  exact log2_two_pow_add (Nat.mod_lt _ (Nat.two_pow_pos _))

/-- the bit path of `Subtree(g)` is the tail of the bit path of `g` -/
theorem subtree_path (v : UInt64) (h : 2 ≤ v.toNat) :
    (List.range (Nat.log2 (subtree v).toNat)).reverse.map (subtree v).toNat.testBit
      = ((List.range (Nat.log2 v.toNat)).reverse.map v.toNat.testBit).tail := by
  have hd := subtree_depth v h
  rw [depth_spec, depth_spec] at hd
  have hl := one_le_log2 h
  rw [hd, subtree_spec v h]
  obtain ⟨L, hL⟩ : ∃ L, Nat.log2 v.toNat = L + 1 := ⟨_, (Nat.sub_add_cancel hl).symm⟩
  rw [hL, Nat.add_sub_cancel, List.range_succ, List.reverse_append, List.reverse_singleton,
    List.singleton_append, List.map_cons, List.tail_cons]
  apply List.map_congr_left
  intro i hi
  have hi' : i < L := List.mem_range.mp (List.mem_reverse.mp hi)
  rw [Nat.testBit_two_pow_add_gt hi', Nat.testBit_mod_two_pow]
  simp [hi']

example : isLeft 5 = true ∧ subtree 5 = 3 ∧ subtree 6 = 2 ∧ anchor 6 = 4 ∧ depth 6 = 2
    ∧ isClose 1 = true := by decide +kernel

/-! ## bit iterator -/

/-- `BitIter()` returns depth `⌊log2 g⌋`. -/
theorem bitIter_depth (v : UInt64) : (bitIter v).2.toNat = Nat.log2 v.toNat := by
  exact depth_spec v

/-- The first `depth` calls of `Next` return, most significant first, exactly the bits of `g`
    after the leading one, each with `ok = true`; every later call returns `ok = false`. -/
theorem bitIter_nexts (v : UInt64) (m : Nat) :
    (bitIter v).1.nexts (Nat.log2 v.toNat + m) =
      ((List.range (Nat.log2 v.toNat)).reverse.map fun i => (v.toNat.testBit i, true))
        ++ List.replicate m (false, false) :=
  (nexts_live _ m _ v (anchor_toNat v)).1

/-- The marker is 0 from the first failing call of `Next` on. -/
theorem bitIter_exhausted (v : UInt64) (m : Nat) (hm : m ≠ 0) :
    ((bitIter v).1.after (Nat.log2 v.toNat + m)).marker = 0 :=
  (nexts_live _ m _ v (anchor_toNat v)).2 hm

example : (bitIter 0b1011).1.nexts 5
    = [(false, true), (true, true), (true, true), (false, false), (false, false)] := by decide +kernel

/-! ## position → index -/

/-- `ToGindex64` rejects exactly the unrepresentable pairs and otherwise returns `2^d + i`;
    it never panics. -/
theorem toGindex64_spec (i : UInt64) (d : UInt8) :
    toGindex64 i d =
      if d.toNat < 64 ∧ i.toNat < 2 ^ d.toNat then .ok (UInt64.ofNat (2 ^ d.toNat + i.toNat))
      else .error .err := by
  unfold toGindex64
  by_cases hd : d.toNat < 64
  · have ha := shl64_one_toNat hd
    have hge : i ≥ shl64 1 d.toNat ↔ 2 ^ d.toNat ≤ i.toNat := by
      rw [← ha]; exact UInt64.le_iff_toNat_le
    rw [if_neg (UInt8.not_le.mpr (UInt8.lt_iff_toNat_lt.mpr hd))]
    dsimp only
    by_cases hi : i.toNat < 2 ^ d.toNat
    · rw [if_neg (mt hge.mp (Nat.not_le_of_lt hi)), if_pos ⟨hd, hi⟩]
      -- the anchor bit is above every bit of `i`, so `|` adds
      have hor := Nat.two_pow_add_eq_or_of_lt hi 1
      rw [Nat.mul_one] at hor
      congr 1
      apply UInt64.toNat_inj.mp
      rw [UInt64.toNat_or, ha, UInt64.toNat_ofNat_of_lt' (two_pow_add_lt hd hi), hor]
    · rw [if_pos (hge.mpr (Nat.le_of_not_lt hi)), if_neg (fun h => hi h.2)]
  · rw [if_pos (UInt8.le_iff_toNat_le.mpr (Nat.le_of_not_lt hd)), if_neg (fun h => hd h.1)]

theorem toGindex64_ok_iff (i : UInt64) (d : UInt8) :
    (∃ g, toGindex64 i d = .ok g) ↔ d.toNat < 64 ∧ i.toNat < 2 ^ d.toNat := by
  rw [toGindex64_spec]
  split
  · rename_i h; exact ⟨fun _ => h, fun _ => ⟨_, rfl⟩⟩
  · rename_i h; exact ⟨fun ⟨g, hg⟩ => (by cases hg), fun h' => absurd h' h⟩

theorem toGindex64_val (i : UInt64) (d : UInt8) (g : UInt64) (h : toGindex64 i d = .ok g) :
    g.toNat = 2 ^ d.toNat + i.toNat ∧ Nat.log2 g.toNat = d.toNat := by
  rw [toGindex64_spec] at h
  split at h
  · rename_i hc
    cases h
    rw [UInt64.toNat_ofNat_of_lt' (two_pow_add_lt hc.1 hc.2)]
    exact ⟨rfl, log2_two_pow_add hc.2⟩
  · cases h

example : toGindex64 5 3 = .ok 13 ∧ toGindex64 8 3 = .error .err
    ∧ toGindex64 0 64 = .error .err ∧ toGindex64 0x7FFFFFFFFFFFFFFF 63 = .ok 0xFFFFFFFFFFFFFFFF := by
  refine ⟨?_, ?_, ?_, ?_⟩ <;> rfl

/-! ## byte encodings -/

theorem littleEndian_zero : littleEndian 0 = .ok [] := rfl
theorem bigEndian_zero : bigEndian 0 = .ok [] := rfl
theorem leftAligned_zero : leftAlignedBigEndian 0 = .ok ([], 0) := rfl

/-- `LittleEndian` (v ≠ 0): no panic; the result is the little-endian encoding in exactly
    `⌊log2 v / 8⌋ + 1` bytes. -/
theorem littleEndian_spec (v : UInt64) (hv : v ≠ 0) :
    littleEndian v = .ok (leBytes (Nat.log2 v.toNat / 8 + 1) v.toNat) := by
  have hq : Nat.log2 v.toNat / 8 < 8 := Nat.div_lt_of_lt_mul (log2_lt_64 v)
  have hs := lenSteps_snd hv 1 1 (d1 := 1) (d2 := 2) (d4 := 4) rfl rfl rfl
  generalize Nat.log2 v.toNat / 8 = q at *
  rw [Int.one_mul, Int.add_comm, ← Int.natCast_add_one] at hs
  unfold littleEndian
  rw [if_neg (beq_zero_false hv)]
  dsimp only
  rw [hs, putLE64_eq, sliceTo_natCast (by rw [leBytes_length]; exact hq),
    take_leBytes _ _ _ hq]

/-- The output of `LittleEndian` decodes back to `v`, and no shorter byte string does. -/
theorem littleEndian_roundtrip_minimal (v : UInt64) (hv : v ≠ 0) :
    ∃ bs, littleEndian v = .ok bs ∧ bs.length = Nat.log2 v.toNat / 8 + 1 ∧ leNat bs = v.toNat
      ∧ ∀ bs' : Bytes, leNat bs' = v.toNat → bs.length ≤ bs'.length := by
  refine ⟨_, littleEndian_spec v hv, leBytes_length _ _, leNat_leBytes_byteLen _, ?_⟩
  intro bs' h'
  rw [leBytes_length, ← h']
  exact byteLen_le_length (h' ▸ mt toNat_eq_zero.mp hv)

/-- `BigEndian` (v ≠ 0): the same bytes in reverse order. -/
theorem bigEndian_spec (v : UInt64) (hv : v ≠ 0) :
    bigEndian v = .ok (leBytes (Nat.log2 v.toNat / 8 + 1) v.toNat).reverse := by
  have hq : Nat.log2 v.toNat / 8 ≤ 7 := Nat.le_of_lt_succ (Nat.div_lt_of_lt_mul (log2_lt_64 v))
  have hs := lenSteps_snd hv 7 (-1) (d1 := -1) (d2 := -2) (d4 := -4) rfl rfl rfl
  generalize Nat.log2 v.toNat / 8 = q at *
  rw [Int.neg_mul, Int.one_mul, ← Int.sub_eq_add_neg] at hs
  -- the slice starts at `7 - q` and keeps `q + 1` bytes
  have hk : q + 1 + (7 - q) = 8 :=
    (Nat.add_right_comm q 1 _).trans (congrArg (· + 1) (Nat.add_sub_cancel' hq))
  unfold bigEndian
  rw [if_neg (beq_zero_false hv)]
  dsimp only
  rw [hs.trans (Int.ofNat_sub hq).symm, putBE64_eq, sliceFrom_natCast
      (by rw [List.length_reverse, leBytes_length]; exact Nat.le_trans (Nat.sub_le 7 q) (by decide)),
    drop_reverse_leBytes _ hk]

theorem bigEndian_roundtrip_minimal (v : UInt64) (hv : v ≠ 0) :
    ∃ bs, bigEndian v = .ok bs ∧ bs.length = Nat.log2 v.toNat / 8 + 1 ∧ beNat bs = v.toNat
      ∧ ∀ bs' : Bytes, beNat bs' = v.toNat → bs.length ≤ bs'.length := by
  refine ⟨_, bigEndian_spec v hv, by rw [List.length_reverse, leBytes_length], ?_, ?_⟩
  · rw [beNat_reverse]; exact leNat_leBytes_byteLen _
  · intro bs' h'
    rw [beNat_eq_leNat_reverse] at h'
    rw [List.length_reverse, leBytes_length, ← h', ← List.length_reverse (as := bs')]
    exact byteLen_le_length (h' ▸ mt toNat_eq_zero.mp hv)

/-- `LeftAlignedBigEndian` (v ≠ 0): `bitLen = ⌊log2 v⌋ + 1`, `⌈bitLen/8⌉` bytes, holding
    (big-endian) `v` shifted left by the padding `8·len − bitLen`. -/
theorem leftAligned_spec (v : UInt64) (hv : v ≠ 0) :
    leftAlignedBigEndian v =
      .ok ((leBytes ((Nat.log2 v.toNat + 8) / 8)
              (v.toNat * 2 ^ (8 * ((Nat.log2 v.toNat + 8) / 8) - (Nat.log2 v.toNat + 1)))).reverse,
           UInt32.ofNat (Nat.log2 v.toNat + 1)) := by
  have hL := log2_lt_64 v
  have hbl := bitLength_toNat hv
  have hlt := Nat.lt_log2_self (n := v.toNat)
  generalize Nat.log2 v.toNat = L at *
  -- `uint8` arithmetic: neither `64 - bitLen8` nor `bitLen8 + 7` wraps
  have hsub : ((64 : UInt8) - bitLength v).toNat = 64 - (L + 1) := by
    rw [UInt8.toNat_sub_of_le _ _ (UInt8.le_iff_toNat_le.mpr (by rw [hbl]; exact hL)), hbl]
    rfl
  have hlen : ((bitLength v + 7) >>> 3).toNat = (L + 8) / 8 := by
    rw [UInt8.toNat_shiftRight, UInt8.toNat_add, hbl, Nat.shiftRight_eq_div_pow]
    show (L + 8) % 256 / 8 = _
    rw [Nat.mod_eq_of_lt (Nat.lt_trans (Nat.add_lt_add_right hL 8) (by decide))]
  have hbl32 : (bitLength v).toUInt32 = UInt32.ofNat (L + 1) := by
    rw [← UInt32.toNat_inj, UInt8.toNat_toUInt32, hbl, UInt32.toNat_ofNat']
    exact (Nat.mod_eq_of_lt (Nat.lt_of_le_of_lt hL (by decide))).symm
  obtain ⟨pad, j, hp, hk, he⟩ := leftAlign_layout hL
  generalize (L + 8) / 8 = k at *
  unfold leftAlignedBigEndian
  rw [if_neg (beq_zero_false hv)]
  dsimp only
  -- the shift puts the leading one at bit 63 and loses nothing
  rw [hsub, hlen, hbl32, putBE64_eq,
    shl64_toNat_of_lt hlt (Nat.le_of_eq (Nat.add_sub_cancel' hL)),
    sliceTo_natCast (by rw [List.length_reverse, leBytes_length, ← hk]; exact Nat.le_add_right k j)]
  dsimp only
  rw [take_reverse_leBytes _ hk, hp, Nat.add_sub_cancel_left, mul_two_pow_div_256_pow _ he]

/-- The output of `LeftAlignedBigEndian` has length `(bitLen+7)/8`, the leading one of `v` is the
    top bit of its first byte, and shifting the padding back out returns `v`. -/
theorem leftAligned_roundtrip (v : UInt64) (hv : v ≠ 0) :
    ∃ bs bl, leftAlignedBigEndian v = .ok (bs, bl) ∧ bl.toNat = Nat.log2 v.toNat + 1
      ∧ bs.length = (bl.toNat + 7) / 8
      ∧ 2 ^ (8 * bs.length - 1) ≤ beNat bs
      ∧ beNat bs / 2 ^ (8 * bs.length - bl.toNat) = v.toNat := by
  have hL := log2_lt_64 v
  have hlo := Nat.log2_self_le (mt toNat_eq_zero.mp hv)
  have hbl : (UInt32.ofNat (Nat.log2 v.toNat + 1)).toNat = Nat.log2 v.toNat + 1 := by
    rw [UInt32.toNat_ofNat']; exact Nat.mod_eq_of_lt (Nat.lt_of_le_of_lt hL (by decide))
  refine ⟨_, _, leftAligned_spec v hv, hbl, ?_⟩
  obtain ⟨pad, -, hp, -, -⟩ := leftAlign_layout hL
  rw [List.length_reverse, leBytes_length, hbl, beNat_reverse,
    leNat_leBytes_of_lt (mul_two_pow_lt_256_pow Nat.lt_log2_self (hp ▸ Nat.le_add_right _ _))]
  generalize Nat.log2 v.toNat = L at *
  refine ⟨rfl, ?_, Nat.mul_div_cancel _ (Nat.two_pow_pos _)⟩
  generalize (L + 8) / 8 = k at *
  -- `2^L ≤ v`, both sides shifted up by the padding
  rw [hp, Nat.add_sub_cancel_left, Nat.add_right_comm, Nat.add_sub_cancel, Nat.pow_add]
  exact Nat.mul_le_mul_right _ hlo

example : littleEndian 0x1234 = .ok [0x34, 0x12] ∧ bigEndian 0x1234 = .ok [0x12, 0x34]
    ∧ leftAlignedBigEndian 0x1234 = .ok ([0x91, 0xa0], 13)
    ∧ bigEndian 0xFFFFFFFFFFFFFFFF = .ok [255, 255, 255, 255, 255, 255, 255, 255] := by
  refine ⟨?_, ?_, ?_, ?_⟩ <;> rfl

/-! ## the hypotheses are satisfiable (instances on concrete inputs) -/

example := bitIndex_bounds 0xdeadbeef (by decide)
example := left_spec 0x7FFFFFFFFFFFFFFF (by decide)
example := right_spec 0x7FFFFFFFFFFFFFFF (by decide)
example := parent_left_right 12345 (by decide)
example := isLeft_spec 0xFFFFFFFFFFFFFFFF (by decide)
example := subtree_spec 0xFFFFFFFFFFFFFFFF (by decide)
example := subtree_depth 6 (by decide)
example := subtree_path 6 (by decide)
example := bitIter_exhausted 11 1 (by decide)
example := toGindex64_val 5 3 13 rfl
example := littleEndian_spec 0x1234 (by decide)
example := littleEndian_roundtrip_minimal 0x1234 (by decide)
example := bigEndian_spec 0x1234 (by decide)
example := bigEndian_roundtrip_minimal 0x1234 (by decide)
example := leftAligned_spec 0x1234 (by decide)
example := leftAligned_roundtrip 0x1234 (by decide)

end ZtypV.Props.C16
