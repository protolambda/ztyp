/-
C10 — Flat codec decoding is canonical and panic-free.

Model: `ZtypV.Flat.flatDecode` (Model/Flat.lean): the composition of the models of the codec
helpers `DecodingReader.Vector/List/BitVector/BitList/ByteVector/ByteList/FixedLenContainer/
Container/Union`, `tree.ReadRoots/ReadRootsLimited`, `(*Root).Deserialize` and the basic values'
`Deserialize`, by the recipe of harness/flat.go, over the reader model `DR` (Model/Decode.lean).
`prior` is what the destination struct held before (any value; `Val.none` = zero struct).
Spec: `hasType`, `serialize`, `Valid` (Spec.lean).

Proved here, all at full strength (every type of the family, every prior destination content,
every byte string, no size bound):
* `C10_no_panic`, `C10_no_panic_reader`, `C10_total` — no panic outcome of the model is reachable
  (this needs no well-formedness hypothesis at all);
* `C10_sound` — a variable-size top-level type yields a value only if the input is the SSZ
  encoding of that value and the value is well-typed; `C10_valid`, `C10_rejects_invalid`;
* `C10_sound_reader` — the master statement on an arbitrary reader state (any `i`, `max`,
  stream): the decoder consumed exactly its share of the stream;
* `C10_reencode` — the accepted value re-encodes (model of the encoder composition) to exactly
  the input (inputs below 2^32 bytes: `WriteOffset` panics beyond);
* `C10_bitlistCheck_agrees`, `C10_bitvectorCheck_agrees` — the bit-field checks of the model (on
  naturals) accept exactly what the machine-integer model of package `bitfields` (C18) accepts;
* `C10_fixed_top` — what happens for a fixed-size top level (outside the property: the caller
  decides the scope): a plain read of the type's size, trailing bytes are not looked at.
-/
import ZtypV.Proofs.FlatSound
import ZtypV.Proofs.FlatEnc
import ZtypV.Proofs.FlatBitfields
namespace ZtypV.Props.C10
open ZtypV ZtypV.View ZtypV.Flat ZtypV.FlatProofs

/-! ### 1. panic freedom and totality -/

/-- decoding any byte string into any destination never panics -/
theorem C10_no_panic (t : Ty) (prior : Val) (bs : Bytes) :
    flatDecode t prior (DR.new bs bs.length) ≠ .error .panic :=
  flatDecode_noPanic t prior _

/-- no panic from an arbitrary reader state (any `i`, `max`, stream) -/
theorem C10_no_panic_reader (t : Ty) (prior : Val) (dr : DR) :
    flatDecode t prior dr ≠ .error .panic :=
  flatDecode_noPanic t prior dr

/-- decoding either yields a value or fails with a (non-panic) error -/
theorem C10_total (t : Ty) (prior : Val) (bs : Bytes) :
    (∃ r, flatDecode t prior (DR.new bs bs.length) = .ok r) ∨
    (∃ e, flatDecode t prior (DR.new bs bs.length) = .error e ∧ e ≠ .panic) := by
  cases hd : flatDecode t prior (DR.new bs bs.length) with
  | ok r => exact Or.inl ⟨r, rfl⟩
  | error e =>
    refine Or.inr ⟨e, rfl, ?_⟩
    intro he; subst he
    exact C10_no_panic t prior bs hd

/-! ### 2. soundness: a value is returned only for valid encodings, and it is the encoded value -/

/-- Master statement on an arbitrary reader: a successful decoder consumed exactly `need t dr`
    bytes of the stream (its whole scope `max - i` for a variable-size type, its fixed size
    otherwise), these bytes are the encoding of the returned value, the value is well-typed. -/
theorem C10_sound_reader (t : Ty) (hw : t.wf = true) (prior : Val) (dr dr' : DR) (v : Val)
    (h : flatDecode t prior dr = .ok (v, dr')) :
    hasType t v = true ∧ serialize t v = dr.avail.take (need t dr) ∧
      need t dr ≤ dr.avail.length ∧ dr'.avail = dr.avail.drop (need t dr) :=
  flatDecode_sound t hw prior dr v dr' h

/-- Top level with a variable-size type (the library decides every scope): the value is
    well-typed and its SSZ encoding is exactly the input — for every prior destination content. -/
theorem C10_sound (t : Ty) (hw : t.wf = true) (hvar : t.isFixed = false) (prior : Val)
    (bs : Bytes) (v : Val) (dr' : DR)
    (h : flatDecode t prior (DR.new bs bs.length) = .ok (v, dr')) :
    hasType t v = true ∧ serialize t v = bs := by
  obtain ⟨hx, hser, _, _⟩ := flatDecode_sound t hw prior _ _ _ h
  rw [need_var hvar, new_scope, new_avail, List.take_length] at hser
  exact ⟨hx, hser⟩

/-- a value is yielded only for valid SSZ encodings of the type -/
theorem C10_valid (t : Ty) (hw : t.wf = true) (hvar : t.isFixed = false) (prior : Val)
    (bs : Bytes) (r : Val × DR) (h : flatDecode t prior (DR.new bs bs.length) = .ok r) :
    Valid t bs := by
  obtain ⟨v, dr'⟩ := r
  obtain ⟨hv, hs⟩ := C10_sound t hw hvar prior bs v dr' h
  exact ⟨v, hv, hs⟩

/-- contrapositive: everything that is not a valid encoding fails with an error -/
theorem C10_rejects_invalid (t : Ty) (hw : t.wf = true) (hvar : t.isFixed = false) (prior : Val)
    (bs : Bytes) (hinv : ¬ Valid t bs) :
    ∃ e, flatDecode t prior (DR.new bs bs.length) = .error e ∧ e ≠ .panic := by
  rcases C10_total t prior bs with ⟨r, hr⟩ | he
  · exact absurd (C10_valid t hw hvar prior bs r hr) hinv
  · exact he

/-- the accepted value re-encodes to exactly the input -/
theorem C10_reencode (t : Ty) (hw : t.wf = true) (hvar : t.isFixed = false) (prior : Val)
    (bs : Bytes) (hlen : bs.length < 2 ^ 32) (v : Val) (dr' : DR)
    (h : flatDecode t prior (DR.new bs bs.length) = .ok (v, dr')) :
    flatEncode t v = .ok bs ∧ flatByteLength t v = bs.length := by
  obtain ⟨hv, hs⟩ := C10_sound t hw hvar prior bs v dr' h
  have := flatEncode_correct t v hw hv (by rw [hs]; exact hlen)
  rw [hs] at this
  exact this

/-- the result does not depend on what the destination held before -/
theorem C10_prior_independent (t : Ty) (hw : t.wf = true) (hvar : t.isFixed = false)
    (p q : Val) (bs : Bytes) (v w : Val) (d1 d2 : DR)
    (h1 : flatDecode t p (DR.new bs bs.length) = .ok (v, d1))
    (h2 : flatDecode t q (DR.new bs bs.length) = .ok (w, d2)) :
    serialize t v = serialize t w := by
  rw [(C10_sound t hw hvar p bs v d1 h1).2, (C10_sound t hw hvar q bs w d2 h2).2]

/-- Outside the property (fixed-size top level, the caller decides the scope): the decoder is
    a plain read of the type's size; bytes beyond it are not looked at. -/
theorem C10_fixed_top (t : Ty) (hw : t.wf = true) (hfix : t.isFixed = true) (prior : Val)
    (bs : Bytes) (v : Val) (dr' : DR)
    (h : flatDecode t prior (DR.new bs bs.length) = .ok (v, dr')) :
    hasType t v = true ∧ serialize t v = bs.take t.fixedSize ∧ t.fixedSize ≤ bs.length := by
  obtain ⟨hx, hser, hle, _⟩ := flatDecode_sound t hw prior _ _ _ h
  rw [need_fixed hfix, new_avail] at hser hle
  exact ⟨hx, hser, hle⟩

/-! ### 3. the bit-field checks are those of package `bitfields` (the model of property C18) -/

/-- `DecodingReader.BitList` ends with `bitfields.BitlistCheck`: the check on naturals used by
    `flatDecode` accepts exactly what the machine-integer model of C18 accepts -/
theorem C10_bitlistCheck_agrees (b : Bytes) (lim : Nat) (hb : b.length < 2 ^ 64) (hl : lim < 2 ^ 64) :
    Flat.bitlistCheck b lim = true ↔ Bitfields.bitlistCheck b (UInt64.ofNat lim) = .ok () := by
  rw [bitlistCheck_iff, Bitfields.bitlistCheck_ok_iff b _ hb, Bitfields.u64_ofNat hl]
  rfl

/-- `DecodingReader.BitVector` ends with `bitfields.BitvectorCheck` -/
theorem C10_bitvectorCheck_agrees (b : Bytes) (n : Nat) (hb : b.length < 2 ^ 64) (hn : n + 7 < 2 ^ 64) :
    Flat.bitvectorCheck b n = true ↔ Bitfields.bitvectorCheck b (UInt64.ofNat n) = .ok () := by
  have hn' : n < 2 ^ 64 := by omega
  rw [bitvectorCheck_iff, Bitfields.bitvectorCheck_ok_iff b _ hb (by rw [Bitfields.u64_ofNat hn']; exact hn),
    Bitfields.u64_ofNat hn']

example : Flat.bitlistCheck [0xa3, 0x01] 8 = true := by decide
example : Flat.bitvectorCheck [0xff, 0x01] 9 = true := by decide

/-! ### 4. non-vacuity -/

/-- the hypotheses of `C10_sound` are satisfiable on a nested type, fresh and used destination -/
example : Ex.T.wf = true ∧ Ex.T.isFixed = false := by decide
example : ∃ r, flatDecode Ex.T Val.none (DR.new Ex.enc Ex.enc.length) = .ok r :=
  Ex.isOk_ex (by decide +kernel)
example : ∃ r, flatDecode Ex.T Ex.prior (DR.new Ex.enc Ex.enc.length) = .ok r :=
  Ex.isOk_ex (by decide +kernel)
/-- an invalid input (first offset 19 instead of 18) is an error, not a panic -/
example : Ex.isOkB (flatDecode Ex.T Val.none (DR.new (Ex.enc.set 2 19) Ex.enc.length)) = false := by
  decide +kernel

end ZtypV.Props.C10
