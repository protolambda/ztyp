/-
C19 — Text/JSON number and hex conversions are lossless and range-checked.

All statements are about the executable model functions of ZtypV.Model.Conv (parts A+B: the Go
code of /repo/conv and the views' Text/JSON methods on top of the transcribed stdlib behaviour),
which are the functions the driver (Driver/OpsConv.lean) runs in the correspondence check.
The specification side is part C of the model file: `denotes` (Go integer-literal grammar),
`denotesInt` (signed), `Unquoted` (optional JSON quotes), `unprefix` + `hexDenotes` (hex text).
No bounds on text lengths or values; widths are the four basic view widths and 256.
-/
import ZtypV.Proofs.Conv
namespace ZtypV.Props.C19
open ZtypV ZtypV.Conv

/-! ## 1. Unmarshalling numbers is exact: accepted ⇔ the text denotes a number that fits -/

/-- JSON form (`conv.UintNUnmarshal`, `UintNView.UnmarshalJSON`), N = 8, 16, 32, 64:
the call succeeds with `n` exactly when the text, with its optional quotes removed, is a Go
integer literal denoting `n` and `n < 2^N`.  In particular the narrowing cast never truncates. -/
theorem json_unmarshal_exact (w : Nat) (hw : StdWidth w) (s : Text) (n : Nat) :
    uintUnmarshalJSON w s = .ok n ↔ ∃ s', Unquoted s s' ∧ denotes s' = some n ∧ n < 2^w := by
  simp only [uintUnmarshalJSON_eq w hw, specQuoted_ok_iff, specNum_ok_iff]

example : uintUnmarshalJSON 8 [0x22, 0x30, 0x78, 0x5f, 0x66, 0x46, 0x22] = .ok 255 := by decide  -- "0x_fF" quoted

/-- text form (`UintNView.UnmarshalText`) -/
theorem text_unmarshal_exact (w : Nat) (hw : StdWidth w) (s : Text) (n : Nat) :
    uintUnmarshalText w s = .ok n ↔ (denotes s = some n ∧ n < 2^w) := by
  rw [uintUnmarshalText_eq w hw, specNum_ok_iff]

example : uintUnmarshalText 16 [0x30, 0x62, 0x31, 0x5f, 0x30, 0x31] = .ok 5 := by decide  -- 0b1_01

/-- no truncation, JSON form: a literal whose value does not fit is rejected (never reduced mod 2^N) -/
theorem json_no_truncation (w : Nat) (hw : StdWidth w) (s s' : Text) (n : Nat)
    (hu : Unquoted s s') (hd : denotes s' = some n) (hn : n ≥ 2^w) :
    uintUnmarshalJSON w s = .err := by
  rw [uintUnmarshalJSON_eq w hw, specQuoted_of_unquoted _ hu]
  simp only [specNum, hd]
  rw [if_neg (by omega)]

example : uintUnmarshalJSON 8 [0x32, 0x35, 0x36] = .err := by decide   -- 256
example : Unquoted [0x32, 0x35, 0x36] [0x32, 0x35, 0x36] ∧ denotes [0x32, 0x35, 0x36] = some 256 ∧ 256 ≥ 2^8 :=
  ⟨(unquote_eq_some_iff _ _).1 (by decide), by decide, by decide⟩

/-- no truncation, text form -/
theorem text_no_truncation (w : Nat) (hw : StdWidth w) (s : Text) (n : Nat)
    (hd : denotes s = some n) (hn : n ≥ 2^w) : uintUnmarshalText w s = .err := by
  rw [uintUnmarshalText_eq w hw]
  simp only [specNum, hd]
  rw [if_neg (by omega)]

example : uintUnmarshalText 16 [0x30, 0x78, 0x31, 0x30, 0x30, 0x30, 0x30] = .err := by decide  -- 0x10000

/-- everything that is not a literal (after quote removal) is rejected; the unmarshallers never panic -/
theorem json_rejects_non_literals (w : Nat) (hw : StdWidth w) (s : Text)
    (h : ∀ s', Unquoted s s' → denotes s' = none) : uintUnmarshalJSON w s = .err := by
  rw [uintUnmarshalJSON_eq w hw]
  apply specQuoted_err
  intro s' hu
  simp only [specNum, h s' hu]

example : uintUnmarshalJSON 64 [0x22, 0x31] = .err := by decide        -- "1  (quote not closed)

theorem text_rejects_non_literals (w : Nat) (hw : StdWidth w) (s : Text) (h : denotes s = none) :
    uintUnmarshalText w s = .err := by
  rw [uintUnmarshalText_eq w hw]; simp only [specNum, h]

example : uintUnmarshalText 64 [0x2d, 0x31] = .err := by decide        -- -1

/-! ## 2. 256-bit numbers (math/big route): same statements with a signed literal -/

theorem u256_json_unmarshal_exact (s : Text) (n : Nat) :
    uintUnmarshalJSON 256 s = .ok n ↔
      ∃ s', Unquoted s s' ∧ denotesInt s' = some (n : Int) ∧ n < 2^256 := by
  show uint256Unmarshal s = .ok n ↔ _
  simp only [uint256Unmarshal_eq, specQuoted_ok_iff, specInt256_ok_iff]

theorem u256_text_unmarshal_exact (s : Text) (n : Nat) :
    uintUnmarshalText 256 s = .ok n ↔ (denotesInt s = some (n : Int) ∧ n < 2^256) := by
  show uint256ViewUnmarshalText s = .ok n ↔ _
  rw [uint256ViewUnmarshalText_eq, specInt256_ok_iff]

example : uintUnmarshalText 256 [0x2b, 0x30, 0x6f, 0x31, 0x37] = .ok 15 := by decide   -- +0o17
example : uintUnmarshalText 256 [0x2d, 0x30] = .ok 0 := by decide                      -- -0 denotes 0

/-- negative or too large values are rejected, not wrapped modulo 2^256 -/
theorem u256_json_no_truncation (s s' : Text) (v : Int) (hu : Unquoted s s')
    (hd : denotesInt s' = some v) (hv : v < 0 ∨ v ≥ 2^256) : uintUnmarshalJSON 256 s = .err := by
  show uint256Unmarshal s = .err
  rw [uint256Unmarshal_eq, specQuoted_of_unquoted _ hu]
  simp only [specInt256, hd]
  rw [if_neg (by omega)]

theorem u256_text_no_truncation (s : Text) (v : Int)
    (hd : denotesInt s = some v) (hv : v < 0 ∨ v ≥ 2^256) : uintUnmarshalText 256 s = .err := by
  show uint256ViewUnmarshalText s = .err
  rw [uint256ViewUnmarshalText_eq]
  simp only [specInt256, hd]
  rw [if_neg (by omega)]

example : uintUnmarshalText 256 [0x2d, 0x31] = .err ∧ denotesInt [0x2d, 0x31] = some (-1) := by decide

/-! ## 3. Round trips -/

/-- JSON: marshal then unmarshal returns the number, every width -/
theorem json_roundtrip (w : Nat) (hw : StdWidth w ∨ w = 256) (n : Nat) (hn : n < 2^w) :
    uintUnmarshalJSON w (uintMarshalJSON w n) = .ok n := by
  rcases hw with hw | rfl
  · have hne : w ≠ 256 := by have := hw.bounds; omega
    rw [uintUnmarshalJSON_eq w hw, uintMarshalJSON, if_neg hne, uint64Marshal_eq,
      specQuoted_of_unquoted _ (Or.inl rfl)]
    exact (specNum_ok_iff w _ n).2 ⟨denotes_decDigits n, hn⟩
  · show uint256Unmarshal (uint256Marshal n) = .ok n
    rw [uint256Unmarshal_eq, uint256Marshal_eq, specQuoted_of_unquoted _ (Or.inl rfl)]
    exact (specInt256_ok_iff _ n).2 ⟨denotesInt_decDigits n, hn⟩

example : uintUnmarshalJSON 16 (uintMarshalJSON 16 65535) = .ok 65535 :=
  json_roundtrip 16 (by decide) 65535 (by decide)
example : uintUnmarshalJSON 256 (uintMarshalJSON 256 (2^256 - 1)) = .ok (2^256 - 1) :=
  json_roundtrip 256 (by decide) _ (by decide)

/-- text: marshal then unmarshal returns the number, every width -/
theorem text_roundtrip (w : Nat) (hw : StdWidth w ∨ w = 256) (n : Nat) (hn : n < 2^w) :
    uintUnmarshalText w (uintMarshalText w n) = .ok n := by
  rcases hw with hw | rfl
  · have hne : w ≠ 256 := by have := hw.bounds; omega
    rw [uintUnmarshalText_eq w hw]
    simp only [uintMarshalText, hne, if_false, uintViewMarshalText, appendUintDec, List.nil_append]
    exact (specNum_ok_iff w _ n).2 ⟨denotes_decDigits n, hn⟩
  · show uint256ViewUnmarshalText (uint256ViewMarshalText n) = .ok n
    rw [uint256ViewUnmarshalText_eq]
    exact (specInt256_ok_iff _ n).2 ⟨denotesInt_decDigits n, hn⟩

example : uintUnmarshalText 8 (uintMarshalText 8 200) = .ok 200 :=
  text_roundtrip 8 (by decide) 200 (by decide)

/-- the marshalled forms are the plain decimal rendering (quoted for JSON) and denote the number -/
theorem marshal_denotes (w : Nat) (n : Nat) :
    (∃ ds, uintMarshalText w n = ds ∧ denotes ds = some n) ∧
    (∃ ds, uintMarshalJSON w n = 0x22 :: (ds ++ [0x22]) ∧ denotes ds = some n) := by
  refine ⟨⟨decDigits n, ?_, denotes_decDigits n⟩, ⟨decDigits n, ?_, denotes_decDigits n⟩⟩
  · by_cases h : w = 256 <;> simp [uintMarshalText, h, uint256ViewMarshalText, fmtU256, uintViewMarshalText, appendUintDec]
  · by_cases h : w = 256 <;> simp [uintMarshalJSON, h, uint256Marshal_eq, uint64Marshal_eq]

/-! ## 4. Hex -/

/-- fixed-size decoding succeeds exactly on texts that, with the optional 0x/0X prefix removed,
have exactly `2·len` characters and denote the result -/
theorem fixed_hex_exact (len : Nat) (s : Text) (bs : Bytes) :
    fixedBytesUnmarshalText len s = .ok bs ↔
      ((unprefix s).length = 2 * len ∧ hexDenotes (unprefix s) = some bs) := by
  rw [fixedBytesUnmarshalText_eq]
  by_cases hl : (unprefix s).length = 2 * len
  · rw [if_pos hl, specHex_ok_iff]; simp [hl]
  · rw [if_neg hl]; simp [hl]

example : fixedBytesUnmarshalText 2 [0x30, 0x58, 0x61, 0x42, 0x30, 0x31] = .ok [0xab, 0x01] := by decide

/-- fixed-size decoding, position by position: exactly `2·len` characters, all of them hex digits,
and byte `i` of the result is `16·value(char 2i) + value(char 2i+1)` -/
theorem fixed_hex_exact_indexwise (len : Nat) (s : Text) (bs : Bytes) :
    fixedBytesUnmarshalText len s = .ok bs ↔
      ((unprefix s).length = 2 * len ∧ bs.length = len ∧ ∀ i, i < len → HexPairAt (unprefix s) bs i) := by
  rw [fixed_hex_exact, hexDenotes_iff_index]
  constructor
  · rintro ⟨h1, h2, h3⟩
    obtain rfl : bs.length = len := by omega
    exact ⟨h1, rfl, h3⟩
  · rintro ⟨h1, rfl, h3⟩
    exact ⟨h1, h1, h3⟩

example : HexPairAt [0x61, 0x42] [0xab] 0 := ⟨10, 11, by decide, by decide, by decide, by decide, by decide⟩

/-- `hexDenotes` only accepts hex digit pairs, and the result has half the length -/
theorem hexDenotes_sound (t : Text) (bs : Bytes) (h : hexDenotes t = some bs) :
    t.length = 2 * bs.length ∧ ∀ c ∈ t, isDig 16 c = true :=
  match t, bs, h with
  | [], _, h => by cases h; simp
  | [_], _, h => by cases h
  | p :: q :: rest, bs, h => by
    obtain ⟨a, b, bs', hp, hq, hr, ha, hb, rfl⟩ := (hexDenotes_cons2_iff p q rest bs).1 h
    obtain ⟨hl, hall⟩ := hexDenotes_sound rest bs' hr
    refine ⟨by simp only [List.length_cons, hl]; omega, fun c hc => ?_⟩
    simp only [List.mem_cons] at hc
    rcases hc with rfl | rfl | hc
    · exact isDig_iff.2 ⟨a, hp, ha⟩
    · exact isDig_iff.2 ⟨b, hq, hb⟩
    · exact hall c hc

/-- accepted ⇒ the destination size is exactly the denoted size -/
theorem fixed_hex_size (len : Nat) (s : Text) (bs : Bytes)
    (h : fixedBytesUnmarshalText len s = .ok bs) : bs.length = len := by
  obtain ⟨h1, h2⟩ := (fixed_hex_exact len s bs).1 h
  have := (hexDenotes_sound _ _ h2).1
  omega

theorem fixed_hex_wrong_size (len : Nat) (s : Text) (h : (unprefix s).length ≠ 2 * len) :
    fixedBytesUnmarshalText len s = .err := by
  rw [fixedBytesUnmarshalText_eq, if_neg h]

example : fixedBytesUnmarshalText 1 [0x30, 0x78] = .err := by decide     -- "0x" is not one byte

/-- a bad character or odd length is an error, never a panic -/
theorem fixed_hex_bad_text (len : Nat) (s : Text) (h : hexDenotes (unprefix s) = none) :
    fixedBytesUnmarshalText len s = .err := by
  rw [fixedBytesUnmarshalText_eq]
  split
  · simp only [specHex, h]
  · rfl

/-- dynamic decoding: exactly the denoted bytes, whatever the size -/
theorem dynamic_hex_exact (s : Text) (bs : Bytes) :
    dynamicBytesUnmarshalText s = .ok bs ↔ hexDenotes (unprefix s) = some bs := by
  rw [dynamicBytesUnmarshalText_eq, specHex_ok_iff]

theorem dynamic_hex_bad_text (s : Text) (h : hexDenotes (unprefix s) = none) :
    dynamicBytesUnmarshalText s = .err := by
  rw [dynamicBytesUnmarshalText_eq]; simp only [specHex, h]

example : dynamicBytesUnmarshalText [0x61, 0x62, 0x63] = .err := by decide

/-- bytes → "0x…" text → bytes -/
theorem hex_roundtrip (bs : Bytes) :
    ∃ t, bytesMarshalText bs = .ok t ∧ fixedBytesUnmarshalText bs.length t = .ok bs ∧
      dynamicBytesUnmarshalText t = .ok bs ∧ hexDenotes (unprefix t) = some bs := by
  refine ⟨_, bytesMarshalText_eq bs, ?_, ?_, ?_⟩
  · rw [fixed_hex_exact, unprefix_0x]; exact ⟨hexEncode_length bs, hexDenotes_hexEncode bs⟩
  · rw [dynamic_hex_exact, unprefix_0x]; exact hexDenotes_hexEncode bs
  · rw [unprefix_0x]; exact hexDenotes_hexEncode bs

example : bytesMarshalText [0x00, 0xff] = .ok [0x30, 0x78, 0x30, 0x30, 0x66, 0x66] := by decide

/-! ## 5. The environment transcriptions against the literal grammar -/

/-- `strconv.ParseUint(s, 0, w)` (1 ≤ w ≤ 64) accepts exactly the Go integer literals whose value
fits `w` bits, and returns that value -/
theorem parseUint_exact (s : Text) (w : Nat) (h1 : 1 ≤ w) (h2 : w ≤ 64) (n : Nat) :
    parseUint s w = .ok n ↔ (denotes s = some n ∧ n < 2^w) := parseUint_ok_iff s w h1 h2 n

/-- `big.Int.UnmarshalText` accepts exactly the signed Go integer literals and returns their value -/
theorem bigSetString0_exact (s : Text) : bigSetString0 s = denotesInt s := bigSetString0_eq s

end ZtypV.Props.C19
