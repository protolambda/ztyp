/-
C11b — the node / link API of package `tree` driven directly (extension of C11).

C11 states the navigation laws about the one-stage model functions `getNode` / `setNode` /
`summarizeInto`.  The Go API is two-stage: `Setter` returns a `Link` closure that is assembled by
`Link.Wrap` from `RebindLeft/Right` method values (`DeeperSetter`), and clients may call
`RebindLeft/Right`, `Identity`, `Wrap`, `DeeperSetter`, `SummaryInto`, `ZeroNode`, `NewPairNode`
themselves.  `ZtypV.Model.Tree2` transcribes these functions one by one (closures included);
the theorems below are about exactly those executable definitions, for every tree, path,
node, link and pair hash `h`:

* rebinding laws and the accessor laws of both node kinds;
* `Wrap` is Kleisli composition (inner first), `Identity` is neutral, `Wrap` is associative;
* the two-stage setter (either node kind, with or without expansion, also on raw `Gindex64`
  values including 0) followed by the link application IS the one-stage write `setNode`, links
  never fail, construction fails exactly when the write fails — so every law of C11 holds
  for links obtained from `Setter`, however often they are applied;
* `DeeperSetter(link, node, target, e)` = "write below `node` along the target minus its first
  bit, then `link`", panics exactly outside its documented precondition;
* the setter-composition law `parent.Setter(g1).Wrap(child.Setter(g2)) = parent.Setter(g1 ∘ g2)`
  together with the arithmetic of `g1 ∘ g2`;
* `SummaryInto` / `SummarizeInto` (both node kinds) = `summarizeInto`, root preserved;
* `ZeroNode(d)` is the root of the materialised zero tree of depth `d`, defined for `d ≤ 64`;
* any client program over the link API (`LinkExpr`) builds the link given by its reference
  semantics (`LinkExpr.den`: composition of one-stage writes).

"The original is unchanged / off-path nodes are the identical objects" is vacuous on immutable
model values; on the Go side every op checks it by pointer identity and re-dumping
(`new=1 other=1 unchanged=1 shared=1 self=1 kids=1`).
-/
import ZtypV.Proofs.Tree2
namespace ZtypV.Props.C11
open ZtypV ZtypV.TreeNav ZtypV.TreeNav2

/-- a small concrete pair "hash" for the non-vacuity examples -/
private def hx : HashFn := fun a b => a.take 1 ++ b.take 1 ++ [1]
private def d1 : Node := .leaf [1]
private def d2 : Node := .leaf [2]
private def d3 : Node := .leaf [3]
private def d9 : Node := .leaf [9]

/-! ## accessors, `NewPairNode`, rebinding -/

/-- `NewPairNode(a, b)`: not a leaf, children are `a` and `b`, root is `h(a.root, b.root)` -/
theorem C11b_newPairNode (h : HashFn) (a b : Node) :
    (newPairNode a b).isLeaf = false ∧ (newPairNode a b).left = .ok a ∧ (newPairNode a b).right = .ok b ∧
    (newPairNode a b).root h = h (a.root h) (b.root h) :=
  ⟨rfl, rfl, rfl, rfl⟩

/-- every node is a leaf — then `Left/Right/RebindLeft/RebindRight` are navigation errors — or
    it is the pair of its `Left()` and `Right()` -/
theorem C11b_accessors (n : Node) (v : Node) :
    (n.isLeaf = true ∧ n.left = .error .nav ∧ n.right = .error .nav ∧
      n.rebindLeft v = .error .nav ∧ n.rebindRight v = .error .nav) ∨
    (n.isLeaf = false ∧ ∃ l r, n.left = .ok l ∧ n.right = .ok r ∧ n = newPairNode l r) := by
  cases n with
  | leaf x => exact Or.inl ⟨rfl, rfl, rfl, rfl, rfl⟩
  | pair l r => exact Or.inr ⟨rfl, l, r, rfl, rfl, rfl⟩

example : d1.isLeaf = true ∧ (Node.pair d1 d2).isLeaf = false := ⟨rfl, rfl⟩

/-- `Left()` / `Right()` are the getters of the generalized indices 2 and 3 -/
theorem C11b_left_right_get (n : Node) :
    n.left = getNode n [false] ∧ n.right = getNode n [true] ∧ gbits 2 = [false] ∧ gbits 3 = [true] := by
  cases n with
  | leaf x => exact ⟨rfl, rfl, by decide, by decide⟩
  | pair l r => exact ⟨(getNode_nil l).symm, (getNode_nil r).symm, by decide, by decide⟩

/-- `RebindLeft`: the result's left child is the new node, its right child is the old right
    child, it is not a leaf, and its root is `h(new.root, old right.root)`; it fails (navigation
    error) exactly on a leaf -/
theorem C11b_rebindLeft (h : HashFn) (n v n' : Node) :
    n.rebindLeft v = .ok n' →
    n'.left = .ok v ∧ n'.right = n.right ∧ n'.isLeaf = false ∧
    ∃ r, n.right = .ok r ∧ n'.root h = h (v.root h) (r.root h) := by
  cases n with
  | leaf x => intro hs; cases hs
  | pair l r => intro hs; cases hs; exact ⟨rfl, rfl, rfl, r, rfl, rfl⟩

theorem C11b_rebindRight (h : HashFn) (n v n' : Node) :
    n.rebindRight v = .ok n' →
    n'.right = .ok v ∧ n'.left = n.left ∧ n'.isLeaf = false ∧
    ∃ l, n.left = .ok l ∧ n'.root h = h (l.root h) (v.root h) := by
  cases n with
  | leaf x => intro hs; cases hs
  | pair l r => intro hs; cases hs; exact ⟨rfl, rfl, rfl, l, rfl, rfl⟩

theorem C11b_rebind_ok_iff (n v : Node) :
    ((∃ n', n.rebindLeft v = .ok n') ↔ n.isLeaf = false) ∧
    ((∃ n', n.rebindRight v = .ok n') ↔ n.isLeaf = false) ∧
    (n.isLeaf = true → n.rebindLeft v = .error .nav ∧ n.rebindRight v = .error .nav) := by
  cases n <;> simp [Node.rebindLeft, Node.rebindRight, Node.isLeaf]

/-- rebinding is the write at generalized index 2 / 3 -/
theorem C11b_rebind_is_set (h : HashFn) (n v : Node) (e : Bool) (hn : n.isLeaf = false) :
    n.rebindLeft v = setNode h n [false] e v ∧ n.rebindRight v = setNode h n [true] e v := by
  cases n with
  | leaf x => cases hn
  | pair l r => simp [Node.rebindLeft, Node.rebindRight, newPairNode]

example : (Node.pair d1 d2).rebindLeft d9 = .ok (.pair d9 d2) ∧ (Node.pair d1 d2).rebindRight d9 = .ok (.pair d1 d9)
    ∧ d1.rebindLeft d9 = .error .nav := ⟨rfl, rfl, rfl⟩

/-! ## `Identity`, `Wrap` -/

/-- `outer.Wrap(inner)` applies `inner` first and hands the result to `outer`; an error of
    `inner` is returned unchanged and `outer` is not run -/
theorem C11b_wrap_apply (outer inner : Link) (v : Node) :
    Link.wrap outer inner v = (inner v >>= outer) := by
  unfold Link.wrap
  cases inner v <;> rfl

theorem C11b_wrap_ok (outer inner : Link) (v w : Node) :
    inner v = .ok w → Link.wrap outer inner v = outer w := by
  intro hi; rw [C11b_wrap_apply, hi]; rfl

theorem C11b_wrap_error (outer inner : Link) (v : Node) (er : Err) :
    inner v = .error er → Link.wrap outer inner v = .error er := by
  intro hi; rw [C11b_wrap_apply, hi]; rfl

theorem C11b_identity_neutral (a : Link) :
    Link.wrap identity a = a ∧ Link.wrap a identity = a ∧ ∀ v, identity v = .ok v :=
  ⟨funext fun v => (C11b_wrap_apply identity a v).trans (bind_identity _), rfl, fun _ => rfl⟩

theorem C11b_wrap_assoc (a b c : Link) :
    Link.wrap (Link.wrap a b) c = Link.wrap a (Link.wrap b c) := by
  funext v
  simp only [C11b_wrap_apply]
  cases c v with
  | error e => rfl
  | ok x => exact C11b_wrap_apply a b x

/-- `Wrap` is not commutative: the order of the arguments matters -/
example : Link.wrap (Node.pair d1 d2).rebindLeft (Node.pair d3 d3).rebindRight d9 = .ok (.pair (.pair d3 d9) d2)
    ∧ Link.wrap (Node.pair d3 d3).rebindRight (Node.pair d1 d2).rebindLeft d9 = .ok (.pair d3 (.pair d9 d2)) :=
  ⟨rfl, rfl⟩

/-! ## getters through the interface methods -/

/-- `PairNode.Getter` (root case, close case, bit-iterated `Left()/Right()` descent) and
    `Root.Getter` are the plain descent; in particular index 1 returns the node itself -/
theorem C11b_getter (n : Node) (p : List Bool) :
    n.getter p = getNode n p ∧ n.getter [] = .ok n ∧ getLoop n p = getNode n p :=
  ⟨getter_eq n p, by rw [getter_eq]; simp, getLoop_eq n p⟩

example : (Node.pair d1 (.pair d2 d3)).getter [true, false] = .ok d2 ∧ d1.getter [true] = .error .nav := ⟨rfl, rfl⟩

/-! ## the two-stage setter is the one-stage write -/

/-- `n.Setter(target, e)` followed by applying the link to `v` is `setNode` (value and error) -/
theorem C11b_setter_apply (h : HashFn) (n : Node) (p : List Bool) (e : Bool) (v : Node) :
    (n.setter h p e >>= fun k => k v) = setNode h n p e v :=
  ((setter_isLinkOf h n p e).apply v).trans (bind_identity _)

/-- a link obtained from `Setter` computes `setNode` for every value, on every application,
    and never fails -/
theorem C11b_setter_link (h : HashFn) (n : Node) (p : List Bool) (e : Bool) (k : Link) :
    n.setter h p e = .ok k →
    (∀ v, k v = setNode h n p e v) ∧ (∀ v, ∃ n', k v = .ok n') := by
  intro hs
  refine ⟨setter_ok h n p e k hs, fun v => ?_⟩
  obtain ⟨s, _, hk⟩ := (setter_isLinkOf h n p e).of_ok hs v
  exact ⟨s, hk⟩

/-- the setter fails at construction exactly when the write fails (for any, equivalently
    every, value), with the same error — a navigation error, never a panic -/
theorem C11b_setter_error (h : HashFn) (n : Node) (p : List Bool) (e : Bool) (er : Err) (v : Node) :
    (n.setter h p e = .error er ↔ setNode h n p e v = .error er) ∧
    (n.setter h p e = .error er → er = .nav) :=
  ⟨(setter_isLinkOf h n p e).error_iff er v,
   fun hs => setNode_error_nav h n p e v er ((setter_isLinkOf h n p e).of_error hs v)⟩

/-- at the root both node kinds return `Identity` -/
theorem C11b_setter_root (h : HashFn) (n : Node) (e : Bool) : n.setter h [] e = .ok identity := by
  cases n <;> rfl

example : (do let k ← (Node.pair d1 (.pair d2 d3)).setter hx [true, false] false; k d9)
    = .ok (.pair d1 (.pair d9 d3)) := rfl
example : (do let k ← (Node.leaf (zh hx 2)).setter hx [true, false] true; k d9)
    = .ok (.pair (.leaf (zh hx 1)) (.pair d9 (.leaf (zh hx 0)))) := rfl
example : (match d1.setter hx [true] false with | .error e => some e | .ok _ => none) = some .nav := rfl

/-! ## `DeeperSetter` called directly -/

/-- On a target of at least two bits `a :: b :: p`, `DeeperSetter(link, node, target, e)` ignores
    the first bit `a`, fails exactly when the write along `b :: p` below `node` fails, and
    otherwise yields the link "write `v` below `node` along `b :: p`, then `link`". -/
theorem C11b_deeperSetter (h : HashFn) (link : Link) (node : Node) (a b : Bool) (p : List Bool) (e : Bool) :
    (∀ k, deeperSetter h link node (a :: b :: p) e = .ok k →
        ∀ v, k v = (setNode h node (b :: p) e v >>= link)) ∧
    (∀ er, deeperSetter h link node (a :: b :: p) e = .error er →
        ∀ v, setNode h node (b :: p) e v = .error er) ∧
    (∀ k, deeperSetter h link node (a :: b :: p) e = .ok k →
        ∀ v, ∃ s, setNode h node (b :: p) e v = .ok s) := by
  rw [deeperSetter_long]
  have hl := deeperLoop_isLinkOf h (b :: p) link node e
  exact ⟨fun k hk => hl.ok_apply hk, fun er hk => hl.of_error hk,
    fun k hk v => (hl.of_ok hk v).imp fun _ hs => hs.1⟩

/-- `DeeperSetter` panics exactly outside its documented precondition (target of fewer than two
    bits, i.e. generalized index below 4); inside, its only failure is the navigation error -/
theorem C11b_deeperSetter_panic (h : HashFn) (link : Link) (node : Node) (p : List Bool) (e : Bool) :
    (p.length < 2 → deeperSetter h link node p e = .error .panic) ∧
    (2 ≤ p.length → ∀ er, deeperSetter h link node p e = .error er → er = .nav) := by
  refine ⟨deeperSetter_short h link node p e, fun hp er hs => ?_⟩
  rw [deeperSetter, if_neg (Nat.not_lt.2 hp)] at hs
  exact setNode_error_nav h node p.tail e node er
    ((deeperLoop_isLinkOf h p.tail link node e).of_error hs node)

theorem C11b_deeperSetter_index (g : UInt64) : (gbits g.toNat).length < 2 ↔ g < 4 := by
  rw [gbits_length_lt_two]
  show g.toNat < (4 : UInt64).toNat ↔ g < 4
  exact UInt64.lt_iff_toNat_lt.symm

/-- `PairNode.Setter` for deeper targets is its own `DeeperSetter` call -/
theorem C11b_pairSetter_deeper (h : HashFn) (l r : Node) (b c : Bool) (p : List Bool) (e : Bool) :
    (Node.pair l r).setter h (b :: c :: p) e =
      if b then deeperSetter h (Node.pair l r).rebindRight r (b :: c :: p) e
      else deeperSetter h (Node.pair l r).rebindLeft l (b :: c :: p) e := by
  cases b <;> rfl

example : (do let k ← deeperSetter hx (Node.pair d1 d2).rebindRight (.pair d2 d3) [true, false] false; k d9)
    = .ok (.pair d1 (.pair d9 d3)) := rfl
example : (match deeperSetter hx identity d1 [true] false with | .error e => some e | .ok _ => none) = some .panic := rfl

/-! ## composition of setters -/

/-- a write along `q ++ r`, where position `q` exists and holds `s`: write along `r` inside `s`,
    then write the result back at `q` (with either expansion flag) -/
theorem C11b_set_append (h : HashFn) (n : Node) (q r : List Bool) (e e' : Bool) (v s : Node) :
    getNode n q = .ok s →
    setNode h n (q ++ r) e v = (setNode h s r e v >>= fun s' => setNode h n q e' s') :=
  setNode_append_of_get h n q r e e' v s

/-- `parent.Setter(q, e1).Wrap(child.Setter(r, e))` equals `parent.Setter(q ++ r, e)`, where
    `child` is the node at `q`: the latter exists and both links agree on every value -/
theorem C11b_setter_compose (h : HashFn) (n s : Node) (q r : List Bool) (e1 e : Bool) (k1 k2 : Link) :
    getNode n q = .ok s → n.setter h q e1 = .ok k1 → s.setter h r e = .ok k2 →
    ∃ k12, n.setter h (q ++ r) e = .ok k12 ∧ ∀ v, k12 v = Link.wrap k1 k2 v := by
  intro hg h1 h2
  -- the composed write succeeds, since the inner link is total
  obtain ⟨k12, h12⟩ := ((setter_isLinkOf h n (q ++ r) e).ok_iff n).2
    ((setNode_append_ok_iff h hg r e n).2 (((setter_isLinkOf h s r e).ok_iff n).1 ⟨k2, h2⟩))
  refine ⟨k12, h12, fun v => ?_⟩
  rw [setter_ok h _ _ e k12 h12 v, setNode_append_of_get h n q r e e1 v s hg, C11b_wrap_apply,
    setter_ok h s r e k2 h2 v]
  exact congrArg _ (funext fun s' => (setter_ok h n q e1 k1 h1 s').symm)

/-- the premises of `C11b_setter_compose` are exactly what is needed: the outer setter always
    exists at an existing position, and the concatenated setter exists only if the inner one does -/
theorem C11b_setter_compose_exists (h : HashFn) (n s : Node) (q r : List Bool) (e1 e : Bool) :
    getNode n q = .ok s →
    (∃ k1, n.setter h q e1 = .ok k1) ∧
    ((∃ k12, n.setter h (q ++ r) e = .ok k12) ↔ (∃ k2, s.setter h r e = .ok k2)) := by
  intro hg
  refine ⟨setter_exists_of_get h n q e1 s hg, ?_⟩
  rw [(setter_isLinkOf h n (q ++ r) e).ok_iff n, (setter_isLinkOf h s r e).ok_iff n]
  exact setNode_append_ok_iff h hg r e n

/-- the generalized index of the concatenated path (what the harness computes with shifts):
    `g1 · 2^depth(g2) + (g2 − 2^depth(g2))` -/
theorem C11b_gindex_concat (g1 g2 : Nat) (h1 : 0 < g1) (h2 : 0 < g2) :
    gbits (g1 * 2 ^ Nat.log2 g2 + (g2 - 2 ^ Nat.log2 g2)) = gbits g1 ++ gbits g2 ∧
    gindexOfPath (gbits g1 ++ gbits g2) = g1 * 2 ^ Nat.log2 g2 + (g2 - 2 ^ Nat.log2 g2) := by
  have := gindexOfPath_concat (gbits g1) (gbits g2)
  rw [gindexOfPath_gbits g1 h1, gindexOfPath_gbits g2 h2, gbits_length] at this
  exact ⟨by rw [← this, gbits_gindexOfPath], this⟩

example : getNode (.pair d1 (.pair d2 d3)) [true] = .ok (.pair d2 d3)
    ∧ (do let k1 ← (Node.pair d1 (.pair d2 d3)).setter hx [true] false
          let k2 ← (Node.pair d2 d3).setter hx [false] false
          Link.wrap k1 k2 d9) = .ok (.pair d1 (.pair d9 d3))
    ∧ gbits (3 * 2 ^ Nat.log2 2 + (2 - 2 ^ Nat.log2 2)) = [true, false] := ⟨rfl, rfl, by decide⟩

/-! ## summaries -/

/-- `tree.SummaryInto(n, target, h)` followed by calling the link is `summarizeInto`;
    the method `SummarizeInto` of either node kind agrees with the function -/
theorem C11b_summaryInto (h : HashFn) (n : Node) (p : List Bool) :
    (summaryInto h n p >>= fun sl => sl ()) = summarizeInto h n p ∧
    (n.summarizeInto h p >>= fun sl => sl ()) = summarizeInto h n p := by
  refine ⟨summaryInto_apply h n p, ?_⟩
  cases n with
  | pair l r => exact summaryInto_apply h _ p
  | leaf x => cases p <;> rfl

/-- summarising preserves the Merkle root and puts the root leaf of the old subtree at the
    position -/
theorem C11b_summaryInto_root (h : HashFn) (n : Node) (p : List Bool) (sl : SummaryLink) (n' : Node) :
    summaryInto h n p = .ok sl → sl () = .ok n' →
    n'.root h = n.root h ∧ ∃ s, getNode n p = .ok s ∧ getNode n' p = .ok (.leaf (s.root h)) := by
  intro h1 h2
  rw [summaryInto_eq, R.map_eq_ok] at h1
  obtain ⟨s, hg, rfl⟩ := h1
  exact ⟨setNode_root_same h n p _ n' s h2 hg rfl, s, hg, getNode_setNode h n p false _ n' h2⟩

theorem C11b_summaryInto_ok_iff (h : HashFn) (n : Node) (p : List Bool) :
    (∃ sl, summaryInto h n p = .ok sl) ↔ ∃ s, getNode n p = .ok s := by
  rw [summaryInto_eq]
  exact R.map_ok_iff

/-- the link produced by `SummaryInto` never fails -/
theorem C11b_summaryInto_total (h : HashFn) (n : Node) (p : List Bool) (sl : SummaryLink) :
    summaryInto h n p = .ok sl → ∃ n', sl () = .ok n' := by
  intro h1
  rw [summaryInto_eq, R.map_eq_ok] at h1
  obtain ⟨s, hg, rfl⟩ := h1
  exact (setNode_false_ok_iff_get h n p _).2 ⟨s, hg⟩

example : (do let sl ← summaryInto hx (.pair d1 (.pair d2 d3)) [true]; sl ()) = .ok (.pair d1 (.leaf [2, 3, 1]))
    ∧ (Node.pair d1 (.pair d2 d3)).root hx = (Node.pair d1 (.leaf [2, 3, 1])).root hx := ⟨rfl, rfl⟩

/-! ## zero nodes -/

/-- `ZeroNode(d)` is defined exactly for `d ≤ 64` (panic beyond the table); it is a leaf whose
    root is the root of the materialised zero tree `SubtreeFillToDepth(&Root{}, d)` -/
theorem C11b_zeroNode (h : HashFn) (d : Nat) :
    (d ≤ 64 → ∃ n, zeroNodeG h d = .ok n ∧ n.isLeaf = true ∧
        n.root h = (fillToDepth (.leaf z0) d).root h ∧ n = zeroNode h d) ∧
    (64 < d → zeroNodeG h d = .error .panic) :=
  ⟨fun hd => ⟨zeroNode h d, if_neg (by omega), rfl, (fullZero_root h d).symm, rfl⟩,
   fun hd => if_pos (by omega)⟩

example : zeroNodeG hx 2 = .ok (.leaf [0, 0, 1]) ∧ (fillToDepth (.leaf z0) 2).root hx = [0, 0, 1] := ⟨rfl, rfl⟩

/-! ## raw `Gindex64` entry points and client programs -/

/-- on raw indices (0 included) the two-stage functions agree with `setG` / `getG` / `sumG` -/
theorem C11b_entry_points (h : HashFn) (n : Node) (g : UInt64) (e : Bool) (v : Node) :
    (setterG h n g e >>= fun k => k v) = setG h n g e v ∧
    getterG n g = getG n g ∧
    (summaryIntoG h n g >>= fun sl => sl ()) = sumG h n g := by
  refine ⟨((setterG_isLinkOf h n g e).apply v).trans (bind_identity _), ?_, ?_⟩
  · by_cases hg : g = 0
    · subst hg; cases n <;> rfl
    · simp only [getterG, getG, hg, if_false]; exact getter_eq n _
  · by_cases hg : g = 0
    · subst hg
      cases n <;> rfl
    · have h1 : summaryIntoG h n g = summaryInto h n (gbits g.toNat) := by
        simp only [summaryIntoG, summaryInto, setterG, getterG, if_neg hg]
      rw [h1, summaryInto_apply, sumG.eq_def, if_neg hg]

theorem C11b_entry_points_path (h : HashFn) (n : Node) (g : UInt64) (e : Bool) (k : Link) (hg : g ≠ 0) :
    setterG h n g e = n.setter h (gbits g.toNat) e ∧ getterG n g = n.getter (gbits g.toNat) ∧
    deeperSetterG h k n g e = deeperSetter h k n (gbits g.toNat) e := by
  simp [setterG, getterG, deeperSetterG, hg]

/-- Every client program over the link API — `Identity`, `RebindLeft/Right` method values,
    `Setter`, `DeeperSetter`, `Wrap`, nested arbitrarily — builds (or fails to build) exactly the
    link given by its reference semantics: Kleisli composition of one-stage writes. -/
theorem C11b_eval_eq_den (h : HashFn) (x : LinkExpr) : x.eval h = x.den h := by
  induction x with
  | id => rfl
  | rebL n => exact congrArg Except.ok (funext fun v => by cases n <;> rfl)
  | rebR n => exact congrArg Except.ok (funext fun v => by cases n <;> rfl)
  | setter n g e =>
    refine ((setterG_isLinkOf h n g e).eq_den n).trans ?_
    simp only [bind_identity]; rfl
  | deeper k n g e ih =>
    simp only [LinkExpr.eval, LinkExpr.den, ih]
    cases k.den h with
    | error er => rfl
    | ok f =>
      simp only
      by_cases hg : g < 4
      · rw [if_pos hg]
        exact deeperSetter_short h f n _ e ((C11b_deeperSetter_index g).2 hg)
      · rw [if_neg hg, deeperSetterG, deeperSetter, if_neg (mt (C11b_deeperSetter_index g).1 hg)]
        exact (deeperLoop_isLinkOf h _ f n e).eq_den n
  | wrap a b iha ihb =>
    simp only [LinkExpr.eval, LinkExpr.den, iha, ihb]
    cases a.den h with
    | error er => rfl
    | ok f =>
      cases b.den h with
      | error er => rfl
      | ok g => exact congrArg Except.ok (funext (C11b_wrap_apply f g))

example : (match (do let k ← (LinkExpr.wrap (.setter (.pair d1 d2) 3 false) (.deeper .id (.pair d2 d3) 5 false)).eval hx; k d9) with
    | .ok n => decide (n = .pair d1 (.pair d2 d9))
    | .error _ => false) = true := by decide

end ZtypV.Props.C11
