/-
C09 — Flat codec encodes spec bytes and round-trips.

Model (Model/Flat.lean): `flatEncode`, `flatByteLength`, `flatFixedLength`, `flatDecode`: the
composition, by the recipe of harness/flat.go (zrnt-style hand-written flat types), of the models of
`EncodingWriter.List/Vector/BitList/BitVector/FixedLenContainer/Container/Union/WriteOffset`,
`codec.Sum/ContainerLength`, `DecodingReader.Vector/List/BitVector/BitList/ByteVector/ByteList/
FixedLenContainer/Container/Union`, `tree.ReadRoots/ReadRootsLimited/WriteRoots`,
`Root.Deserialize/Serialize` and the basic values' `Serialize/Deserialize/ByteLength/FixedLength`.
Spec: `hasType`, `serialize` (Spec.lean).

Proved here, at full strength (every well-formed type, every well-typed value):
* `C09_enc`  — encoding yields exactly the SSZ-spec bytes and `ByteLength()` is their length;
* `C09_fixedLength` — `FixedLength()` is the encoded length for fixed-size types and 0 otherwise;
* `C09_dec`  — decoding the spec bytes into a destination that held ANY prior content (no
  hypothesis on it: shorter, longer, ill-shaped …) reproduces exactly the value, every element
  in its own position; `C09_roundtrip` composes the two; `C09_accepts_valid` is the converse of
  `C10_sound`.
The only side condition is `(serialize t v).length < 2^32`: offsets are 32-bit words
(`WriteOffset` panics beyond, `ReadOffset` reads `o % 2^32`).
-/
import ZtypV.Proofs.FlatEnc
import ZtypV.Proofs.FlatDec
namespace ZtypV.Props.C09
open ZtypV ZtypV.View ZtypV.Flat ZtypV.FlatProofs

/-! ### 1. encoding -/

/-- encoding yields exactly the SSZ-spec bytes; the reported byte length is the encoded length -/
theorem C09_enc (t : Ty) (v : Val) (hw : t.wf = true) (hv : hasType t v = true)
    (hlen : (serialize t v).length < 2 ^ 32) :
    flatEncode t v = .ok (serialize t v) ∧ flatByteLength t v = (serialize t v).length :=
  flatEncode_correct t v hw hv hlen

/-- `FixedLength()`: the type's size for fixed-size types (non-zero), 0 exactly for the others -/
theorem C09_fixedLength (t : Ty) (hw : t.wf = true) :
    flatFixedLength t = t.typeByteLength ∧ (flatFixedLength t ≠ 0 ↔ t.isFixed = true) :=
  ⟨flatFixedLength_eq_typeByteLength hw, flatFixedLength_ne_zero_iff hw⟩

/-- for fixed-size types every value has the encoded length `FixedLength()` -/
theorem C09_fixedLength_is_length (t : Ty) (v : Val) (hw : t.wf = true) (hv : hasType t v = true)
    (hf : t.isFixed = true) : (serialize t v).length = flatFixedLength t := by
  rw [flatFixedLength_fixed hw hf]
  exact serialize_fixed_length v t hf hv

example : Ex.T.wf = true ∧ hasType Ex.T Ex.V = true ∧ (serialize Ex.T Ex.V).length < 2 ^ 32 :=
  Ex.typed
example : Ex.okBytes (flatEncode Ex.T Ex.V) Ex.enc = true ∧ serialize Ex.T Ex.V = Ex.enc :=
  ⟨by decide +kernel, Ex.serialize_eq⟩

/-! ### 2. decoding -/

/-- decoding the encoding of `v` into a destination with ANY prior content yields `v` -/
theorem C09_dec (t : Ty) (v : Val) (hw : t.wf = true) (hv : hasType t v = true)
    (hlen : (serialize t v).length < 2 ^ 32) (prior : Val) :
    ∃ dr', flatDecode t prior (DR.new (serialize t v) (serialize t v).length) = .ok (v, dr') :=
  flatDecode_complete t v hw hv hlen prior

/-- encode, then decode into any destination: the value comes back -/
theorem C09_roundtrip (t : Ty) (v : Val) (hw : t.wf = true) (hv : hasType t v = true)
    (hlen : (serialize t v).length < 2 ^ 32) (prior : Val) :
    ∃ bs dr', flatEncode t v = .ok bs ∧ flatByteLength t v = bs.length ∧
      flatDecode t prior (DR.new bs bs.length) = .ok (v, dr') := by
  obtain ⟨he, hl⟩ := C09_enc t v hw hv hlen
  obtain ⟨dr', hd⟩ := C09_dec t v hw hv hlen prior
  exact ⟨_, dr', he, hl, hd⟩

/-- every valid encoding (below 2^32 bytes) is accepted, whatever the destination held -/
theorem C09_accepts_valid (t : Ty) (hw : t.wf = true) (bs : Bytes) (hval : Valid t bs)
    (hlen : bs.length < 2 ^ 32) (prior : Val) :
    ∃ r, flatDecode t prior (DR.new bs bs.length) = .ok r := by
  obtain ⟨v, hv, hs⟩ := hval
  subst hs
  obtain ⟨dr', hd⟩ := C09_dec t v hw hv hlen prior
  exact ⟨_, hd⟩

/-- the hypotheses are satisfiable on a nested type; a destination that held longer lists, another
    union option and a longer bitlist before ends up holding exactly the value -/
example : ∃ dr', flatDecode Ex.T Ex.prior (DR.new Ex.enc Ex.enc.length) = .ok (Ex.V, dr') := by
  have := C09_dec Ex.T Ex.V Ex.typed.1 Ex.typed.2.1 Ex.typed.2.2 Ex.prior
  rw [Ex.serialize_eq] at this
  exact this
/-- the same run, by evaluation of the model -/
example : ∃ r, flatDecode Ex.T Ex.prior (DR.new Ex.enc Ex.enc.length) = .ok r :=
  Ex.isOk_ex (by decide +kernel)

end ZtypV.Props.C09
