/-
C18 — Packed-bitfield helpers agree with a bit-sequence model.

Subject: the executable model `ZtypV.Bitfields.*` (Model/Bitfields.lean) of the Go package
`bitfields`, which the differential driver (`Driver/OpsBitfields.lean`, ops `bf.*`) runs
against the real code.  Specification: `ZtypV.packBits` (Spec.lean); a `Bitvector[n]` value
`bits` is encoded as `packBits bits`, a `Bitlist[limit]` value as `packBits (bits ++ [true])`.

All statements are for arbitrary byte strings and arbitrary 64-bit limits / lengths / indices.
Hypotheses that appear:
* `b.length < 2^64` where the Go code converts `len(b)` to `uint64` — true of every Go slice
  (`len < 2^63`); `bits.length < 2^64` where a bit count is returned in a `uint64`.
* `n.toNat + 7 < 2^64` for `BitvectorCheck`: for the seven lengths `n ≥ 2^64-7` the Go
  expression `(bitLength+7)>>3` wraps to 0 and the check is WRONG: it accepts exactly the
  empty byte string (`bitvectorCheck_wrapped`, `bitvectorCheck_wrap_violates_spec`).  Such
  lengths cannot occur with data that fits in memory, but the universal statement
  "for every length" is false there, so it is recorded as a theorem, not hidden.
* `n = 0`: `BitvectorCheck` accepts exactly the empty string, which agrees with the
  (degenerate) spec reading `packBits [] = []`; the `n == 0` branch of
  `BitvectorCheckLastByte` is unreachable from `BitvectorCheck`.  No restriction needed.
-/
import ZtypV.Proofs.Bitfields
namespace ZtypV.Props.C18
open ZtypV ZtypV.Bitfields

/-! ## BitIndex -/

/-- `BitIndex(v)` is the position of the highest set bit (`Nat.log2`, 0 for `v = 0`). -/
theorem bitIndex_eq_log2 (v : UInt8) : (bitIndex v).toNat = Nat.log2 v.toNat :=
  Bitfields.bitIndex_eq_log2 v

example : (bitIndex 0x2c).toNat = 5 := by decide +kernel

/-! ## BitlistCheck -/

/-- `BitlistCheck(b, limit)` succeeds exactly on the spec encodings of bitlists with at most
    `limit` bits. -/
theorem bitlistCheck_iff (b : Bytes) (lim : UInt64) (hb : b.length < 2 ^ 64) :
    bitlistCheck b lim = .ok () ↔
      ∃ bits : List Bool, bits.length ≤ lim.toNat ∧ b = packBits (bits ++ [true]) := by
  rw [bitlistCheck_ok_iff b lim hb]
  constructor
  · intro ⟨h0, hz, hle⟩
    exact ⟨unpack b (8 * (b.length - 1) + Nat.log2 (lastByte b).toNat),
      by rw [unpack_length]; exact hle, eq_packBits_delim b h0 hz⟩
  · intro ⟨bits, hle, hb⟩
    subst hb
    obtain ⟨hlen, hz, hlog⟩ := bitlist_shape bits
    rw [hlen, hlog, Nat.add_sub_cancel, Nat.div_add_mod]
    exact ⟨Nat.succ_ne_zero _, hz, hle⟩

/-- `BitlistCheck` returns `nil` or an error; it never panics. -/
theorem bitlistCheck_total (b : Bytes) (lim : UInt64) (hb : b.length < 2 ^ 64) :
    bitlistCheck b lim = .ok () ∨ bitlistCheck b lim = .error .err :=
  bitlistCheck_noPanic b lim hb

/-- completeness of `BitlistCheck` needs no hypothesis on the byte length -/
theorem bitlistCheck_complete (bits : List Bool) (lim : UInt64) (h : bits.length ≤ lim.toNat) :
    bitlistCheck (packBits (bits ++ [true])) lim = .ok () := by
  refine (bitlistCheck_iff _ lim ?_).mpr ⟨bits, h, rfl⟩
  rw [(bitlist_shape bits).1]
  exact Nat.lt_of_le_of_lt (div8_lt (Nat.lt_of_le_of_lt h lim.toNat_lt)) (by decide)

/-! the two exported sub-checks of `BitlistCheck`, exactly -/

theorem bitlistCheckByteLen_exact (byteLen lim : UInt64) :
    bitlistCheckByteLen byteLen lim =
      if byteLen.toNat = 0 then .error .err
      else if byteLen.toNat > lim.toNat / 8 + 1 then .error .err else .ok () :=
  bitlistCheckByteLen_eq byteLen lim

theorem bitlistCheckLastByte_exact (last : UInt8) (lim : UInt64) :
    bitlistCheckLastByte last lim =
      if last = 0 then .error .err
      else if Nat.log2 last.toNat > lim.toNat then .error .err else .ok () :=
  bitlistCheckLastByte_eq last lim

example : bitlistCheck [0xff, 0x0d] 11 = .ok () := by rfl
example : bitlistCheck (packBits ([true, false, true] ++ [true])) 3 = .ok () :=
  bitlistCheck_complete [true, false, true] 3 (by decide)
example : bitlistCheck [0xff, 0x0d] 10 = .error .err := by rfl
example : bitlistCheck [0xff, 0x00] 64 = .error .err := by rfl
example : ∃ bits : List Bool, bits.length ≤ 11 ∧ [0xff, 0x0d] = packBits (bits ++ [true]) :=
  ⟨[true, true, true, true, true, true, true, true, true, false, true], by decide +kernel, by decide +kernel⟩

/-! ## BitvectorCheck -/

/-- `BitvectorCheck(b, n)` succeeds exactly on the spec encodings of `n`-bit bitvectors
    (including the degenerate `n = 0`, where only the empty string is accepted), provided
    `n + 7` does not wrap. -/
theorem bitvectorCheck_iff (b : Bytes) (n : UInt64) (hb : b.length < 2 ^ 64)
    (hn : n.toNat + 7 < 2 ^ 64) :
    bitvectorCheck b n = .ok () ↔
      ∃ bits : List Bool, bits.length = n.toNat ∧ b = packBits bits := by
  rw [bitvectorCheck_ok_iff b n hb hn]
  constructor
  · intro ⟨hl, hz⟩
    refine ⟨unpack b n.toNat, unpack_length _ _, ?_⟩
    rw [eq_packBits_iff, unpack_length]
    refine ⟨hl, fun i => ?_⟩
    rw [unpack_getD]
    split
    · rfl
    · next h => exact hz i (Nat.le_of_not_lt h)
  · intro ⟨bits, hl, hb⟩
    subst hb
    exact ⟨by rw [packBits_length, hl], fun i hi => by rw [bitAt_packBits, getD_ge _ _ (hl ▸ hi)]⟩

theorem bitvectorCheck_total (b : Bytes) (n : UInt64) (hb : b.length < 2 ^ 64) :
    bitvectorCheck b n = .ok () ∨ bitvectorCheck b n = .error .err :=
  bitvectorCheck_noPanic b n hb

/-- `n = 0`: exactly the empty byte string is accepted (a non-empty one is an error). -/
theorem bitvectorCheck_zero (b : Bytes) (hb : b.length < 2 ^ 64) :
    bitvectorCheck b 0 = .ok () ↔ b = [] := by
  rw [bitvectorCheck_iff b 0 hb (by decide)]
  constructor
  · intro ⟨bits, hl, hb⟩
    have : bits = [] := List.length_eq_zero_iff.mp hl
    subst this; exact hb
  · intro h; exact ⟨[], rfl, h⟩

/-- Exact behaviour in the wrap-around region `n ≥ 2^64 - 7`: `(n+7)>>3` evaluates to 0, so
    exactly the empty byte string is accepted. -/
theorem bitvectorCheck_wrapped (b : Bytes) (n : UInt64) (hb : b.length < 2 ^ 64)
    (hn : 2 ^ 64 ≤ n.toNat + 7) :
    bitvectorCheck b n = .ok () ↔ b = [] := by
  -- `n + 7` wraps to `n + 7 - 2^64 < 7`
  have h8 : n.toNat + 7 - 2 ^ 64 < 8 :=
    Nat.sub_lt_left_of_lt_add hn (Nat.lt_trans (Nat.add_lt_add_right n.toNat_lt 7) (by decide))
  have he : ((n + 7) >>> 3).toNat = 0 := by
    rw [u64_shr3, UInt64.toNat_add]
    show (n.toNat + 7) % 2 ^ 64 / 8 = 0
    rw [Nat.mod_eq_sub_mod hn, Nat.mod_eq_of_lt (Nat.lt_trans h8 (by decide))]
    exact Nat.div_eq_of_lt h8
  rw [bitvectorCheck_ok_iff_wrapping b n hb, he, ← List.length_eq_zero_iff]
  exact ⟨fun h => h.1, fun h => ⟨h, by rw [if_pos h]⟩⟩

/-- DEFECT (outside any realistic input): for `n = 2^64-1` the empty byte string is accepted
    although a `Bitvector[2^64-1]` encoding has `2^61` bytes.  The universal statement
    `bitvectorCheck_iff` without the hypothesis `n + 7 < 2^64` is therefore false. -/
theorem bitvectorCheck_wrap_violates_spec :
    bitvectorCheck [] (UInt64.ofNat (2 ^ 64 - 1)) = .ok () ∧
    ¬ ∃ bits : List Bool, bits.length = (UInt64.ofNat (2 ^ 64 - 1)).toNat ∧ [] = packBits bits := by
  refine ⟨rfl, fun ⟨bits, hl, hb⟩ => ?_⟩
  have := congrArg List.length hb
  rw [packBits_length, hl, u64_ofNat (by decide)] at this
  exact absurd this (by decide)

theorem bitvectorCheckByteLen_exact (byteLen n : UInt64) (hn : n.toNat + 7 < 2 ^ 64) :
    bitvectorCheckByteLen byteLen n =
      if byteLen.toNat = (n.toNat + 7) / 8 then .ok () else .error .err :=
  bitvectorCheckByteLen_eq byteLen n hn

/-- `BitvectorCheckLastByte(last, n)`: error for `n = 0`, otherwise the bits of `last` from
    position `n mod 8` on must be zero when `n` is not a multiple of 8. -/
theorem bitvectorCheckLastByte_exact (last : UInt8) (n : UInt64) :
    bitvectorCheckLastByte last n = .ok () ↔
      n.toNat ≠ 0 ∧ (n.toNat % 8 ≠ 0 → ∀ j, n.toNat % 8 ≤ j → last.toNat.testBit j = false) :=
  bitvectorCheckLastByte_ok_iff last n

example : bitvectorCheck [0xff, 0x05] 11 = .ok () := by rfl
example : bitvectorCheck [0xff, 0x0d] 11 = .error .err := by rfl
example : bitvectorCheck [0xff, 0xfd] 16 = .ok () := by rfl
example : bitvectorCheck [] 0 = .ok () := by rfl
example : bitvectorCheck [0] 0 = .error .err := by rfl
example : ∃ bits : List Bool, bits.length = 11 ∧ [0xff, 0x05] = packBits bits :=
  ⟨[true, true, true, true, true, true, true, true, true, false, true], by decide +kernel, by decide +kernel⟩

/-! ## BitlistLen -/

/-- `BitlistLen` of a bitlist encoding is the number of bits. -/
theorem bitlistLen_packed (bits : List Bool) (h : bits.length < 2 ^ 64) :
    bitlistLen (packBits (bits ++ [true])) = .ok (UInt64.ofNat bits.length) := by
  obtain ⟨hlen, _, hlog⟩ := bitlist_shape bits
  obtain ⟨r, hr, hv⟩ := bitlistLen_eq (packBits (bits ++ [true])) (by rw [hlen]; exact div8_lt h)
  rw [hr]
  congr 1
  apply UInt64.toNat_inj.mp
  rw [hv, u64_ofNat h, hlen, if_neg (Nat.succ_ne_zero _), hlog, Nat.add_sub_cancel, Nat.div_add_mod]

/-- exact value on every byte string (the documented "sane defaults" for invalid input):
    0 for the empty string, else `8·(len-1) + log2(last byte)` with `log2 0 = 0`. -/
theorem bitlistLen_exact (b : Bytes) (hb : b.length ≤ 2 ^ 61) :
    ∃ r, bitlistLen b = .ok r ∧
      r.toNat = if b.length = 0 then 0
                else 8 * (b.length - 1) + Nat.log2 (b.getD (b.length - 1) 0).toNat :=
  bitlistLen_eq b hb

example : bitlistLen [0xff, 0x0d] = .ok 11 := by rfl
example : bitlistLen (packBits ([true, false, false] ++ [true])) = .ok 3 := by rfl

/-! ## GetBit / SetBit -/

/-- `GetBit` on a packed bit sequence returns the bit. -/
theorem getBit_packed (bits : List Bool) (i : UInt64) (h : i.toNat < bits.length) :
    getBit (packBits bits) i = .ok bits[i.toNat] := by
  rw [getBit_eq, if_pos (by rw [packBits_length]; exact div8_lt_ceil8 h), bitAt_packBits,
    getD_lt _ _ h]

/-- `GetBit` on a bitlist encoding, below the delimiter, returns the bit. -/
theorem getBit_bitlist (bits : List Bool) (i : UInt64) (h : i.toNat < bits.length) :
    getBit (packBits (bits ++ [true])) i = .ok bits[i.toNat] := by
  rw [getBit_packed (bits ++ [true]) i (by rw [List.length_append]; exact Nat.lt_succ_of_lt h)]
  simp [List.getElem_append_left h]

/-- `GetBit` panics exactly when the byte index `i>>3` is outside the slice. -/
theorem getBit_panic_iff (b : Bytes) (i : UInt64) :
    getBit b i = .error .panic ↔ b.length ≤ i.toNat / 8 := by
  rw [getBit_eq]
  split
  · next h => exact ⟨nofun, fun c => absurd h (Nat.not_lt.mpr c)⟩
  · next h => exact ⟨fun _ => Nat.le_of_not_lt h, fun _ => rfl⟩

/-- `SetBit` on a packed bit sequence is the list update. -/
theorem setBit_packed (bits : List Bool) (i : UInt64) (v : Bool) (h : i.toNat < bits.length) :
    setBit (packBits bits) i v = .ok (packBits (bits.set i.toNat v)) := by
  obtain ⟨b', hb', hl, hbits⟩ :=
    setBit_spec (packBits bits) i v (by rw [packBits_length]; exact div8_lt_ceil8 h)
  rw [hb']
  congr 1
  apply bytes_ext
  · rw [hl, packBits_length, packBits_length, List.length_set]
  · intro j
    rw [hbits, bitAt_packBits, bitAt_packBits, List.getD_eq_getElem?_getD,
      List.getD_eq_getElem?_getD, List.getElem?_set]
    by_cases hj : j = i.toNat
    · subst hj; rw [if_pos rfl, if_pos rfl, if_pos h]; rfl
    · rw [if_neg hj, if_neg (fun e => hj e.symm)]

/-- `SetBit` on a bitlist encoding, below the delimiter, is the list update; the delimiter stays
    in place. -/
theorem setBit_bitlist (bits : List Bool) (i : UInt64) (v : Bool) (h : i.toNat < bits.length) :
    setBit (packBits (bits ++ [true])) i v = .ok (packBits (bits.set i.toNat v ++ [true])) := by
  rw [setBit_packed (bits ++ [true]) i v (by rw [List.length_append]; exact Nat.lt_succ_of_lt h),
    List.set_append_left _ _ h]

theorem setBit_panic_iff (b : Bytes) (i : UInt64) (v : Bool) :
    setBit b i v = .error .panic ↔ b.length ≤ i.toNat / 8 := by
  constructor
  · intro h
    by_cases hlt : i.toNat / 8 < b.length
    · obtain ⟨b', hb', _⟩ := setBit_spec b i v hlt
      rw [hb'] at h; cases h
    · exact Nat.le_of_not_lt hlt
  · exact setBit_panic b i v

example : getBit (packBits [true, false, true, true, false, false, false, false, false, true]) 9
    = .ok true := by rfl
example : setBit (packBits ([true, false, true] ++ [true])) 1 true
    = .ok (packBits ([true, true, true] ++ [true])) := by rfl
example : getBit [0xff] 8 = .error .panic := by rfl
example : getBit (packBits ([false, true, false] ++ [true])) 1 = .ok true :=
  getBit_bitlist [false, true, false] 1 (by decide)
example : setBit [0xff] 8 true = .error .panic := (setBit_panic_iff [0xff] 8 true).mpr (by decide)

/-! ## ones counts, zero test -/

/-- `BitvectorOnesCount` of a packed bit sequence is the number of `true` bits. -/
theorem bitvectorOnesCount_packed (bits : List Bool) (h : bits.length < 2 ^ 64) :
    (bitvectorOnesCount (packBits bits)).toNat = bits.count true :=
  onesLoop_packBits bits _ List.count_le_length h

/-- `BitlistOnesCount` of a bitlist encoding is the number of `true` bits (delimiter excluded). -/
theorem bitlistOnesCount_packed (bits : List Bool) (h : bits.length < 2 ^ 64) :
    (bitlistOnesCount (packBits (bits ++ [true]))).toNat = bits.count true := by
  have hc : (bits ++ [false]).count true = bits.count true := by rw [List.count_append]; rfl
  rw [bitlistOnesCount_nz _ (packBits_delim_length_ne_zero bits) (bitlist_shape bits).2.1,
    clear_delim, onesLoop_packBits _ bits.length (by rw [hc]; exact List.count_le_length) h, hc]

/-- `IsZeroBitlist` of a bitlist encoding: all bits are false. -/
theorem isZeroBitlist_packed (bits : List Bool) :
    isZeroBitlist (packBits (bits ++ [true])) = bits.all (fun x => !x) := by
  rw [isZeroBitlist_nz _ (packBits_delim_length_ne_zero bits) (bitlist_shape bits).2.1,
    clear_delim, allZero_packBits, List.all_append]
  exact Bool.and_true _

theorem isZeroBitlist_iff (bits : List Bool) :
    isZeroBitlist (packBits (bits ++ [true])) = true ↔ ∀ x ∈ bits, x = false := by
  rw [isZeroBitlist_packed, List.all_eq_true]
  exact forall_congr' fun x => forall_congr' fun _ => Iff.of_eq (Bool.not_eq_true' x)

example : (bitlistOnesCount (packBits ([true, false, true, true, false, false, false, true, true] ++ [true]))).toNat = 5 := by decide +kernel
example : (bitvectorOnesCount (packBits [true, false, true, true, false, false, false, true, true])).toNat = 5 := by decide +kernel
example : isZeroBitlist (packBits ([false, false, false, false, false, false, false, false, false] ++ [true])) = true := by decide +kernel
example : isZeroBitlist (packBits ([false, false, false, false, false, false, false, false, true] ++ [true])) = false := by decide +kernel

/-! ## Covers -/

/-- `Covers` on byte strings of different lengths is an error -/
theorem covers_length_mismatch (a b : Bytes) (h : a.length ≠ b.length) :
    covers a b = .error .err := by
  unfold covers
  rw [bne_iff_ne.mpr h]; rfl

/-- bitvectors of equal length: `Covers` says whether every set bit of `B` is set in `A`. -/
theorem covers_bitvector (A B : List Bool) (h : A.length = B.length) :
    ∃ r, covers (packBits A) (packBits B) = .ok r ∧
      (r = true ↔ ∀ i (hi : i < B.length), B[i] = true → A[i]'(h ▸ hi) = true) := by
  obtain ⟨r, hr, hiff⟩ := covers_ok (packBits A) (packBits B)
    (by rw [packBits_length, packBits_length, h])
  refine ⟨r, hr, hiff.trans ?_⟩
  simp only [bitAt_packBits]
  constructor
  · intro hall i hi
    have := hall i
    rwa [getD_lt B false hi, getD_lt A false (h ▸ hi)] at this
  · intro hall i
    by_cases hi : i < B.length
    · rw [getD_lt B false hi, getD_lt A false (h ▸ hi)]; exact hall i hi
    · rw [getD_ge B false (Nat.le_of_not_lt hi)]; exact nofun

/-- bitlists of equal length: `Covers` says whether every set bit of `B` is set in `A`; the
    delimiter bits do not change the outcome. -/
theorem covers_bitlist (A B : List Bool) (h : A.length = B.length) :
    ∃ r, covers (packBits (A ++ [true])) (packBits (B ++ [true])) = .ok r ∧
      (r = true ↔ ∀ i (hi : i < B.length), B[i] = true → A[i]'(h ▸ hi) = true) := by
  obtain ⟨r, hr, hiff⟩ := covers_bitvector (A ++ [true]) (B ++ [true]) (by simp [h])
  refine ⟨r, hr, hiff.trans ?_⟩
  constructor
  · intro hall i hi
    have := hall i (by rw [List.length_append]; exact Nat.lt_succ_of_lt hi)
    rwa [List.getElem_append_left hi, List.getElem_append_left (h ▸ hi)] at this
  · intro hall i hi
    by_cases hlt : i < B.length
    · rw [List.getElem_append_left hlt, List.getElem_append_left (h ▸ hlt)]
      exact hall i hlt
    · -- the delimiter position, set on both sides
      rw [List.length_append] at hi
      have e : i = B.length := Nat.le_antisymm (Nat.le_of_lt_succ hi) (Nat.le_of_not_lt hlt)
      subst e
      intro _
      simp [h]

example : covers (packBits [true, true, false]) (packBits [true, false, false]) = .ok true := by rfl
example : covers (packBits [true, false, false]) (packBits [true, true, false]) = .ok false := by rfl
example : covers [1, 2] [1] = .error .err := by rfl
example : covers (packBits ([true, true, false] ++ [true])) (packBits ([false, true, false] ++ [true]))
    = .ok true := by rfl
example : ∃ r, covers (packBits ([true, false] ++ [true])) (packBits ([true, true] ++ [true])) = .ok r ∧
    (r = true ↔ ∀ i (hi : i < 2), [true, true][i] = true → [true, false][i] = true) :=
  covers_bitlist [true, false] [true, true] rfl

end ZtypV.Props.C18
