/-
C08 — Flat Merkleization helpers equal spec roots.

Model: `ZtypV/Model/Merkleize.lean` (namespace `ZtypV.Mk`; `none` = Go panic).
Every theorem holds for every pair hash `h` and has no size bound other than the `uint64`
range of the Go arguments (`< 2^64`; for the helpers that round a length/limit up to whole
chunks: `+31`, `+3`, `+255` must not wrap, see `C08_byteList_limit_wraps`).
`count > limit` is outside the property; `C08_merkleize_clamp` records what the code does there.
-/
import ZtypV.Proofs.MerkleizeTyped
namespace ZtypV.Props.C08
open ZtypV ZtypV.Mk

/-- `tree.Merkleize` never panics and returns the SSZ `merkleize(chunks, limit)` root, for every
    count ≤ limit < 2^64 (including limit = 0 and 1) and every leaf content. -/
theorem C08_merkleize (h : HashFn) (count limit : Nat) (leaf : Nat → Root)
    (hcl : count ≤ limit) (hlim : limit < 2^64) :
    merkleize h count limit (fun i => some (leaf i)) =
      some (merk h (coverDepth limit) ((List.range count).map leaf)) :=
  merkleize_spec h count limit _ leaf (fun _ _ => rfl) hcl hlim

example (h : HashFn) : merkleize h 5 70 (fun i => some (chunkOf [UInt8.ofNat i])) =
    some (merk h 7 ((List.range 5).map fun i => chunkOf [UInt8.ofNat i])) :=
  C08_merkleize h 5 70 _ (by decide) (by decide)

/-- `tree.Merkleize` with a leaf closure that may itself panic outside `[0, count)` -/
theorem C08_merkleize_leaf (h : HashFn) (count limit : Nat) (leaf : Nat → Option Root) (L : Nat → Root)
    (hleaf : ∀ i, i < count → leaf i = some (L i)) (hcl : count ≤ limit) (hlim : limit < 2^64) :
    merkleize h count limit leaf = some (merk h (coverDepth limit) ((List.range count).map L)) :=
  merkleize_spec h count limit leaf L hleaf hcl hlim

example : ∀ i, i < 2 → ([z0, z0] : List Root)[i]? = some z0 := by decide

/-- outside the property (`count > limit`): the count is clamped to the limit -/
theorem C08_merkleize_clamp (h : HashFn) (count limit : Nat) (leaf : Nat → Option Root)
    (hgt : count > limit) : merkleize h count limit leaf = merkleize h limit limit leaf := by
  unfold merkleize
  rw [if_pos hgt, if_neg (Nat.lt_irrefl limit)]

example : (7 : Nat) > 3 := by decide

/-- `HashFn.HashTreeRoot(fields...)` (special cases 0, 1, 2 fields and the general one) -/
theorem C08_fields (h : HashFn) (rs : List Root) (hlen : rs.length < 2^64) :
    fieldsHTR h rs = some (merk h (coverDepth rs.length) rs) := by
  match rs, hlen with
  | [], _ => rfl
  | [a], _ => rfl
  | [a, b], _ => rfl
  | a :: b :: c :: rest, hlen =>
    show merkleize h (a :: b :: c :: rest).length (a :: b :: c :: rest).length
      (fun i => (a :: b :: c :: rest)[i]?) = _
    generalize a :: b :: c :: rest = xs at hlen ⊢
    rw [merkleize_spec h xs.length xs.length _ (fun i => ((xs[i]?).map id).getD z0) ?_
      (Nat.le_refl _) hlen, range_map_getElem?_map, List.map_id]
    intro i hi
    rw [List.getElem?_eq_getElem hi]; rfl

example (h : HashFn) : fieldsHTR h [z0, zh h 1, z0] = some (merk h (coverDepth 3) [z0, zh h 1, z0]) :=
  C08_fields h [z0, zh h 1, z0] (by simp)

/-- `HashFn.HashTreeRoot` on the fields' spec roots is the spec root of the container -/
theorem C08_fields_container (h : HashFn) (fs : List Ty) (vs : List Val)
    (hl : fs.length = vs.length) (hlen : fs.length < 2^64) :
    fieldsHTR h (htrFields h fs vs) = some (htr h (.container fs) (.seq vs)) := by
  rw [htr_container, C08_fields h _ (by rw [htrFields_length h fs vs hl]; exact hlen),
    htrFields_length h fs vs hl]

example : ([Ty.uint 8, Ty.bool] : List Ty).length = ([Val.num 5, Val.bool true] : List Val).length := rfl

/-- `ComplexVectorHTR` on element roots (a nil element counts as the zero root) -/
theorem C08_complexVector_roots (h : HashFn) (series : Nat → Option Root) (n : Nat) (hn : n < 2^64) :
    complexVectorHTR h series n =
      some (merk h (coverDepth n) ((List.range n).map fun i => (series i).getD z0)) :=
  merkleize_spec h n n (complexLeaf series) (fun i => (series i).getD z0)
    (fun _ _ => rfl) (Nat.le_refl _) hn

example (h : HashFn) : complexVectorHTR h (fun i => if i = 1 then none else some (zh h 2)) 3 =
    some (merk h (coverDepth 3) [zh h 2, z0, zh h 2]) :=
  C08_complexVector_roots h _ 3 (by decide)

/-- `ComplexVectorHTR` = spec root of `Vector[e, n]` for a composite element type -/
theorem C08_complexVector (h : HashFn) (e : Ty) (vs : List Val) (hb : e.isBasic = false)
    (hn : vs.length < 2^64) :
    complexVectorHTR h (fun i => (vs[i]?).map (htr h e)) vs.length =
      some (htr h (.vector e vs.length) (.seq vs)) := by
  rw [C08_complexVector_roots h _ _ hn, htr_vector_complex h e _ vs hb, range_map_getElem?_map]

example : (Ty.container [.uint 8]).isBasic = false := rfl

/-- `ComplexListHTR` on element roots -/
theorem C08_complexList_roots (h : HashFn) (series : Nat → Option Root) (n limit : Nat)
    (hnl : n ≤ limit) (hl : limit < 2^64) :
    complexListHTR h series n limit =
      some (mixin h (merk h (coverDepth limit) ((List.range n).map fun i => (series i).getD z0)) n) := by
  unfold complexListHTR
  rw [merkleize_spec h n limit (complexLeaf series) (fun i => (series i).getD z0)
    (fun _ _ => rfl) hnl hl]
  rfl

example (h : HashFn) : complexListHTR h (fun _ => some (zh h 2)) 2 (2^32) =
    some (mixin h (merk h (coverDepth (2^32)) [zh h 2, zh h 2]) 2) :=
  C08_complexList_roots h _ 2 (2^32) (by decide) (by decide)

/-- `ComplexListHTR` = spec root of `List[e, limit]` for a composite element type -/
theorem C08_complexList (h : HashFn) (e : Ty) (vs : List Val) (limit : Nat) (hb : e.isBasic = false)
    (hnl : vs.length ≤ limit) (hl : limit < 2^64) :
    complexListHTR h (fun i => (vs[i]?).map (htr h e)) vs.length limit =
      some (htr h (.list e limit) (.seq vs)) := by
  rw [C08_complexList_roots h _ _ _ hnl hl, htr_list_complex h e _ vs hb, range_map_getElem?_map]

example : ([Val.seq [], Val.seq []] : List Val).length ≤ 2^40 ∧ 2^40 < 2^64 := by decide

/-- `HashFn.Mixin` is the spec's `mix_in_length` -/
theorem C08_mixin (h : HashFn) (v : Root) (n : Nat) : mixinGo h v n = mixin h v n := rfl

/-- `ChunksHTR` returns the SSZ `merkleize(chunks, limit)` root -/
theorem C08_chunks (h : HashFn) (count limit : Nat) (leaf : Nat → Root)
    (hcl : count ≤ limit) (hlim : limit < 2^64) :
    chunksHTR h (fun i => some (leaf i)) count limit =
      some (merk h (coverDepth limit) ((List.range count).map leaf)) :=
  merkleize_spec h count limit _ leaf (fun _ _ => rfl) hcl hlim

example : (9 : Nat) ≤ 2^64 - 1 ∧ 2^64 - 1 < 2^64 := by decide

/-- `Uint8VectorHTR` = spec root of `Vector[uint8, n]` -/
theorem C08_uint8Vector (h : HashFn) (bs : Bytes) (hlen : bs.length + 31 < 2^64) :
    uint8VectorHTR h (fun j => bs.getD j 0) bs.length =
      some (htr h (.vector (.uint 1) bs.length) (.seq (bs.map fun b => .num b.toNat))) := by
  rw [uint8VectorHTR_chunks h bs hlen]; exact congrArg some (htr_u8Vector h bs bs.length).symm

example : ([1, 2, 3] : Bytes).length + 31 < 2^64 := by decide

/-- `Uint8ListHTR` = spec root of `List[uint8, limit]` -/
theorem C08_uint8List (h : HashFn) (bs : Bytes) (limit : Nat)
    (hll : bs.length ≤ limit) (hlim : limit + 31 < 2^64) :
    uint8ListHTR h (fun j => bs.getD j 0) bs.length limit =
      some (htr h (.list (.uint 1) limit) (.seq (bs.map fun b => .num b.toNat))) := by
  rw [uint8ListHTR_chunks h bs limit hll hlim]; exact congrArg some (htr_u8List h bs limit).symm

example : ([1, 2, 3] : Bytes).length ≤ 2^40 ∧ 2^40 + 31 < 2^64 := by decide

/-- `Uint64VectorHTR` = spec root of `Vector[uint64, n]` -/
theorem C08_uint64Vector (h : HashFn) (ns : List Nat) (hlen : ns.length + 3 < 2^64) :
    uint64VectorHTR h (fun j => ns.getD j 0) ns.length =
      some (htr h (.vector (.uint 8) ns.length) (.seq (ns.map .num))) := by
  rw [uint64VectorHTR_chunks h ns hlen]; exact congrArg some (htr_u64Vector h ns ns.length).symm

example : ([1, 2^64-1, 3, 4, 5] : List Nat).length + 3 < 2^64 := by decide

/-- `Uint64ListHTR` = spec root of `List[uint64, limit]` -/
theorem C08_uint64List (h : HashFn) (ns : List Nat) (limit : Nat)
    (hll : ns.length ≤ limit) (hlim : limit + 3 < 2^64) :
    uint64ListHTR h (fun j => ns.getD j 0) ns.length limit =
      some (htr h (.list (.uint 8) limit) (.seq (ns.map .num))) := by
  rw [uint64ListHTR_chunks h ns limit hll hlim]; exact congrArg some (htr_u64List h ns limit).symm

example : ([1, 2^64-1, 3, 4, 5] : List Nat).length ≤ 2^32 ∧ 2^32 + 3 < 2^64 := by decide

/-- `ByteVectorHTR` = spec root of a byte vector (`ByteVector[n]`, equally `Vector[uint8, n]`) -/
theorem C08_byteVector (h : HashFn) (bs : Bytes) (hlen : bs.length + 31 < 2^64) :
    byteVectorHTR h bs = some (htr h (.bytesN bs.length) (.bytes bs)) ∧
    byteVectorHTR h bs =
      some (htr h (.vector (.uint 1) bs.length) (.seq (bs.map fun b => .num b.toNat))) := by
  rw [byteVectorHTR_chunks h bs hlen]
  exact ⟨congrArg some (htr_bytesN h bs bs.length).symm, congrArg some (htr_u8Vector h bs bs.length).symm⟩

example : (List.replicate 48 (7 : UInt8)).length + 31 < 2^64 := by decide

/-- `ByteListHTR` = spec root of `List[uint8, limit]` -/
theorem C08_byteList (h : HashFn) (bs : Bytes) (limit : Nat)
    (hll : bs.length ≤ limit) (hlim : limit + 31 < 2^64) :
    byteListHTR h bs limit =
      some (htr h (.list (.uint 1) limit) (.seq (bs.map fun b => .num b.toNat))) := by
  rw [byteListHTR_chunks h bs limit hll hlim]; exact congrArg some (htr_u8List h bs limit).symm

example : (List.replicate 33 (7 : UInt8)).length ≤ 2^20 ∧ 2^20 + 31 < 2^64 := by decide

/-- `BitVectorHTR` on the packed bits = spec root of `Bitvector[n]` -/
theorem C08_bitVector (h : HashFn) (bits : List Bool) (hlen : bits.length + 255 < 2^64) :
    bitVectorHTR h (packBits bits) = some (htr h (.bitvector bits.length) (.bits bits)) := by
  have hl : (packBits bits).length + 31 < 2^64 := by
    rw [packBits_length]
    exact Nat.lt_of_le_of_lt (Nat.add_le_add_right (Nat.div_le_self _ 8) 31) (by omega)
  rw [bitVectorHTR_chunks h _ hl, ← packBits_chunks, htr_bitvector]

example : (List.replicate 257 true).length + 255 < 2^64 := by rw [List.length_replicate]; decide

/-- `BitListHTR` on the packed bits with delimiter (the length is recovered by `BitlistLen`, the
    delimiter bit is masked out) = spec root of `Bitlist[limit]` -/
theorem C08_bitList (h : HashFn) (bits : List Bool) (limit : Nat)
    (hll : bits.length ≤ limit) (hlim : limit + 255 < 2^64) :
    bitListHTR h (packBits (bits ++ [true])) limit = some (htr h (.bitlist limit) (.bits bits)) := by
  rw [bitListHTR_chunks h bits limit hll hlim, htr_bitlist]

example : (List.replicate 256 true).length ≤ 513 ∧ 513 + 255 < 2^64 := by
  rw [List.length_replicate]; decide

/-- `bitfields.BitlistLen` recovers the bit length of a well-formed bitlist -/
theorem C08_bitlistLen (bits : List Bool) (hlen : bits.length < 2^64) :
    bitlistLen (packBits (bits ++ [true])) = bits.length :=
  bitlistLen_delimited bits hlen

example : bitlistLen (packBits ([true, false, true, true, false, false, false, false, true] ++ [true])) = 9 := by
  decide

/-- `HashFn.Union` is the spec's `mix_in_selector` -/
theorem C08_union_roots (h : HashFn) (sel : UInt8) (value : Option Root) :
    unionHTR h sel value = mixin h (value.getD z0) sel.toNat := by
  unfold unionHTR mixin
  rw [selectorNode_eq]
  cases value <;> rfl

/-- `HashFn.Union` = spec root of a union value: option with a value -/
theorem C08_union_some (h : HashFn) (hasNone : Bool) (opts : List Ty) (sel : Nat) (t : Ty) (v : Val)
    (hopt : unionOpt hasNone opts sel = some t) (hsel : sel < 256) :
    unionHTR h (UInt8.ofNat sel) (some (htr h t v)) = htr h (.union hasNone opts) (.union sel v) := by
  rw [C08_union_roots, htr_union, hopt]
  simp [UInt8.toNat_ofNat', Nat.mod_eq_of_lt hsel]

example : unionOpt true [.uint 8, .bool] 2 = some .bool ∧ 2 < 256 := ⟨rfl, by decide⟩

/-- `HashFn.Union` with a nil value = spec root of the `None` option -/
theorem C08_union_none (h : HashFn) (hasNone : Bool) (opts : List Ty) (sel : Nat) (v : Val)
    (hopt : unionOpt hasNone opts sel = none) (hsel : sel < 256) :
    unionHTR h (UInt8.ofNat sel) none = htr h (.union hasNone opts) (.union sel v) := by
  rw [C08_union_roots, htr_union, hopt]
  simp [UInt8.toNat_ofNat', Nat.mod_eq_of_lt hsel]

example : unionOpt true [.uint 8, .bool] 0 = none ∧ 0 < 256 := ⟨rfl, by decide⟩

/-! ### boundary outside the stated domain (typed limits within 31/3/255 of 2^64)

The typed list helpers round the element limit up to whole chunks in `uint64`
(`(limit+31)/32`, `(limit+3)>>2`, `(bitlimit+0xff)>>8`); for limits in the last few values below
2^64 the addition wraps and the chunk limit collapses (here to 0).  The property's typed
limits stop at 2^40, so this is recorded as exact behaviour, not as a violation. -/

/-- exact behaviour of `ByteListHTR(nil, 2^64-1)`: chunk limit wraps to 0, contents root = zero chunk -/
theorem C08_byteList_limit_wraps (h : HashFn) :
    byteListHTR h [] (2^64 - 1) = some (mixin h z0 0) ∧
    htr h (.list (.uint 1) (2^64 - 1)) (.seq []) = mixin h (zh h 59) 0 := by
  constructor
  · rfl
  · have e : coverDepth ((2^64 - 1 + 31) / 32) = 59 := by decide
    refine (htr_u8List h [] (2^64 - 1)).trans ?_
    rw [e]
    exact congrArg (fun r => mixin h r 0) (merk_nil h 59)

/-- the two roots of `C08_byteList_limit_wraps` differ for a concrete pair hash -/
theorem C08_byteList_limit_wraps_witness :
    ∃ h : HashFn, byteListHTR h [] (2^64 - 1) ≠
      some (htr h (.list (.uint 1) (2^64 - 1)) (.seq [])) := by
  refine ⟨fun a _ => [a.headD 0 + 1], ?_⟩
  rw [(C08_byteList_limit_wraps _).1, (C08_byteList_limit_wraps _).2]
  have hz : ∀ d, (zh (fun a _ => [a.headD 0 + 1]) d).headD 0 = UInt8.ofNat d := by
    intro d
    induction d with
    | zero => rfl
    | succ d ih =>
      show ([(zh _ d).headD 0 + 1] : List UInt8).headD 0 = _
      rw [List.headD_cons, ih]
      simp [UInt8.ofNat_add]
  intro heq
  have h1 := congrArg (fun o => (o.getD []).headD 0) heq
  simp only [mixin, Option.getD_some, List.headD_cons, hz 59] at h1
  revert h1
  decide

end ZtypV.Props.C08
