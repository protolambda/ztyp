/-
C02, second half — "Deserializing that encoding yields a view with the same encoding, the same
hash-tree-root and, through the typed getters, the same component values": the round trip with
decoder COMPLETENESS discharged (Props/C02.lean carries it as the hypothesis `DecodeComplete`).

Model: `View.decode` / `View.decodeTop` (`TypeDef.Deserialize` over a `DecodingReader`).
Proofs: Proofs/DecodeComplete*.lean (`decode_complete`, `decodeTop_complete`).

Side conditions (all decidable), exactly those of Props/C02.lean:
* `t.wf`, `hasType t v`;
* `(serialize t v).length < 2^32` — offsets are `uint32` words: an encoding of 2^32 bytes or
  more that contains an offset table is not decodable (the written offsets wrapped);
* `View.inRange t` for the statements that read the decoded view back (`Serialize`, getters);
* `View.noBoolSeries t` for the hash-tree-root (finding D3).
-/
import ZtypV.Props.C02
import ZtypV.Proofs.DecodeComplete
namespace ZtypV.Props.C02
open ZtypV ZtypV.View

/-- **Decoder completeness, any reader.**  For a well-formed type, a typed value and ANY reader
    whose stream starts with the value's encoding and whose scope is exactly the encoding's
    length, `Deserialize` succeeds, consumes exactly the encoding (the rest of the stream is
    left for the caller) and returns the backing the constructors build for the value. -/
theorem C02_decode_complete_reader (h : HashFn) (t : Ty) (v : Val) (dr : DR) (rest : Bytes)
    (hwf : t.wf = true) (hty : hasType t v = true) (hsize : (serialize t v).length < 2 ^ 32)
    (hscope : dr.scope = (serialize t v).length) (hi : dr.i ≤ dr.max)
    (hav : dr.avail = serialize t v ++ rest) :
    ∃ n dr', decode h t dr = .ok (n, dr') ∧ dr'.avail = rest ∧ construct h t v = .ok n :=
  DecodeProofs.decode_complete h t v dr rest hwf hty hsize hscope hi hav

/-- Leaf types (uint, boolean, small byte vectors) need only `scope ≥ fixedSize`. -/
theorem C02_decode_complete_leaf (h : HashFn) (t : Ty) (v : Val) (dr : DR) (rest : Bytes)
    (hleaf : DecodeProofs.isLeafTy t = true) (hty : hasType t v = true)
    (hscope : dr.i + t.fixedSize ≤ dr.max) (hav : dr.avail = serialize t v ++ rest) :
    ∃ n dr', decode h t dr = .ok (n, dr') ∧ dr'.avail = rest := by
  have hl : DecodeProofs.LeafComplete h t := by
    cases t with
    | uint b => exact DecodeProofs.uint_leafComplete h b
    | bool => exact DecodeProofs.bool_leafComplete h
    | bytesN k => exact DecodeProofs.bytesN_leafComplete h k
    | _ => cases hleaf
  obtain ⟨⟨n, dr'⟩, hd, ha⟩ := hl v dr rest hty hscope hav
  exact ⟨n, dr', hd, ha⟩

/-- The decoded backing is the constructed one. -/
theorem C02_decode_eq_construct (h : HashFn) (t : Ty) (v : Val) (hwf : t.wf = true)
    (hty : hasType t v = true) (hsize : (serialize t v).length < 2 ^ 32) :
    ∃ n, decodeTop h t (serialize t v) = .ok n ∧ construct h t v = .ok n :=
  DecodeProofs.decodeTop_complete h t v hwf hty hsize

/-- **`DecodeComplete` holds** (exactly the statement `def DecodeComplete` of Props/C02.lean):
    the decoder accepts every spec encoding shorter than 2^32 bytes. -/
theorem C02_decode_complete : DecodeComplete := by
  intro h t v hwf hty hsize
  obtain ⟨n, hd, _⟩ := C02_decode_eq_construct h t v hwf hty hsize
  exact ⟨n, hd⟩

/-- **C02, round trip, fully discharged** (`C02_roundtrip_full` of Props/C02.lean, no hypothesis
    left): value → spec bytes → `Deserialize` succeeds, and the decoded view serializes to the
    same bytes, reports their length, has the spec hash-tree-root (outside finding D3) and
    returns the same components through the typed getters. -/
theorem C02_roundtrip_full_holds : C02_roundtrip_full :=
  C02_roundtrip_full_of C02_decode_complete

/-- The same, spelled out (named `C02_roundtrip_total` because `C02_roundtrip` is the conditional
    form in Props/C02.lean), together with: the decoded view IS the constructed view. -/
theorem C02_roundtrip_total (h : HashFn) (t : Ty) (v : Val) (hwf : t.wf = true)
    (hrange : inRange t = true) (hty : hasType t v = true)
    (hsize : (serialize t v).length < 2 ^ 32) :
    ∃ n, decodeTop h t (serialize t v) = .ok n ∧
      construct h t v = .ok n ∧
      serializeView t n = .ok (serialize t v) ∧
      valueByteLength t n = .ok (serialize t v).length ∧
      viewVal t n = .ok v ∧
      (noBoolSeries t = true → n.root h = htr h t v) := by
  obtain ⟨n, hd, _⟩ := C02_decode_eq_construct h t v hwf hty hsize
  exact ⟨n, hd, C02_roundtrip h t v n hwf hrange hty hsize hd⟩

/-- Decoding is the inverse of serializing on bytes as well: re-encoding what was decoded from
    `serialize t v` gives `serialize t v`. -/
theorem C02_decode_then_serialize (h : HashFn) (t : Ty) (v : Val) (hwf : t.wf = true)
    (hrange : inRange t = true) (hty : hasType t v = true)
    (hsize : (serialize t v).length < 2 ^ 32) :
    (decodeTop h t (serialize t v) >>= fun n => serializeView t n) = .ok (serialize t v) := by
  obtain ⟨n, hd, _, hs, _⟩ := C02_roundtrip_total h t v hwf hrange hty hsize
  rw [hd]; exact hs

/-! ### non-vacuity -/

/-- the hypotheses of `C02_roundtrip_total` hold on the nested example of Props/C02.lean (every
    kind of component: offsets in a container and in a vector of lists, a union, bitfields), and
    the theorem yields the decoded view -/
example : ∃ n, decodeTop exH exT (serialize exT exV) = .ok n ∧ construct exH exT exV = .ok n ∧
    serializeView exT n = .ok (serialize exT exV) ∧ viewVal exT n = .ok exV :=
  let ⟨n, h1, h2, h3, _, h5, _⟩ :=
    C02_roundtrip_total exH exT exV (by decide) (by decide) (by decide) (by decide)
  ⟨n, h1, h2, h3, h5⟩

/-- the reader form on a concrete reader that is NOT at the start of its scope and whose stream
    continues after the encoding: scope 10 − 4 = 6 = encoding length, 2 trailing bytes are left -/
example : ∃ n dr', decode exH (.list (.uint 2) 4)
      { i := 4, max := 10, avail := [1, 0, 2, 0, 3, 0, 0xAA, 0xBB] } = .ok (n, dr') ∧
    dr'.avail = [0xAA, 0xBB] ∧
    construct exH (.list (.uint 2) 4) (.seq [.num 1, .num 2, .num 3]) = .ok n :=
  C02_decode_complete_reader exH (.list (.uint 2) 4) (.seq [.num 1, .num 2, .num 3])
    { i := 4, max := 10, avail := [1, 0, 2, 0, 3, 0, 0xAA, 0xBB] } [0xAA, 0xBB]
    (by decide) (by decide) (by decide) (by decide) (by decide) (by decide)

/-- the exact-scope precondition is necessary for non-leaf types: the same list handed a scope
    one byte too long is rejected by the decoder (7 is not a multiple of the element size) -/
example : decode exH (.list (.uint 2) 4)
    { i := 3, max := 10, avail := [1, 0, 2, 0, 3, 0, 0xAA, 0xBB] } = .error .other := rfl

/-- a leaf type accepts any larger scope -/
example : ∃ n dr', decode exH (.uint 2) { i := 3, max := 10, avail := [1, 2, 0xAA] } = .ok (n, dr') ∧
    dr'.avail = [0xAA] :=
  C02_decode_complete_leaf exH (.uint 2) (.num 513) { i := 3, max := 10, avail := [1, 2, 0xAA] } [0xAA]
    rfl (by decide) (by decide) (by decide)

/-- boundary cases of the decoder all accepted: the empty bitlist `[0x01]`, the `None` option
    (scope 1), an empty list of variable-size elements (scope 0), a full bitlist -/
example : ∃ n, decodeTop exH (.bitlist 8) (serialize (.bitlist 8) (.bits [])) = .ok n :=
  C02_decode_complete exH (.bitlist 8) (.bits []) (by decide) (by decide) (by decide)
example : ∃ n, decodeTop exH (.union true [.uint 1]) (serialize (.union true [.uint 1]) (.union 0 .none)) = .ok n :=
  C02_decode_complete exH _ _ (by decide) (by decide) (by decide)
example : ∃ n, decodeTop exH (.list (.bitlist 3) 2) (serialize (.list (.bitlist 3) 2) (.seq [])) = .ok n :=
  C02_decode_complete exH _ _ (by decide) (by decide) (by decide)
example : ∃ n, decodeTop exH (.bitlist 8) (serialize (.bitlist 8) (.bits (List.replicate 8 true))) = .ok n :=
  C02_decode_complete exH _ _ (by decide) (by decide) (by decide)

end ZtypV.Props.C02
