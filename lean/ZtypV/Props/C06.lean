/-
C06  Cached Merkle roots are never stale.

Model H (`ZtypV/Model/Heap.lean`): a pair cell carries the memo field `Value` of the Go
`PairNode`; `rootH` is `PairNode.MerkleRoot` (memo test, recursion, memo write in place).
A client is an arbitrary program `Prog` over the primitives of package `tree`; the view layer
is one such client (that it uses no other write is the regenerated write-site inventory).
-/
import ZtypV.Proofs.Heap
namespace ZtypV.Props.C06
open ZtypV ZtypV.H

-- `decide +kernel`: the kernel alone evaluates the closed example terms; the elaborator is the slow part

/-- The invariant "every remembered root equals the root recomputed from the node's current
    children" survives every client program, i.e. any interleaving of allocations (mutations
    build new nodes), reads and hash-tree-root requests. -/
theorem C06_inv (h : HashFn) {p : Prog α} {hp : Heap} (hw : WF hp) (hm : MemoValid h hp)
    (hnp : NoPoke p) : MemoValid h (run h p hp).2.1 :=
  (run_valid hnp ⟨hw, hm⟩).memo

example : MemoValid exHash (run exHash exClient exHeap3).2.1 :=
  C06_inv exHash wf_exHeap3 valid_exHeap3.memo noPoke_exClient

/-- Whatever the memo state (nothing, something or everything below `x` cached), `MerkleRoot`
    returns the root of the memo-free tree. -/
theorem C06_root_correct (h : HashFn) {hp : Heap} (hw : WF hp) (hm : MemoValid h hp) {x : Nat}
    (hx : x < hp.size) : (run h (Prog.root1 x) hp).1 = some ((absNode hp x).root h) :=
  root1_correct ⟨hw, hm⟩ hx

example : (run exHash (Prog.root1 4) exHeap3).1 = some ((absNode exHeap3 4).root exHash) :=
  C06_root_correct exHash wf_exHeap3 valid_exHeap3.memo (by decide +kernel)

/-- the same root is obtained from the unhashed, the partly hashed and the fully hashed heap -/
example : (run exHash (Prog.root1 4) exHeap).1 = (run exHash (Prog.root1 4) exHeap3).1
    ∧ (run exHash (Prog.root1 4) exHeap3).1 = (run exHash (Prog.root1 4) exHeapAll).1 := by decide +kernel

/-- An extra hash-tree-root request in front of an arbitrary client changes none of its results,
    and the final heaps differ in memo fields only (so no later observation differs either). -/
theorem C06_independent_front (h : HashFn) {p : Prog α} {hp : Heap} (hw : WF hp)
    (hm : MemoValid h hp) (hnp : NoPoke p) {x : Nat} (hx : x < hp.size) :
    (run h (.root x (fun _ => p)) hp).1 = (run h p hp).1
      ∧ SameStruct (run h (.root x (fun _ => p)) hp).2.1 (run h p hp).2.1 := by
  have := run_rootEdit h (RootEdit.ins hp.size x p p hx (RootEdit.refl hnp hp.size)) hp hp rfl
    ⟨hw, hm⟩ ⟨hw, hm⟩ (SameStruct.refl hp)
  exact ⟨this.1.symm, this.2.symm⟩

example : (run exHash (.root 2 (fun _ => exClient)) exHeap).1 = (run exHash exClient exHeap).1 :=
  (C06_independent_front exHash wf_exHeap valid_exHeap.memo noPoke_exClient (by decide +kernel)).1

/-- Inserting and deleting hash-tree-root requests (on existing nodes, results ignored) anywhere
    in a client — `RootEdit` — and starting from heaps that differ in which roots were requested
    earlier (`SameStruct`, both valid) changes no result of the client; the final heaps again differ
    in memo fields only. -/
theorem C06_independent (h : HashFn) {p p' : Prog α} {hp hp' : Heap}
    (he : RootEdit hp.size p p') (hw : WF hp) (hw' : WF hp') (hs : SameStruct hp hp')
    (hm : MemoValid h hp) (hm' : MemoValid h hp') :
    (run h p hp).1 = (run h p' hp').1 ∧ SameStruct (run h p hp).2.1 (run h p' hp').2.1 :=
  run_rootEdit h he hp hp' rfl ⟨hw, hm⟩ ⟨hw', hm'⟩ hs

/-- non-vacuity: requests inserted in front and in the middle, started from a differently hashed heap -/
example : (run exHash exClient exHeap).1 =
    (run exHash (.root 3 (fun _ => .read 4 (fun c => .root 2 (fun _ => match c with
      | some (.inr (l, _)) => .allocLeaf (chunkOf [9]) (fun a => .allocPair l a (fun b => .root b .ret))
      | _ => .ret z0)))) exHeap3).1 := by
  refine (C06_independent exHash ?_ wf_exHeap wf_exHeap3 (rootH_sameStruct exHash 4 exHeap 3)
    valid_exHeap.memo valid_exHeap3.memo).1
  refine .ins _ _ _ _ (by decide +kernel) (.read _ _ _ _ (fun c => .ins _ _ _ _ (by decide +kernel) ?_))
  apply RootEdit.refl
  rcases c with _ | _ | lr
  · exact .ret _
  · exact .ret _
  · exact .allocLeaf _ _ (fun a => .allocPair _ _ _ (fun b => .root _ _ (fun v => .ret v)))

/-- hash-tree-root of a node does not depend on which earlier roots were requested -/
theorem C06_root_memo_independent (h : HashFn) {hp hp' : Heap} (hw : WF hp) (hw' : WF hp')
    (hs : SameStruct hp hp') (hm : MemoValid h hp) (hm' : MemoValid h hp') (x : Nat) :
    (run h (Prog.root1 x) hp).1 = (run h (Prog.root1 x) hp').1 :=
  (run_rootEdit h (RootEdit.refl (noPoke_root1 x) hp.size) hp hp' rfl ⟨hw, hm⟩ ⟨hw', hm'⟩ hs).1

end ZtypV.Props.C06
