/-
C07  Hashing is incremental: cached subtrees are not rehashed.

Model H (`ZtypV/Model/Heap.lean`).  The quantity counted is the number of invocations of the
pair hash `h` (`Trace.calls`), the one the property names.  Hypothesis `NoZeroOut h`
(`h a b ≠ z0`): the Go memo uses the all-zero root as "unset" (`c.Value != Root{}`), so a pair whose
hash is the zero root would be rehashed on every request (`C07_zero_hash_counterexample`); for
SHA-256 this is an assumption about the hash function, listed in the trusted base.
-/
import ZtypV.Proofs.HeapCost
import ZtypV.Proofs.HeapExpand
namespace ZtypV.Props.C07
open ZtypV ZtypV.H

-- `decide +kernel`: the kernel alone evaluates the closed example terms; the elaborator is the slow part

/-- A second hash-tree-root request on an unchanged node performs no hash call and no write. -/
theorem C07_second_free (h : HashFn) (hz : NoZeroOut h) {hp : Heap} (hw : WF hp) {x : Nat}
    (hx : x < hp.size) :
    (run h (Prog.root1 x) (run h (Prog.root1 x) hp).2.1).2.2.calls = 0
      ∧ (run h (Prog.root1 x) (run h (Prog.root1 x) hp).2.1).2.2.writes = []
      ∧ (run h (Prog.root1 x) (run h (Prog.root1 x) hp).2.1).2.1 = (run h (Prog.root1 x) hp).2.1 :=
  run_root1_top h (run_root1_topMemo h hz hw hx)

example : (run exHash (Prog.root1 4) (run exHash (Prog.root1 4) exHeap).2.1).2.2.calls = 0 :=
  (C07_second_free exHash exHash_noZero wf_exHeap (by decide +kernel)).1

/-- the first request on `exHeap` does hash (3 distinct pairs: 2, 3, 4 — the shared pair 2 once) -/
example : (run exHash (Prog.root1 4) exHeap).2.2.calls = 3 := by decide +kernel

/-- The same with arbitrary work of a client (on this or other views: allocations, reads, other
    hash-tree-root requests) between the two requests: the node is still answered from its memo. -/
theorem C07_second_free_general (h : HashFn) (hz : NoZeroOut h) {p : Prog α} (hnp : NoPoke p)
    {hp : Heap} (hw : WF hp) {x : Nat} (hx : x < hp.size) :
    (run h (Prog.root1 x) (run h p (run h (Prog.root1 x) hp).2.1).2.1).2.2.calls = 0 :=
  (run_root1_top h (run_topMemo h hnp _ (run_frame h (noPoke_root1 x) hp hw).1
    (run_root1_topMemo h hz hw hx))).1

example : (run exHash (Prog.root1 4) (run exHash exClient (run exHash (Prog.root1 4) exHeap).2.1).2.1).2.2.calls = 0 :=
  C07_second_free_general exHash exHash_noZero noPoke_exClient wf_exHeap (by decide +kernel)

/-- Exact cost: the hash calls of a request are in bijection with the cells written, each written
    once, and those are exactly the pairs with unset memo reached from `x` through pairs with unset
    memo (`UReach`); in particular shared subtrees are hashed once and nothing below a cached pair
    is hashed. -/
theorem C07_count (h : HashFn) (hz : NoZeroOut h) {hp : Heap} (hw : WF hp) {x : Nat} (hx : x < hp.size) :
    (run h (Prog.root1 x) hp).2.2.calls = (run h (Prog.root1 x) hp).2.2.writes.length
      ∧ (run h (Prog.root1 x) hp).2.2.writes.Nodup
      ∧ ∀ y, y ∈ (run h (Prog.root1 x) hp).2.2.writes ↔ UReach hp x y := by
  rw [run_root1 h hx]
  have e := rootH_eff h hz (x+1) hp x hw (Nat.lt_succ_self x)
  exact ⟨e.calls, e.nodup, fun _ => e.mem⟩

/-- Upper bound: at most the number of distinct reachable pair cells with unset memo (`L` is any
    list containing them). -/
theorem C07_count_le (h : HashFn) (hz : NoZeroOut h) {hp : Heap} (hw : WF hp) {x : Nat}
    (hx : x < hp.size) (L : List Nat)
    (hL : ∀ y l r, Reach hp x y → hp[y]? = some (Cell.pair z0 l r) → y ∈ L) :
    (run h (Prog.root1 x) hp).2.2.calls ≤ L.length := by
  obtain ⟨hc, hn, hm⟩ := C07_count h hz hw hx
  rw [hc]
  apply hn.length_le_of_subset
  intro y hy
  have hu := (hm y).mp hy
  obtain ⟨l, r, e⟩ := hu.tgt_unset
  exact hL y l r hu.reach e

/-- in `exHeap3` (pairs 2 and 3 cached) only pair 4 is hashed -/
example : (run exHash (Prog.root1 4) exHeap3).2.2.calls ≤ [4].length := by
  apply C07_count_le exHash exHash_noZero wf_exHeap3 (by decide +kernel)
  intro y l r _ hy
  have : ∀ y, y < exHeap3.size → (exHeap3[y]?).map Cell.isUnsetPair = some true → y = 4 := by
    decide +kernel
  exact List.mem_singleton.mpr (this y (get_lt_size hy) (unset_of_get hy))

/-- After a single mutation — the node at `path` below a fully hashed `x` is replaced by an already
    hashed `y`, i.e. the rebinding spine `setPath` of `Setter/DeeperSetter` (one `NewPairNode` per
    level, siblings shared) — building the spine hashes nothing, and recomputing the root of the new
    tree invokes the hash at most once per level of the path, whatever the size of the tree. -/
theorem C07_path (h : HashFn) {hp : Heap} (hw : WF hp) {path : List Bool} {x y x' : Nat}
    (hfx : FullyMemo hp x) (hfy : FullyMemo hp y) (hy : y < hp.size)
    (hrun : (run h (setPath path x y) hp).1 = some (some x')) :
    (run h (setPath path x y) hp).2.2.calls = 0
      ∧ (run h (Prog.root1 x') (run h (setPath path x y) hp).2.1).2.2.calls ≤ path.length := by
  obtain ⟨sp, hc⟩ := run_setPath h path x y hp x' hrun
  exact ⟨hc, (spine_rebound sp hw (topMemo_of_fullyMemo hfy hy) hfx).cost h⟩

/-- The tree at the new spine is the one the pure setter gives (`Node.setAt`), and every old cell
    is still there unchanged. -/
theorem C07_path_tree (h : HashFn) {hp : Heap} (hw : WF hp) {path : List Bool} {x y x' : Nat}
    (hy : y < hp.size) (hrun : (run h (setPath path x y) hp).1 = some (some x')) :
    Node.setAt path (absNode hp x) (absNode hp y)
        = some (absNode (run h (setPath path x y) hp).2.1 x')
      ∧ ∀ z, z < hp.size → (run h (setPath path x y) hp).2.1[z]? = hp[z]? := by
  obtain ⟨sp, _⟩ := run_setPath h path x y hp x' hrun
  exact ⟨spine_abs sp hw hy, (spine_frame sp hw hy).1.2⟩

/-- non-vacuity: in the fully hashed example heap replace the right child of node 3 (= the left
    child of node 4, path [left, right] from 4) by the hashed pair 2: two new pairs 5, 6 -/
example : (run exHash (setPath [false, true] 4 2) exHeapAll).1 = some (some 6)
    ∧ (run exHash (Prog.root1 6) (run exHash (setPath [false, true] 4 2) exHeapAll).2.1).2.2.calls = 2 := by
  decide +kernel

example : (run exHash (Prog.root1 6) (run exHash (setPath [false, true] 4 2) exHeapAll).2.1).2.2.calls
    ≤ [false, true].length :=
  (C07_path exHash wf_exHeapAll (x := 4) (y := 2) (x' := 6) (fun y m l r _ => allMemo_exHeapAll y m l r)
    (fun y m l r _ => allMemo_exHeapAll y m l r) (by decide +kernel) (by decide +kernel)).2

/-- The same for a mutation that grows into a collapsed zero subtree
    (`DeeperSetter(…, expand = true)`, e.g. list append): a zero-summary leaf on the path is expanded
    with the shared zero leaves `zs d = &ZeroHashes[d]` as siblings; the throw-away pair the code
    allocates on the way is never hashed.  Nothing is hashed while building, no existing cell is
    touched, and the new root costs at most one hash call per level. -/
theorem C07_path_expand (h : HashFn) {hp : Heap} (hw : WF hp) (zs : Nat → Nat)
    (hzs : ∀ d, ∃ r, hp[zs d]? = some (Cell.leaf r)) {path : List Bool} {x y x' : Nat}
    (hfx : FullyMemo hp x) (hfy : FullyMemo hp y) (hy : y < hp.size)
    (hrun : (run h (setPathX zs path x y) hp).1 = some (some x')) :
    (run h (setPathX zs path x y) hp).2.2.calls = 0
      ∧ (∀ z, z < hp.size → (run h (setPathX zs path x y) hp).2.1[z]? = hp[z]?)
      ∧ (run h (Prog.root1 x') (run h (setPathX zs path x y) hp).2.1).2.2.calls ≤ path.length := by
  obtain ⟨rb, hc⟩ := run_setPathX h zs path x y hp hw hzs (topMemo_of_fullyMemo hfy hy) hfx x' hrun
  exact ⟨hc, rb.ext.2, rb.cost h⟩

/-- non-vacuity: in `exHeapZ` hashed, set position [right, left] below node 3 — inside the collapsed
    zero summary 1 — to the data leaf 2: cells 4 (throw-away), 5, 6 are allocated, root 6 costs 2 -/
example : (run exHash (setPathX exZs [true, false] 3 2) (run exHash (Prog.root1 3) exHeapZ).2.1).1 = some (some 6)
    ∧ (run exHash (Prog.root1 6) (run exHash (setPathX exZs [true, false] 3 2)
        (run exHash (Prog.root1 3) exHeapZ).2.1).2.1).2.2.calls = 2 := by decide +kernel

example : (run exHash (Prog.root1 6) (run exHash (setPathX exZs [true, false] 3 2)
    (run exHash (Prog.root1 3) exHeapZ).2.1).2.1).2.2.calls ≤ [true, false].length := by
  have hc : MemoClosed (run exHash (Prog.root1 3) exHeapZ).2.1 := memoClosedB_sound (by decide +kernel)
  exact (C07_path_expand exHash (wfB_sound (by decide +kernel)) exZs
    (exZs_leaves _ ⟨z0, by decide +kernel⟩ ⟨exHash z0 z0, by decide +kernel⟩) (x := 3) (y := 2) (x' := 6)
    (fullyMemo_of_top hc (topMemoB_sound (by decide +kernel)))
    (fullyMemo_of_top hc (topMemoB_sound (by decide +kernel))) (by decide +kernel) (by decide +kernel)).2.2

/-- "Already hashed" is what a hash-tree-root request establishes: in a heap built by poke-free
    clients from unhashed nodes (`MemoClosed`: a set memo implies the children answer from their memos
    — preserved by every poke-free client, `run_memoClosed`), after `MerkleRoot` at `x` every pair
    reachable from `x` has its memo set. -/
theorem C07_hashed_fully (h : HashFn) (hz : NoZeroOut h) {hp : Heap} (hw : WF hp) (hc : MemoClosed hp)
    {x : Nat} (hx : x < hp.size) :
    FullyMemo (run h (Prog.root1 x) hp).2.1 x ∧ MemoClosed (run h (Prog.root1 x) hp).2.1 := by
  have hc' := run_memoClosed h hz (noPoke_root1 x) hp hw hc
  exact ⟨fullyMemo_of_top hc' (run_root1_topMemo h hz hw hx), hc'⟩

example : FullyMemo (run exHash (Prog.root1 4) exHeap).2.1 4 :=
  (C07_hashed_fully exHash exHash_noZero wf_exHeap (memoClosedB_sound (by decide +kernel)) (by decide +kernel)).1

/-- End to end: a client `p` does arbitrary poke-free work in which `x` and `y` get hashed at some
    point (afterwards both answer from their memo); then one mutation replaces the node at `path`
    below `x` by `y`; recomputing the root costs at most one hash call per level of the path. -/
theorem C07_incremental (h : HashFn) (hz : NoZeroOut h) {p : Prog α} (hnp : NoPoke p) {hp : Heap}
    (hw : WF hp) (hc : MemoClosed hp) {path : List Bool} {x y x' : Nat}
    (htx : TopMemo (run h p hp).2.1 x) (hty : TopMemo (run h p hp).2.1 y)
    (hrun : (run h (setPath path x y) (run h p hp).2.1).1 = some (some x')) :
    (run h (Prog.root1 x') (run h (setPath path x y) (run h p hp).2.1).2.1).2.2.calls ≤ path.length := by
  have hc1 := run_memoClosed h hz hnp hp hw hc
  exact (C07_path h (run_frame h hnp hp hw).1 (fullyMemo_of_top hc1 htx) (fullyMemo_of_top hc1 hty)
    (topMemo_lt hty) hrun).2

example : (run exHash (Prog.root1 6) (run exHash (setPath [false, true] 4 2)
    (run exHash (Prog.root1 4) exHeap).2.1).2.1).2.2.calls ≤ 2 :=
  C07_incremental exHash exHash_noZero (noPoke_root1 4)
    wf_exHeap (memoClosedB_sound (by decide +kernel)) (path := [false, true]) (x := 4) (y := 2)
    (x' := 6) (topMemoB_sound (by decide +kernel)) (topMemoB_sound (by decide +kernel)) (by decide +kernel)

/-- `NoZeroOut` is necessary: with a hash that returns the zero root the memo never becomes
    "set" and the second request hashes again. -/
theorem C07_zero_hash_counterexample :
    ¬ (∀ (h : HashFn) (hp : Heap) (x : Nat), WF hp → x < hp.size →
        (run h (Prog.root1 x) (run h (Prog.root1 x) hp).2.1).2.2.calls = 0) := by
  intro hall
  have := hall zeroHash exHeap 2 wf_exHeap (by decide +kernel)
  revert this
  decide +kernel

end ZtypV.Props.C07
