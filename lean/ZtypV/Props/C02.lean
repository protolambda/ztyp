/-
C02 — View serialization is spec-exact and round-trips.

"For every supported type and value, serializing the view yields exactly the SSZ-spec encoding
and the reported value byte length equals the length of that encoding.  Deserializing that
encoding yields a view with the same encoding, the same hash-tree-root and, through the typed
getters (element, field, bit, selector, length), the same component values."

Model: `View.construct` (FromElements / FromFields / FromBits / FromView), `View.serializeView`
(`Serialize`), `View.valueByteLength` (`ValueByteLength`), `View.viewVal` (the typed getters
`Get`, `Length`, `Selector`, `Value`, bit and packed-element reads composed into a value).

Side conditions carried by the theorems (all decidable):
* `t.wf`, `hasType t v` — a legal SSZ type and a value of it;
* `View.inRange t` — every tree depth the view navigates is `< 64` (list and bitlist views
  navigate one level above their contents) and list limits fit `uint64`.  This is NOT
  vacuous caution: `tree.ToGindex64` rejects depth ≥ 64, so e.g. `List[Bytes32, 2^62+1]` with one
  element answers `Get(0)` with an error in the Go code and in the model.  It holds for all
  types whose limits / lengths are ≤ 2^62 (`C02_inRange_of_small`).
* `(serialize t v).length < 2^32` for `C02_ser` — `EncodingWriter.WriteOffset` panics on offsets
  that do not fit `uint32`.  Not needed for `C02_len`, `C02_getters`.

All theorems hold for `Vector/List` of `boolean` as well (finding D3 changes the root only).
-/
import ZtypV.Proofs.RepView
import ZtypV.Proofs.ViewRange
import ZtypV.Proofs.SerInj
import ZtypV.Proofs.DecodeSound
import ZtypV.Proofs.DecodeComplete
namespace ZtypV.Props.C02
open ZtypV ZtypV.View

/-- `Serialize` of the view built from `v : t` writes exactly the SSZ-spec encoding. -/
theorem C02_ser (h : HashFn) (t : Ty) (v : Val) (n : Node) (hwf : t.wf = true)
    (hrange : inRange t = true) (hty : hasType t v = true)
    (hsize : (serialize t v).length < 2 ^ 32) (hc : construct h t v = .ok n) :
    serializeView t n = .ok (serialize t v) :=
  rep_ser h hwf hrange hty hsize (construct_rep h hwf hty hc)

/-- `C02_ser` without the size bound, for types whose encoding contains no offsets
    (`View.offsetFree`: no series of variable-size elements, no container with a variable-size
    field, anywhere inside): `WriteOffset` is never called. -/
theorem C02_ser_offsetFree (h : HashFn) (t : Ty) (v : Val) (n : Node) (hwf : t.wf = true)
    (hrange : inRange t = true) (hty : hasType t v = true)
    (hfree : offsetFree t = true) (hc : construct h t v = .ok n) :
    serializeView t n = .ok (serialize t v) :=
  rep_ser_sizeOk h hwf hrange hty (Or.inl hfree) (construct_rep h hwf hty hc)

/-- `ValueByteLength` of the view is the length of the SSZ-spec encoding (no size bound needed). -/
theorem C02_len (h : HashFn) (t : Ty) (v : Val) (n : Node) (hwf : t.wf = true)
    (hrange : inRange t = true) (hty : hasType t v = true) (hc : construct h t v = .ok n) :
    valueByteLength t n = .ok (serialize t v).length :=
  rep_len h hwf hrange hty (construct_rep h hwf hty hc)

/-- Reading the view back through the typed getters only (`Get(i)` of vectors / lists /
    containers / bitfields, `Length()`, `Selector()`, `Value()`, packed-element and bit reads)
    returns exactly the components of `v`. -/
theorem C02_getters (h : HashFn) (t : Ty) (v : Val) (n : Node) (hwf : t.wf = true)
    (hrange : inRange t = true) (hty : hasType t v = true) (hc : construct h t v = .ok n) :
    viewVal t n = .ok v :=
  rep_getters h hwf hrange hty (construct_rep h hwf hty hc)

/-- The reported length is the length of what `Serialize` writes. -/
theorem C02_len_eq_ser (h : HashFn) (t : Ty) (v : Val) (n : Node) (hwf : t.wf = true)
    (hrange : inRange t = true) (hty : hasType t v = true)
    (hsize : (serialize t v).length < 2 ^ 32) (hc : construct h t v = .ok n) :
    ∃ bs, serializeView t n = .ok bs ∧ valueByteLength t n = .ok bs.length :=
  ⟨_, C02_ser h t v n hwf hrange hty hsize hc, C02_len h t v n hwf hrange hty hc⟩

/-- The constructors accept every typed value of a well-formed type (so the hypothesis
    `construct h t v = .ok n` of the theorems above is always satisfiable). -/
theorem C02_construct_total (h : HashFn) (t : Ty) (v : Val) (hwf : t.wf = true)
    (hty : hasType t v = true) : ∃ n, construct h t v = .ok n :=
  construct_total h v t hwf hty

/-- C02, first half, in one statement: for every supported type and value the view exists, its
    `Serialize` output is the spec encoding, `ValueByteLength` is that encoding's length and the
    typed getters return the components. -/
theorem C02_view (h : HashFn) (t : Ty) (v : Val) (hwf : t.wf = true)
    (hrange : inRange t = true) (hty : hasType t v = true)
    (hsize : offsetFree t = true ∨ (serialize t v).length < 2 ^ 32) :
    ∃ n, construct h t v = .ok n ∧
      serializeView t n = .ok (serialize t v) ∧
      valueByteLength t n = .ok (serialize t v).length ∧
      viewVal t n = .ok v := by
  obtain ⟨n, hc⟩ := construct_total h v t hwf hty
  obtain ⟨hg, hs, hl, _⟩ := rep_all h hwf hrange hty hsize (construct_rep h hwf hty hc)
  exact ⟨n, hc, hs, hl, hg⟩

/-- `inRange` holds for every well-formed type whose vector / bitvector lengths, list / bitlist
    limits and field counts are at most `2^62`. -/
theorem C02_inRange_of_small (t : Ty) (hwf : t.wf = true) (hsmall : limitsLe (2 ^ 62) t = true) :
    inRange t = true :=
  inRange_of_small t hwf hsmall

/-! ### round trip

`C02_roundtrip` rests on decoder soundness, `DecodeProofs.decodeTop_sound`
(Proofs/DecodeSound.lean): an accepted input is the encoding of a typed value and the decoded
backing is the one the constructors build.  That the decoder *accepts* every spec encoding is
`DecodeProofs.decodeTop_complete` (Proofs/DecodeComplete.lean).  The full statement
`C02_roundtrip_full` is derived here from the proposition `DecodeComplete`; Props/C02b.lean
proves both (`C02_decode_complete`, `C02_roundtrip_full_holds`). -/

/-- `serialize` is injective on typed values of a well-formed type.  The size bound is
    necessary: offsets are `uint32` and wrap, so two different splits of one payload of ≥ 2^32
    bytes into variable-size parts have the same encoding. -/
theorem C02_serialize_injective (t : Ty) (v w : Val) (hwf : t.wf = true)
    (hv : hasType t v = true) (hw : hasType t w = true)
    (hsize : (serialize t v).length < 2 ^ 32) (h : serialize t v = serialize t w) : v = w :=
  serialize_injective t v w hwf hv hw hsize h

/-- Round trip: whenever the decoder accepts the spec encoding of `v`, the decoded view is the
    constructed view of `v` itself; hence it has the same encoding, the same reported length,
    the same components through the getters and (by C01, outside finding D3) the spec root. -/
theorem C02_roundtrip (h : HashFn) (t : Ty) (v : Val) (n : Node) (hwf : t.wf = true)
    (hrange : inRange t = true) (hty : hasType t v = true)
    (hsize : (serialize t v).length < 2 ^ 32)
    (hd : decodeTop h t (serialize t v) = .ok n) :
    construct h t v = .ok n ∧
    serializeView t n = .ok (serialize t v) ∧
    valueByteLength t n = .ok (serialize t v).length ∧
    viewVal t n = .ok v ∧ (noBoolSeries t = true → n.root h = htr h t v) := by
  have hleaf : DecodeProofs.isLeafTy t = true → (serialize t v).length = t.fixedSize := by
    intro hl
    apply serialize_fixed_length v t _ hty
    cases t <;> simp [DecodeProofs.isLeafTy, Ty.isFixed] at hl ⊢
  obtain ⟨v', hty', hser, hc⟩ := DecodeProofs.decodeTop_sound h t _ n hleaf hd
  have hv : v = v' := serialize_injective t v v' hwf hty hty' hsize hser.symm
  subst hv
  exact ⟨hc, C02_ser h t v n hwf hrange hty hsize hc, C02_len h t v n hwf hrange hty hc,
    C02_getters h t v n hwf hrange hty hc,
    fun hnb => construct_root_of_ok h t v n hwf hnb hty hc⟩
where
  construct_root_of_ok (h : HashFn) (t : Ty) (v : Val) (n : Node) (hwf : t.wf = true)
      (hnb : noBoolSeries t = true) (hty : hasType t v = true) (hc : construct h t v = .ok n) :
      n.root h = htr h t v :=
    rep_root h hwf hnb hty (construct_rep h hwf hty hc)

/-- the decoder accepts every spec encoding (`C02_decode_complete`, Props/C02b.lean) -/
def DecodeComplete : Prop :=
  ∀ (h : HashFn) (t : Ty) (v : Val), t.wf = true → hasType t v = true →
    (serialize t v).length < 2 ^ 32 → ∃ n, decodeTop h t (serialize t v) = .ok n

/-- Full round-trip statement of C02: decoding the spec encoding of `v` succeeds and yields a
    view with the same encoding, the same reported length, the spec hash-tree-root (outside
    finding D3) and the same components through the getters. -/
def C02_roundtrip_full : Prop :=
  ∀ (h : HashFn) (t : Ty) (v : Val), t.wf = true → inRange t = true → hasType t v = true →
    (serialize t v).length < 2 ^ 32 →
    ∃ n, decodeTop h t (serialize t v) = .ok n ∧
      serializeView t n = .ok (serialize t v) ∧
      valueByteLength t n = .ok (serialize t v).length ∧
      viewVal t n = .ok v ∧
      (noBoolSeries t = true → n.root h = htr h t v)

/-- The full statement follows from decoder completeness alone. -/
theorem C02_roundtrip_full_of (hcomplete : DecodeComplete) : C02_roundtrip_full := by
  intro h t v hwf hrange hty hsize
  obtain ⟨n, hd⟩ := hcomplete h t v hwf hty hsize
  exact ⟨n, hd, (C02_roundtrip h t v n hwf hrange hty hsize hd).2⟩

/-! ### non-vacuity: a nested type with every kind of component -/

/-- Container{ uint16, List[uint64,5], Bitlist[10], Vector[List[uint8,3],2] (variable-size
    elements, offsets), Union[None, boolean, Bytes4], Vector[boolean,3] (D3), Bitvector[9] } -/
def exT : Ty := .container [.uint 2, .list (.uint 8) 5, .bitlist 10,
  .vector (.list (.uint 1) 3) 2, .union true [.bool, .bytesN 4], .vector .bool 3, .bitvector 9]
def exV : Val := .seq [.num 513, .seq [.num 1, .num 2, .num 3], .bits [true, false, true],
  .seq [.seq [.num 7], .seq []], .union 2 (.bytes [1, 2, 3, 4]),
  .seq [.bool true, .bool false, .bool true], .bits [true, true, false, false, false, false, false, false, true]]
def exH : HashFn := fun a b => (a ++ b).take 32

example : exT.wf = true := by decide
example : inRange exT = true := by decide +kernel
example : hasType exT exV = true := by decide +kernel
example : (serialize exT exV).length < 2 ^ 32 := by decide +kernel
example : ∃ n, construct exH exT exV = .ok n := ⟨_, rfl⟩
example : limitsLe (2 ^ 62) exT = true := by decide
example : offsetFree exT = false := by decide
example : offsetFree (.list (.vector (.uint 8) 4) 100) = true := by decide
example : (serialize exT exV).length = 62 := by decide +kernel

/-- the hypotheses of `C02_ser`, `C02_len`, `C02_getters` (together: `C02_view`) are jointly
    satisfiable -/
example : ∃ n, construct exH exT exV = .ok n ∧
    serializeView exT n = .ok (serialize exT exV) ∧
    valueByteLength exT n = .ok (serialize exT exV).length ∧ viewVal exT n = .ok exV :=
  C02_view exH exT exV (by decide) (by decide +kernel) (by decide +kernel)
    (Or.inr (by decide +kernel))

/-- the `inRange` hypothesis is necessary: a list view whose limit needs depth 63 cannot be read -/
example : inRange (.list (.bytesN 32) (2 ^ 62 + 1)) = false := by decide +kernel
set_option maxRecDepth 8000 in
example : ∃ n, construct exH (.list (.bytesN 1) (2 ^ 62 + 1)) (.seq [.bytes [5]]) = .ok n ∧
    viewVal (.list (.bytesN 1) (2 ^ 62 + 1)) n = .error .other := ⟨_, rfl, rfl⟩

/-! the round trip on a concrete example: the decoder accepts the encoding
(`DecodeProofs.decodeTop_complete`), and the decoded view is the constructed one, so all
conclusions of `C02_roundtrip` apply to it -/

def exT2 : Ty := .container [.uint 2, .list (.uint 1) 3, .bitlist 5]
def exV2 : Val := .seq [.num 513, .seq [.num 7, .num 9], .bits [true, false, true]]

example : ∃ n, decodeTop exH exT2 (serialize exT2 exV2) = .ok n ∧
    construct exH exT2 exV2 = .ok n ∧ serializeView exT2 n = .ok (serialize exT2 exV2) ∧
    viewVal exT2 n = .ok exV2 := by
  have hsize : (serialize exT2 exV2).length < 2 ^ 32 := by decide +kernel
  obtain ⟨n, hd, _⟩ := DecodeProofs.decodeTop_complete exH exT2 exV2 (by decide) (by decide) hsize
  have := C02_roundtrip exH exT2 exV2 n (by decide) (by decide) (by decide) hsize hd
  exact ⟨n, hd, this.1, this.2.1, this.2.2.2.1⟩

end ZtypV.Props.C02
