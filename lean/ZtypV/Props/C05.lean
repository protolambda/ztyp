/-
C05  Backing trees are persistent: old versions never change; copies are detached.

Model H (`ZtypV/Model/Heap.lean`).  A backing node "obtained from a view" is an address of the
heap; "any later operation on that view, its copies, its sub-views or any other view sharing
structure" is an arbitrary client program `p` over the primitives of package `tree`
(allocate leaf / allocate pair / read / MerkleRoot).  `NoPoke p` — the client never writes into
an existing leaf — is not an assumption about the view layer made here: it is the regenerated
write-site inventory of the Go sources (the only in-place writes are the memo write in
`PairNode.MerkleRoot`, `InitZeroHashes`, and caller-owned-root writes).
The process-wide zero nodes (`&ZeroHashes[d]`) are ordinary leaf cells of the initial heap
(address 0 of `exHeap`), so every statement below covers them.
-/
import ZtypV.Proofs.Heap
import ZtypV.Proofs.HeapReloc
import ZtypV.Proofs.HeapCost
namespace ZtypV.Props.C05
open ZtypV ZtypV.H

-- `decide +kernel`: the kernel alone evaluates the closed example terms; the elaborator is the slow part

/-- Frame: a client that does not poke leaves keeps the heap well-formed, only adds cells, leaves
    structure and content of every existing cell unchanged (only memo fields of existing pairs may
    change — C06 says to which values) and therefore leaves the pure tree denoted by every existing
    node unchanged. -/
theorem C05_frame (h : HashFn) {p : Prog α} {hp hp' : Heap} {a : Option α} {tr : Trace}
    (hw : WF hp) (hnp : NoPoke p) (hrun : run h p hp = (a, hp', tr)) :
    WF hp' ∧ hp.size ≤ hp'.size
      ∧ (∀ x, x < hp.size → (hp'[x]?).map Cell.erase = (hp[x]?).map Cell.erase)
      ∧ ∀ x, x < hp.size → absNode hp' x = absNode hp x := by
  have hf := run_frame h hnp hp hw
  rw [hrun] at hf
  exact ⟨hf.1, hf.2.1, hf.2.2, fun x hx => absNode_ext hw hf.2 hx⟩

example : ∃ a hp' tr, run exHash exClient exHeap3 = (a, hp', tr) ∧ exHeap3.size < hp'.size
    ∧ ∀ x, x < exHeap3.size → absNode hp' x = absNode exHeap3 x :=
  ⟨_, _, _, rfl, by decide +kernel, (C05_frame exHash wf_exHeap3 noPoke_exClient rfl).2.2.2⟩

/-- The only thing that can happen to an existing cell: it is bit-for-bit unchanged, or it was a pair
    with unset memo and now carries a memo — which, if set, is the root of its (unchanged) children.
    Leaves — in particular the shared zero leaves — and pairs that were already hashed are
    bit-for-bit unchanged. -/
theorem C05_only_memo_fill (h : HashFn) {p : Prog α} {hp : Heap} (hw : WF hp) (hm : MemoValid h hp)
    (hnp : NoPoke p) {y : Nat} (hy : y < hp.size) :
    (run h p hp).2.1[y]? = hp[y]? ∨
      ∃ l r v, hp[y]? = some (Cell.pair z0 l r) ∧ (run h p hp).2.1[y]? = some (Cell.pair v l r)
        ∧ (v = z0 ∨ v = h ((absNode hp l).root h) ((absNode hp r).root h)) := by
  have hf := run_frame h hnp hp hw
  by_cases hu : Unset hp y
  · obtain ⟨l, r, e0⟩ := hu
    obtain ⟨v, e1⟩ := get_pair_of_erase (hf.2.2 y hy) e0
    refine .inr ⟨l, r, v, e0, e1, ?_⟩
    by_cases hv : v = z0
    · exact .inl hv
    · have hlr := hw y z0 l r e0
      have := (run_valid hnp ⟨hw, hm⟩).memo y v l r e1 hv
      rw [pureRoot_ext h hw hf.2 (by omega), pureRoot_ext h hw hf.2 (by omega)] at this
      exact .inr this
  · exact .inl (run_keep h hnp hp hw hy hu)

/-- both cases occur: on the unhashed `exHeap` the client's hash request fills the memo of the old
    pair 3; the zero leaf 0 stays as it is -/
example : (run exHash exClient exHeap).2.1[0]? = exHeap[0]?
    ∧ (run exHash exClient exHeap).2.1[3]? ≠ exHeap[3]? := by decide +kernel

/-- The Merkle root of every existing node, as observed by a later `MerkleRoot` call, is unchanged:
    it is the root of the node's tree in the heap before the client ran. -/
theorem C05_root_unchanged (h : HashFn) {p : Prog α} {hp : Heap} (hw : WF hp) (hm : MemoValid h hp)
    (hnp : NoPoke p) {x : Nat} (hx : x < hp.size) :
    (run h (Prog.root1 x) (run h p hp).2.1).1 = some ((absNode hp x).root h)
      ∧ (run h (Prog.root1 x) hp).1 = some ((absNode hp x).root h) := by
  have hf := run_frame h hnp hp hw
  refine ⟨?_, root1_correct ⟨hw, hm⟩ hx⟩
  rw [root1_correct (run_valid hnp ⟨hw, hm⟩) (Nat.lt_of_lt_of_le hx hf.2.1), absNode_ext hw hf.2 hx]

example : (run exHash (Prog.root1 0) (run exHash exClient exHeap3).2.1).1 = some z0 := by
  have := (C05_root_unchanged exHash (p := exClient) wf_exHeap3 valid_exHeap3.memo noPoke_exClient
    (x := 0) (by decide +kernel)).1
  rw [this]; decide +kernel

/-- A copy is detached in both directions (tree level).  Two clients `p` and `q` start from the
    same heap (the same backing) and build their new nodes in their own regions.  What `p` leaves
    behind in the common part — the old cells, with whatever memos `p` filled — gives `q` exactly
    the results it has when run alone, and vice versa. -/
theorem C05_copy_detached (h : HashFn) {p : Prog α} {q : Prog β} {hp : Heap} (hw : WF hp)
    (hm : MemoValid h hp) (hnp : NoPoke p) (hnq : NoPoke q) :
    (run h q ((run h p hp).2.1.extract 0 hp.size)).1 = (run h q hp).1
      ∧ (run h p ((run h q hp).2.1.extract 0 hp.size)).1 = (run h p hp).1 := by
  have key : ∀ {γ δ : Type} {p : Prog γ} {q : Prog δ}, NoPoke p → NoPoke q →
      (run h q ((run h p hp).2.1.extract 0 hp.size)).1 = (run h q hp).1 := by
    intro γ δ p q hnp hnq
    have hf := run_frame h hnp hp hw
    exact ((run_rootEdit h (RootEdit.refl hnq hp.size) hp _ rfl ⟨hw, hm⟩
      (valid_prefix_of_ext hw hf.2 (run_valid hnp ⟨hw, hm⟩)) (sameStruct_prefix_of_ext hf.2)).1).symm
  exact ⟨key hnp hnq, key hnq hnp⟩

example : (run exHash exClient ((run exHash (Prog.root1 4) exHeap).2.1.extract 0 exHeap.size)).1
    = (run exHash exClient exHeap).1 :=
  (C05_copy_detached exHash (p := Prog.root1 4) wf_exHeap valid_exHeap.memo
    (noPoke_root1 4) noPoke_exClient).1

/-- The same in ONE address space: `q` runs after `p` in the very heap `p` left behind, which
    contains `p`'s new cells and `p`'s memo fills.  A Go client never sees the numeric value of a
    pointer; `reloc s n q` is `q` expressed in the address space where its own cells come `n` places
    later (see `reloc`).  `q` obtains exactly the results it obtains when run alone on the original
    heap: nothing `p` did — its new nodes, the memos it filled in shared nodes — is observable to
    `q`.  With the roles of `p` and `q` exchanged this is the other direction. -/
theorem C05_copy_detached_flat (h : HashFn) {p : Prog α} {q : Prog β} {hp : Heap} (hw : WF hp)
    (hm : MemoValid h hp) (hnp : NoPoke p) (hnq : NoPoke q) :
    (run h (reloc hp.size ((run h p hp).2.1.size - hp.size) q) (run h p hp).2.1).1 = (run h q hp).1 :=
  run_reloc h hnq hp _ (sim_after hw (run_frame h hnp hp hw).2) ⟨hw, hm⟩ (run_valid hnp ⟨hw, hm⟩)

/-- non-vacuity: first a client that mutates and hashes (2 new cells, 3 memo fills in old cells),
    then the same kind of client again, relocated by 2 -/
example : (run exHash (reloc exHeap3.size ((run exHash exClient exHeap3).2.1.size - exHeap3.size) exClient)
      (run exHash exClient exHeap3).2.1).1
    = (run exHash exClient exHeap3).1 :=
  C05_copy_detached_flat exHash (p := exClient) (q := exClient) wf_exHeap3 valid_exHeap3.memo
    noPoke_exClient noPoke_exClient

example : (run exHash exClient exHeap3).2.1.size - exHeap3.size = 2
    ∧ (run exHash exClient exHeap3).1.isSome := by decide +kernel

/-- The `NoPoke` premise is necessary: a client that writes into an existing leaf (here the shared
    zero leaf) changes the tree of existing nodes, i.e. the frame property fails without the
    checked write-site inventory. -/
theorem C05_poke_counterexample :
    ¬ (∀ (p : Prog Unit) (hp : Heap), WF hp →
        ∀ x, x < hp.size → absNode (run exHash p hp).2.1 x = absNode hp x) := by
  intro hall
  have := hall exPoker exHeap wf_exHeap 4 (by decide +kernel)
  revert this
  decide +kernel

end ZtypV.Props.C05
