/-
C09b — the BASIC VALUE API of package `view` (view/basic.go, u256.go, root.go, small_byte_vec.go),
audited with C09 (and serving C02: flat values and packed series are built from these methods).

Model: ZtypV/Model/BasicApi.lean — `BasicV` (`Uint8/16/32/64/256View`, `BoolView` as machine
integers / limbs), `BV` (those plus `*RootView`, `SmallByteVecView`), `Meta`
(`UintMeta/BoolMeta/RootMeta/SmallByteVecMeta`), one function per Go method, `uint8` sub-index
arithmetic as written, every variable index into a `[32]byte` checked (explicit panic outcome).
Spec: `hasType`, `serialize`, `htr`, `defaultVal`, `chunks` (Spec.lean).

Proved here for ALL values (no bound on anything):
 1. `Encode / Serialize` = spec bytes; every reported length (`ByteLength`, `FixedLength`,
    `ValueByteLength`, `TypeByteLength/Min/Max`) = the encoded length; `IsFixedByteLength`.
 2. `Decode(Encode v) = v` into a destination holding anything; wrong lengths refused; whatever is
    accepted is the encoding of the stored value (so `Decode` is injective); never panics.
 3. `HashTreeRoot v = root (Backing v) = htr`; `ViewFromBacking (Backing v) = v`; `Backing` is what
    `View.construct` builds; `ViewFromBacking` reads what `View.viewVal` reads.
 4. `BackingFromBase`: complete description (nil exactly for out-of-range sub-indices, never a
    panic, result = base with `size` bytes at `size*i` replaced — every other byte unchanged, the
    base itself is not an output); `BasicViewFromBacking / SubViewFromBacking` read the value back
    at `i` and the old values at every `j ≠ i`; both agree with the abstractions
    `basicIntoChunk / basicFromChunk / bitIntoChunk / bitFromChunk` used by the other models.
 5. `PackViews` = `BytesIntoNodes` of the concatenated little-endian encodings, for every element
    size and every count (what `View.construct` packs for a basic series).
 6. `Meta.Deserialize` = `View.decode` on the leaf types; `(*T).Deserialize` = the flat codec's leaf
    decoders `Flat.decUint / decBool / decRoot`; the two deserializers agree.
 7. `Default / New / DefaultNode` = the spec's default value and its backing; `Copy` = identity.
-/
import ZtypV.Proofs.BasicApi
namespace ZtypV.Props.C09
open ZtypV ZtypV.View ZtypV.BasicApi ZtypV.RepMut

/-! ### 1. encoding and lengths -/

/-- `Encode()` and `Serialize(w)` of a basic value yield exactly the SSZ-spec bytes of its
    (well-typed) spec value -/
theorem C09b_encode_spec (v : BasicV) :
    hasType v.ty v.val = true ∧ v.encode = serialize v.ty v.val ∧ v.serializeW = serialize v.ty v.val :=
  ⟨BasicV.hasType_val v, BasicV.encode_eq v, (BasicV.serializeW_eq v).trans (BasicV.encode_eq v)⟩

/-- all reported lengths are the encoded length -/
theorem C09b_lengths (v : BasicV) :
    v.byteLength = v.encode.length ∧ v.fixedLength = v.encode.length ∧
    v.valueByteLength = .ok v.encode.length ∧ v.type.typeByteLength = v.encode.length ∧
    v.type.minByteLength = v.encode.length ∧ v.type.maxByteLength = v.encode.length ∧
    v.type.isFixedByteLength = true ∧ v.ty.fixedSize = v.encode.length := by
  rw [BasicV.encode_length]
  refine ⟨rfl, BasicV.fixedLength_eq v, BasicV.valueByteLength_eq v, BasicV.typeByteLength_eq v, ?_, ?_, ?_,
    BasicV.fixedSize_eq v⟩ <;> cases v <;> rfl

/-- every view of this API (basic, root, small byte vector): `Serialize` = spec bytes,
    `ValueByteLength` and the type's lengths = their length -/
theorem C09b_view_serialize (v : BV) (hw : v.wf) :
    hasType v.ty v.val = true ∧ v.serializeW = serialize v.ty v.val ∧
    v.valueByteLength = .ok (serialize v.ty v.val).length ∧
    v.type.typeByteLength = (serialize v.ty v.val).length ∧ v.type.minByteLength = (serialize v.ty v.val).length ∧
    v.type.maxByteLength = (serialize v.ty v.val).length ∧ v.type.isFixedByteLength = true :=
  ⟨BV.hasType_val v hw, BV.serializeW_eq v, BV.valueByteLength_eq v hw, BV.typeByteLength_eq v hw⟩

example : (BasicV.u16 0xBEEF).encode = [0xEF, 0xBE] ∧ (BasicV.u16 0xBEEF).val = .num 0xBEEF := ⟨by decide, rfl⟩
example : (BV.small [1, 2, 3]).wf ∧ (BV.root (List.replicate 32 7)).wf := by
  constructor
  · exact (by decide : 3 ≤ 32)
  · exact List.length_replicate

/-! ### 2. decoding -/

/-- `Decode(Encode(v)) = v`, whatever the destination (of the same Go type) held before -/
theorem C09b_decode_encode (dst v : BasicV) (ht : dst.type = v.type) : dst.decode v.encode = .ok v := by
  rcases v.type_cases with ⟨td, h, hl, -⟩ | ⟨b, rfl⟩
  · rw [BasicV.decode_uint dst td (ht.trans h), if_neg (by rw [BasicV.encode_length, hl]; exact fun h => h rfl),
      BasicV.ofBytes_of_encode v td h]
  · cases dst <;> cases ht
    cases b <;> rfl

/-- a byte string of the wrong length is refused (an error, not a panic) -/
theorem C09b_decode_wrong_length (dst : BasicV) (x : Bytes) (h : x.length ≠ dst.byteLength) :
    dst.decode x = .error .other := by
  rcases dst.type_cases with ⟨td, ht, hl, -⟩ | ⟨b, rfl⟩
  · rw [BasicV.decode_uint dst td ht, if_pos (hl ▸ h)]
  · exact if_pos h

/-- whatever `Decode` accepts is the encoding of the value it stores, of the destination's type:
    in particular boolean bytes above 1 are refused and `Decode` is injective -/
theorem C09b_decode_sound (dst v : BasicV) (x : Bytes) (h : dst.decode x = .ok v) :
    v.encode = x ∧ v.type = dst.type ∧ serialize v.ty v.val = x := by
  suffices h' : v.encode = x ∧ v.type = dst.type from ⟨h'.1, h'.2, by rw [← BasicV.encode_eq, h'.1]⟩
  rcases dst.type_cases with ⟨td, ht, -, hs⟩ | ⟨b, rfl⟩
  · rw [BasicV.decode_uint dst td ht] at h
    obtain ⟨hx, h⟩ := DecodeProofs.ite_err_eq_ok h
    cases h
    exact ⟨BasicV.ofBytes_encode td hs x (Decidable.not_not.mp hx), (BasicV.ofBytes_type td hs x).trans ht.symm⟩
  · rw [BasicV.decode_bool] at h
    obtain ⟨hx, h⟩ := DecodeProofs.ite_err_eq_ok h
    obtain ⟨hb, h⟩ := DecodeProofs.ite_err_eq_ok h
    cases h
    rw [single_of_length_one x (Decidable.not_not.mp hx)]
    rcases DecodeProofs.byte_le_one _ hb with h0 | h0 <;> rw [h0] <;> exact ⟨rfl, rfl⟩

theorem C09b_decode_no_panic (dst : BasicV) (x : Bytes) : dst.decode x ≠ .error .panic := by
  rcases dst.type_cases with ⟨td, ht, -, -⟩ | ⟨b, rfl⟩
  · rw [BasicV.decode_uint dst td ht]
    exact DecodeProofs.ite_ne_panic (fun _ => DecodeProofs.other_ne_panic) (fun _ => DecodeProofs.ok_ne_panic _)
  · rw [BasicV.decode_bool]
    exact DecodeProofs.ite_ne_panic (fun _ => DecodeProofs.other_ne_panic)
      (fun _ => DecodeProofs.ite_ne_panic (fun _ => DecodeProofs.other_ne_panic) (fun _ => DecodeProofs.ok_ne_panic _))

example : (BasicV.u32 0xa5a5a5a5).decode [1, 2, 3, 4] = .ok (.u32 0x04030201) := by
  rfl
example : (BasicV.bool true).decode [2] = .error .other := rfl

/-! ### 3. roots and backings -/

/-- `HashTreeRoot(h) = Backing().MerkleRoot(h) = hash_tree_root`, for every pair hash -/
theorem C09b_hash_tree_root (h : HashFn) (v : BV) (hw : v.wf) :
    v.hashTreeRoot = v.backing.root h ∧ v.hashTreeRoot = htr h v.ty v.val ∧
    v.hashTreeRoot = chunkOf (serialize v.ty v.val) := by
  refine ⟨?_, ?_, BV.hashTreeRoot_eq_chunk v hw⟩
  · rw [BV.backing_eq]; rfl
  · rw [BV.hashTreeRoot_eq_chunk v hw]
    cases v with
    | basic b => cases b <;> rfl
    | root r =>
      have := htr_bytesN h r (Nat.le_of_eq hw)
      rw [show r.length = 32 from hw] at this
      exact this.symm
    | small bs => exact (htr_bytesN h bs hw).symm

/-- `ViewFromBacking(Backing(v)) = v` -/
theorem C09b_viewFromBacking_backing (v : BV) (hw : v.wf) : Meta.viewFromBacking v.type v.backing = .ok v := by
  cases v with
  | basic b =>
    rcases b.type_cases with ⟨td, ht, hl, hs⟩ | ⟨x, rfl⟩
    · have hlen : b.encode.length = td := (BasicV.encode_length b).trans hl
      have h32 := hl ▸ BasicV.byteLength_le b
      show Meta.viewFromBacking b.type b.backing = _
      rw [ht, BasicV.backing_eq, BasicV.hashTreeRoot_eq_chunk, Meta.viewFromBacking_uint td hs, ← hlen,
        chunkOf_take_self _ (hlen ▸ h32), hlen, BasicV.ofBytes_of_encode b td ht]
    · cases x <;> rfl
  | root r => rfl
  | small bs =>
    show (if bs.length > 32 then _ else _) = _
    rw [if_neg (Nat.not_lt_of_le hw), goCopy_z0,
      goCopy_of_le _ _ (by rw [List.length_replicate, chunkOf_length]; exact hw), List.length_replicate,
      chunkOf_take_self bs hw]

/-- `Backing()` is the node the constructor route of Model/View.lean builds for the leaf types -/
theorem C09b_backing_construct (h : HashFn) (v : BV) (hw : v.wf) : construct h v.ty v.val = .ok v.backing := by
  rw [BV.backing_eq, BV.hashTreeRoot_eq_chunk v hw]
  cases v with
  | basic b => cases b <;> rfl
  | _ => rfl

/-- `ViewFromBacking` on an arbitrary chunk reads what the typed getter model `viewVal` reads
    (booleans: first byte ≠ 0 — not a rejection of bytes above 1) -/
theorem C09b_viewFromBacking_viewVal (m : Meta) (hm : m.supported) (r : Root) (hr : r.length = 32) :
    (Meta.viewFromBacking m (.leaf r)).map BV.val = viewVal m.ty (.leaf r) := by
  cases m with
  | uint td =>
    have hle : td ≤ 32 := by rcases hm with rfl | rfl | rfl | rfl | rfl <;> decide
    rw [Meta.viewFromBacking_uint td hm]
    exact congrArg Except.ok (BasicV.ofBytes_val td hm _ (List.length_take_of_le (hr ▸ hle)))
  | bool => rfl
  | root => exact congrArg (fun x => Except.ok (Val.bytes x)) (List.take_of_length_le (Nat.le_of_eq hr)).symm
  | small td =>
    have hle : td ≤ 32 := hm
    show ((if td > 32 then _ else _) : R BV).map BV.val = _
    rw [if_neg (Nat.not_lt_of_le hle), goCopy_of_le _ _ (by rw [List.length_replicate, hr]; exact hle),
      List.length_replicate]
    rfl

/-- a pair node is refused by every `ViewFromBacking` -/
theorem C09b_viewFromBacking_pair (m : Meta) (l r : Node) : Meta.viewFromBacking m (.pair l r) = .error .other := by
  cases m <;> rfl

example : (Meta.uint 8).supported ∧ (Meta.small 20).supported := by
  constructor
  · show uintSize 8; simp [uintSize]
  · show 20 ≤ 32; omega

/-! ### 4. packed positions of a chunk -/

/-- complete description of `BackingFromBase(base, i)`: never a panic; nil exactly when the
    sub-index is outside the chunk; otherwise a NEW root equal to the base with the encoding
    written at `size * i` -/
theorem C09b_backingFromBase (v : BasicV) (base : Root) (hb : base.length = 32) (i : UInt8) :
    v.backingFromBase base i =
      .ok (if i.toNat < 32 / v.byteLength then some (putAt base (v.byteLength * i.toNat) v.encode) else none) :=
  BasicV.backingFromBase_eq v base hb i

/-- for uint views `BackingFromBase` is the `basicIntoChunk` of Model/Machine.lean (what
    `Set/Append` use) -/
theorem C09b_backingFromBase_basicIntoChunk (v : BasicV) (td : Nat) (ht : v.type = .uint td)
    (base : Root) (hb : base.length = 32) (i : UInt8) (hi : i.toNat < 32 / td) :
    v.backingFromBase base i = .ok (some (basicIntoChunk td base i.toNat (numOf v.val))) := by
  obtain ⟨hl, hs⟩ := BasicV.byteLength_of_type v td ht
  rw [BasicV.backingFromBase_eq v base hb i, hl, if_pos hi]
  rw [BasicV.encode_uint v td ht, putAt, leBytes_length]
  rfl

/-- in range: the result differs from the base only in the `size` bytes at `size * i`; the value
    reads back at `i`; every other sub-position `j ≠ i` still reads what it read in the base -/
theorem C09b_base_readback (v : BasicV) (td : Nat) (ht : v.type = .uint td)
    (base : Root) (hb : base.length = 32) (i : UInt8) (hi : i.toNat < 32 / td) :
    ∃ r', v.backingFromBase base i = .ok (some r') ∧ r'.length = 32 ∧
      Upd base r' (td * i.toNat) v.encode ∧
      Meta.basicViewFromBacking td r' i = .ok v ∧
      ∀ j : UInt8, j ≠ i → Meta.basicViewFromBacking td r' j = Meta.basicViewFromBacking td base j := by
  obtain ⟨hl, hs⟩ := BasicV.byteLength_of_type v td ht
  have hel : v.encode.length = td := by rw [BasicV.encode_length, hl]
  have hfit : td * i.toNat + v.encode.length ≤ base.length := by
    rw [hel, hb]; exact (slot_fits hs.pos).mp hi
  refine ⟨putAt base (td * i.toNat) v.encode, ?_, ?_, ?_, ?_, ?_⟩
  · rw [BasicV.backingFromBase_eq v base hb i, hl, if_pos hi]
  · exact putAt_length _ _ _ hb (hb ▸ hfit)
  · exact upd_splice base _ _ hfit
  · have hread := putAt_read base (td * i.toNat) v.encode (Nat.le_trans (Nat.le_add_right ..) hfit)
    rw [hel] at hread
    rw [basicViewFromBacking_eq td hs, if_pos hi, hread, BasicV.ofBytes_of_encode v td ht]
  · intro j hj
    rw [basicViewFromBacking_eq td hs, basicViewFromBacking_eq td hs,
      putAt_read_other base _ _ _ _ hfit
        (hel.symm ▸ slots_disjoint td (fun h => hj (UInt8.toNat_inj.mp h)))]

/-- out of range: nil, for every type (uint8 sub-indices up to 255) -/
theorem C09b_base_out_of_range (v : BasicV) (base : Root) (hb : base.length = 32) (i : UInt8)
    (hi : ¬ i.toNat < 32 / v.byteLength) : v.backingFromBase base i = .ok none := by
  rw [BasicV.backingFromBase_eq v base hb i, if_neg hi]

/-- `BasicViewFromBacking`: complete description for the supported sizes (an error exactly
    outside the chunk, never a panic) and agreement with `basicFromChunk` of Model/View.lean -/
theorem C09b_basicViewFromBacking (td : Nat) (htd : uintSize td) (r : Root) (hr : r.length = 32) (i : UInt8) :
    (Meta.basicViewFromBacking td r i).map BasicV.val = basicFromChunk td r i.toNat ∧
    Meta.basicViewFromBacking td r i ≠ .error .panic := by
  rw [basicViewFromBacking_eq td htd]
  unfold basicFromChunk
  by_cases hi : i.toNat < 32 / td
  · have hlen : ((r.drop (td * i.toNat)).take td).length = td :=
      length_take_drop r _ _ (hr ▸ (slot_fits htd.pos).mp hi)
    rw [if_pos hi, if_neg (Nat.not_le_of_lt hi)]
    exact ⟨congrArg Except.ok (BasicV.ofBytes_val td htd _ hlen), DecodeProofs.ok_ne_panic _⟩
  · rw [if_neg hi, if_pos (Nat.le_of_not_lt hi)]
    exact ⟨rfl, DecodeProofs.other_ne_panic⟩

/-- booleans packed as bytes: `BackingFromBase` then `SubViewFromBacking` reads the value back;
    `SubViewFromBacking` answers nil for a byte above 1 and outside the chunk -/
theorem C09b_bool_base_readback (b : Bool) (base : Root) (hb : base.length = 32) (i : UInt8) (hi : i.toNat < 32) :
    ∃ r', (BasicV.bool b).backingFromBase base i = .ok (some r') ∧ r'.length = 32 ∧
      Upd base r' i.toNat [boolByte b] ∧
      Meta.subViewFromBacking r' i = .ok (some (.bool b)) ∧
      ∀ j : UInt8, j ≠ i → Meta.subViewFromBacking r' j = Meta.subViewFromBacking base j := by
  have hbf : (BasicV.bool b).backingFromBase base i = .ok (some (putAt base i.toNat [boolByte b])) :=
    (backingFromBase_byte base i (boolByte b)).trans (by rw [if_pos hi])
  have hg (q : Nat) := putAt_byte_getD base i.toNat (boolByte b) q (hb ▸ hi)
  refine ⟨_, hbf, putAt_length _ _ _ hb hi, upd_splice base i.toNat [boolByte b] (hb ▸ hi), ?_, ?_⟩
  · rw [subViewFromBacking_eq, if_pos hi, hg, if_pos rfl]
    cases b <;> rfl
  · intro j hj
    rw [subViewFromBacking_eq, subViewFromBacking_eq, hg, if_neg (fun h => hj (UInt8.toNat_inj.mp h))]

/-- bit fields: `BackingFromBitfieldBase / BoolViewFromBitfieldBacking` are `bitIntoChunk /
    bitFromChunk` (Model/Machine.lean, Model/View.lean) for every uint8 index; no panic -/
theorem C09b_bitfield (b : Bool) (r : Root) (i : UInt8) :
    BasicV.backingFromBitfieldBase b r i = .ok (bitIntoChunk r i.toNat b) ∧
    Meta.boolViewFromBitfieldBacking r i = .ok (bitFromChunk r i.toNat) := by
  obtain ⟨e1, e2⟩ := u8_shr3 i
  have h32 : i.toNat / 8 < 32 := Nat.div_lt_of_lt_mul i.toNat_lt
  have hmod : i.toNat % 256 = i.toNat := Nat.mod_eq_of_lt i.toNat_lt
  constructor
  · unfold BasicV.backingFromBitfieldBase bitIntoChunk
    rw [e1, rootAt_ok _ _ h32]
    simp only [R.bind_ok]
    rw [rootSetIdx_ok _ _ _ h32, u8_mask, hmod]
    rfl
  · unfold Meta.boolViewFromBitfieldBacking bitFromChunk
    rw [e1, rootAt_ok _ _ h32]
    simp only [R.bind_ok, hmod]
    refine congrArg Except.ok ?_
    -- bit `i % 8` of the byte, once by shift and mask on `uint8`, once by division on its value
    have hb : ((r.getD (i.toNat / 8) 0 >>> (i &&& 7)) &&& 1).toNat
        = (r.getD (i.toNat / 8) 0).toNat / 2 ^ (i.toNat % 8) % 2 := by
      rw [UInt8.toNat_and, UInt8.toNat_shiftRight, e2, Nat.mod_mod_of_dvd _ (by decide : 8 ∣ 8),
        Nat.shiftRight_eq_div_pow]
      exact Nat.and_two_pow_sub_one_eq_mod _ 1
    rw [← hb]
    exact Bool.eq_iff_iff.mpr (beq_iff_eq.trans (UInt8.toNat_inj.symm.trans beq_iff_eq.symm))

example : ∃ r', (BasicV.u16 0xBEEF).backingFromBase z0 3 = .ok (some r') ∧
    Meta.basicViewFromBacking 2 r' 3 = .ok (.u16 0xBEEF) := by
  obtain ⟨r', h1, _, _, h2, _⟩ := C09b_base_readback (.u16 0xBEEF) 2 rfl z0 (by decide) 3 (by decide)
  exact ⟨r', h1, h2⟩

/-- a chunk of 0xff bytes: position 31 is overwritten and reads back, position 30 still holds a
    byte above 1 and reads nil -/
example : ∃ r', (BasicV.bool true).backingFromBase (List.replicate 32 0xff) 31 = .ok (some r') ∧
    Meta.subViewFromBacking r' 31 = .ok (some (.bool true)) ∧ Meta.subViewFromBacking r' 30 = .ok none := by
  obtain ⟨r', h1, _, _, h2, h3⟩ := C09b_bool_base_readback true (List.replicate 32 0xff) List.length_replicate 31 (by decide)
  exact ⟨r', h1, h2, by rw [h3 30 (by decide)]; rfl⟩

/-! ### 5. `PackViews` -/

/-- `PackViews` of `k` values of one uint type (every size, every `k` including 0 and counts that
    do not fill the last chunk) = `BytesIntoNodes` of the concatenated spec encodings, i.e. the
    bottom nodes `View.construct` fills a basic vector / list with; their roots are the spec's
    chunks -/
theorem C09b_packViews (h : HashFn) (td : Nat) (htd : uintSize td) (vs : List BasicV) (hall : allOfType td vs) :
    allHaveType (.uint td) (vs.map BasicV.val) = true ∧
    Meta.packViews td vs = .ok (bytesIntoNodes (serList (.uint td) (vs.map BasicV.val)).flatten) ∧
    (bytesIntoNodes (serList (.uint td) (vs.map BasicV.val)).flatten).map (Node.root h)
      = chunks (serList (.uint td) (vs.map BasicV.val)).flatten := by
  refine ⟨allHaveType_vals td vs hall, ?_, ?_⟩
  · rw [packViews_eq td htd vs hall, encode_eq_serList td vs hall]
  · unfold bytesIntoNodes
    rw [List.map_map]
    exact (List.map_congr_left (fun _ _ => rfl)).trans (List.map_id _)

/-- `PackViews` over plain numbers: packing the values built from `ns` gives the chunks of the
    concatenated `size`-byte little-endian encodings -/
theorem C09b_packViews_nat (td : Nat) (htd : uintSize td) (ns : List Nat) :
    Meta.packViews td (ns.map (BasicV.ofNatD td)) = .ok (bytesIntoNodes (ns.map (leBytes td)).flatten) := by
  have henc : (ns.map (BasicV.ofNatD td)).map BasicV.encode = ns.map (leBytes td) := by
    rw [List.map_map]
    exact List.map_congr_left fun n _ => BasicV.ofNatD_encode td n htd
  rw [packViews_eq td htd _ (fun v hv => by
    obtain ⟨n, _, rfl⟩ := List.mem_map.mp hv
    exact BasicV.ofNatD_type td n htd), henc]

example : uintSize 8 ∧ allOfType 8 [.u64 1, .u64 2, .u64 3, .u64 4, .u64 5] := by
  refine ⟨by simp [uintSize], ?_⟩
  intro v hv
  simp only [List.mem_cons, List.not_mem_nil, or_false] at hv
  rcases hv with rfl | rfl | rfl | rfl | rfl <;> rfl

example : Meta.packViews 8 [.u64 1, .u64 2, .u64 3, .u64 4, .u64 5]
    = .ok [.leaf (leBytes 8 1 ++ leBytes 8 2 ++ leBytes 8 3 ++ leBytes 8 4), .leaf (chunkOf (leBytes 8 5))] := by
  rfl

/-! ### 6. `Deserialize` -/

/-- `TypeDef.Deserialize` of the leaf types is the leaf decoder of Model/Decode.lean
    (`View.decode`): same acceptance, same backing, same reader afterwards -/
theorem C09b_deserialize_eq_decode (h : HashFn) (m : Meta) (hm : m.supported) (dr : DR) :
    (Meta.deserialize m dr).map (fun r => (r.1.backing, r.2)) = View.decode h m.ty dr := by
  cases m with
  | uint td =>
    rw [Meta.deserialize_uint td hm]
    simp only [Meta.ty, View.decode]
    cases hr : dr.read td with
    | error e => rfl
    | ok p => exact congrArg (fun n => Except.ok (n, p.2)) (ofBytes_backing td hm p.1 (read_len hr))
  | bool =>
    simp only [Meta.ty, View.decode, Meta.deserialize, readByte_eq]
    cases hr : dr.read 1 with
    | error e => rfl
    | ok p =>
      obtain ⟨bs, dr'⟩ := p
      obtain ⟨x, rfl⟩ : ∃ x, bs = [x] := ⟨_, single_of_length_one bs (read_len hr)⟩
      simp only [R.bind_ok, List.getD_cons_zero]
      by_cases hx : x > 1
      · rw [if_pos hx, if_pos hx]; rfl
      · rw [if_neg hx, if_neg hx]
        rcases DecodeProofs.byte_le_one x hx with rfl | rfl
        · exact congrArg (fun n => Except.ok (Node.leaf n, dr')) z0_eq_chunk
        · exact congrArg (fun n => Except.ok (Node.leaf n, dr')) trueRoot_eq
  | root =>
    simp only [Meta.ty, View.decode, Meta.deserialize]
    cases hr : dr.read 32 with
    | error e => rfl
    | ok p => exact congrArg (fun n => Except.ok (Node.leaf n, p.2)) (chunkOf_32 p.1 (read_len hr)).symm
  | small td =>
    simp only [Meta.ty, View.decode, Meta.deserialize]
    cases dr.read td with
    | error e => rfl
    | ok p => exact congrArg (fun n => Except.ok (Node.leaf n, p.2)) (goCopy_z0 p.1)

/-- `(*UintNView).Deserialize` is the flat codec model's `decUint` -/
theorem C09b_deserialize_eq_decUint (dst : BasicV) (td : Nat) (ht : dst.type = .uint td) (dr : DR) :
    (dst.deserialize dr).map (fun r => (r.1.val, r.2)) = Flat.decUint td dr := by
  rw [BasicV.deserialize_uint dst td ht]
  unfold Flat.decUint
  cases hr : dr.read td with
  | error e => rfl
  | ok p =>
    exact congrArg (fun v => Except.ok (v, p.2))
      (BasicV.ofBytes_val td (BasicV.byteLength_of_type dst td ht).2 p.1 (read_len hr))

/-- `(*BoolView).Deserialize` is `decBool`; `RootMeta.Deserialize` reads what `decRoot` reads -/
theorem C09b_deserialize_eq_decBool (b : Bool) (dr : DR) :
    ((BasicV.bool b).deserialize dr).map (fun r => (r.1.val, r.2)) = Flat.decBool dr ∧
    (Meta.deserialize .root dr).map (fun r => (r.1.val, r.2)) = Flat.decRoot dr := by
  constructor
  · rw [BasicV.deserialize_bool]
    unfold Flat.decBool
    cases dr.read 1 with
    | error e => rfl
    | ok p =>
      obtain ⟨bs, dr'⟩ := p
      cases bs with
      | nil => rfl
      | cons d bs =>
        -- both test the byte against 1, one as a `uint8`, one by its value
        show Except.map _ (if d > 1 then _ else _) = if d.toNat > 1 then _ else _
        have hd : d > 1 ↔ d.toNat > 1 := UInt8.lt_iff_toNat_lt
        by_cases hx : d.toNat > 1
        · rw [if_pos hx, if_pos (hd.mpr hx)]; rfl
        · rw [if_neg hx, if_neg (fun h => hx (hd.mp h))]; rfl
  · simp only [Meta.deserialize, Flat.decRoot]
    cases dr.read 32 <;> rfl

/-- the type's `Deserialize` and the value's `Deserialize` are the same function, whatever the
    destination held: the flat and the view leaf decoders coincide -/
theorem C09b_deserialize_agree (dst : BasicV) (dr : DR) :
    Meta.deserialize dst.type dr = (dst.deserialize dr).map (fun r => (BV.basic r.1, r.2)) := by
  rcases dst.type_cases with ⟨td, ht, -, hs⟩ | ⟨b, rfl⟩
  · rw [ht, Meta.deserialize_uint td hs, BasicV.deserialize_uint dst td ht]
    cases dr.read td <;> rfl
  · rw [BasicV.deserialize_bool]
    simp only [BasicV.type, Meta.deserialize, readByte_eq]
    cases dr.read 1 with
    | error e => rfl
    | ok p =>
      simp only [R.bind_ok]
      by_cases hx : p.1.getD 0 0 > 1
      · rw [if_pos hx, if_pos hx]; rfl
      · rw [if_neg hx, if_neg hx]
        rcases DecodeProofs.byte_le_one _ hx with h0 | h0 <;> rw [h0] <;> rfl

example : ((Meta.uint 2).deserialize (DR.new [0xEF, 0xBE, 7] 3)).map (fun r => r.1) = .ok (.basic (.u16 0xBEEF)) := by
  rfl

example : (Meta.small 0).supported ∧ (Meta.deserialize (.small 0) (DR.new [] 0)).map (fun r => r.1) = .ok (.small []) :=
  ⟨Nat.zero_le _, rfl⟩

/-! ### 7. defaults and copies -/

/-- `Default(hook)` is the spec's default value, `DefaultNode()` is its backing, `New()` is the
    same value -/
theorem C09b_default (m : Meta) (hm : m.supported) :
    ∃ v, m.defaultView = some v ∧ v.type = m ∧ v.wf ∧ v.val = defaultVal m.ty ∧ m.defaultNode = v.backing ∧
      (m ≠ .root → m.new = some v) := by
  cases m with
  | uint td =>
    obtain ⟨hd, hn⟩ := Meta.default_uint td hm
    refine ⟨_, hd, BasicV.ofNatD_type td 0 hm, trivial, ?_, ?_, fun _ => hn⟩
    · exact (BasicV.ofNatD_val td 0 hm).trans (congrArg Val.num (Nat.zero_mod _))
    · show Node.leaf z0 = (BasicV.ofNatD td 0).backing
      rw [BasicV.backing_eq, BasicV.hashTreeRoot_eq_chunk, BasicV.ofNatD_encode td 0 hm, leBytes_zero, chunkOf_zeros]
  | bool => exact ⟨_, rfl, rfl, trivial, rfl, rfl, fun _ => rfl⟩
  | root => exact ⟨_, rfl, rfl, List.length_replicate, rfl, rfl, fun h => absurd rfl h⟩
  | small td =>
    refine ⟨_, rfl, congrArg Meta.small List.length_replicate,
      (show (List.replicate td (0 : UInt8)).length ≤ 32 from List.length_replicate ▸ hm), rfl, ?_, fun _ => rfl⟩
    show Node.leaf z0 = .leaf (goCopy z0 _)
    rw [goCopy_z0, chunkOf_zeros]

/-- `Copy()` returns an equal value (sharing nothing mutable: the model is pure) -/
theorem C09b_copy (v : BV) : v.copy = .ok v := by
  cases v with
  | small bs =>
    refine congrArg (fun x => Except.ok (BV.small x)) ?_
    rw [goCopy_of_le _ _ (Nat.le_of_eq List.length_replicate), List.length_replicate, List.take_length]
  | _ => rfl

end ZtypV.Props.C09
