/-
Property family C02c (C02 / C04 / C15 / C13): public API of `view` and `codec` that the other
families do not drive — the laws of the model functions of Model/Api.lean, each universally
quantified, with non-vacuity examples.  The model is tied to the Go code by the differential
check of the op family `api.*` (harness/ops_api.go, Driver/OpsApi.lean).
-/
import ZtypV.Proofs.Api
import ZtypV.Proofs.ApiView
import ZtypV.Proofs.ApiSkip
import ZtypV.Proofs.ViewRoot
import ZtypV.Proofs.Conv
namespace ZtypV.Props.C02
open ZtypV ZtypV.View ZtypV.Api ZtypV.Sim ZtypV.CodecIO

/-! ## 1. type-definition accessors (C15 side) -/

/-- `ElementsPerBottomNode() = 32 / size` for the five uint element sizes -/
theorem C02c_elementsPerBottomNode (s : Nat) (h : uintSize s) :
    elementsPerBottomNode (UInt64.ofNat s) = some (UInt64.ofNat (32 / s)) :=
  elementsPerBottomNode_ofNat s (uintSize_bounds h).1
    (Nat.lt_of_le_of_lt (uintSize_bounds h).2 (by decide))

example : elementsPerBottomNode (UInt64.ofNat 8) = some 4 := by decide

/-- what the Go expression `(limit + perNode - 1) / perNode` computes for EVERY limit
    (wrap-around included) -/
theorem C02c_bottomNodeLimit_wrapped (s : Nat) (h : uintSize s) (limit : UInt64) :
    ∃ v, bottomNodeLimit limit (UInt64.ofNat s) = some v ∧
      v.toNat = ((limit.toNat + 32 / s - 1) % 2 ^ 64) / (32 / s) :=
  bottomNodeLimit_ofNat s (uintSize_bounds h).1 (uintSize_bounds h).2 limit

/-- `BottomNodeLimit()` / `BottomNodeLength()` = the SSZ chunk count `ceil(limit·size/32)`,
    provided the rounding addition `limit + perNode - 1` does not wrap -/
theorem C02c_bottomNodeLimit (s : Nat) (h : uintSize s) (limit : UInt64)
    (hw : limit.toNat + 32 / s - 1 < 2 ^ 64) :
    ∃ v, bottomNodeLimit limit (UInt64.ofNat s) = some v ∧ v.toNat = basicChunkCount s limit.toNat := by
  obtain ⟨v, h1, h2⟩ := C02c_bottomNodeLimit_wrapped s h limit
  rw [Nat.mod_eq_of_lt hw] at h2
  exact ⟨v, h1, h2.trans (View.bottomNodes_eq s _ h)⟩

example : bottomNodeLimit 33 (UInt64.ofNat 2) = some 3 ∧ basicChunkCount 2 33 = 3 := by decide

/-- `C02c_bottomNodeLimit` without the no-wrap hypothesis -/
def C02c_bottomNodeLimit_full : Prop :=
  ∀ (s : Nat), uintSize s → ∀ limit : UInt64,
    ∃ v, bottomNodeLimit limit (UInt64.ofNat s) = some v ∧ v.toNat = basicChunkCount s limit.toNat

/-- without the no-wrap hypothesis it is false: `List[uint8, 2^64-1]` has 0 bottom nodes in the
    library, 2^59 in the spec (recorded finding; limits of the property text are ≤ 2^40) -/
theorem C02c_bottomNodeLimit_full_false : ¬ C02c_bottomNodeLimit_full := by
  intro hf
  obtain ⟨v, h1, h2⟩ := hf 1 (Or.inl rfl) 18446744073709551615
  have h3 : bottomNodeLimit 18446744073709551615 (UInt64.ofNat 1) = some 0 := by decide
  rw [h3] at h1
  cases h1
  revert h2
  decide

/-- `TranslateIndex(i) = (i / perNode, i % perNode)` for every `uint64` index -/
theorem C02c_translateIndex (s : Nat) (h : uintSize s) (index : UInt64) :
    ∃ a b, translateIndex (UInt64.ofNat s) index = some (a, b) ∧
      a.toNat = index.toNat / (32 / s) ∧ b.toNat = index.toNat % (32 / s) := by
  obtain ⟨k, hk, hp⟩ := perNode_pow s h
  rw [hp]
  exact translateIndex_val (C02c_elementsPerBottomNode s h) hk (by rw [toNat_perNode, hp]) index

example : translateIndex (UInt64.ofNat 4) 21 = some (2, 5) := by decide

theorem C02c_bitBottomNodes_wrapped (n : UInt64) :
    (bitBottomNodes n).toNat = ((n.toNat + 255) % 2 ^ 64) / 256 := by
  unfold bitBottomNodes
  rw [UInt64.toNat_shiftRight, UInt64.toNat_add]
  show ((n.toNat + 255) % 2 ^ 64) >>> (8 % 64) = _
  rw [Nat.shiftRight_eq_div_pow]

/-- bitfields: `BottomNodeLimit/Length = ceil(n / 256)` when `n + 255` does not wrap -/
theorem C02c_bitBottomNodes (n : UInt64) (hw : n.toNat + 255 < 2 ^ 64) :
    (bitBottomNodes n).toNat = (n.toNat + 255) / 256 := by
  rw [C02c_bitBottomNodes_wrapped, Nat.mod_eq_of_lt hw]

example : bitBottomNodes 257 = 2 ∧ bitBottomNodes 18446744073709551615 = 0 := by decide

/-- `ByteBitIndex(v)` = position of the highest set bit (`Nat.log2`, 0 for the byte 0) -/
theorem C02c_byteBitIndex (v : UInt8) : (Api.byteBitIndex v).toNat = Nat.log2 v.toNat :=
  byteBitIndex_eq_decode v

example : Api.byteBitIndex 0x40 = 6 := by decide

/-- `TypeRepr()` of a container panics exactly when a field's `String()` reaches the nil option
    of a `Union[None, …]` (through series / union nesting, not through nested containers) -/
theorem C02c_typeRepr_container (fs : List Ty) :
    typeRepr (.container fs) = none ↔ anyStrPanics fs = true := by
  rw [typeRepr, Option.map_eq_none_iff, fieldLines_none_iff, anyStrPanics_iff]
  exact exists_congr fun t => and_congr_right fun _ => typeString_none_iff t

/-- `TypeRepr()` (= `String()`) of a union type panics exactly when it has a None option or an
    option whose `String()` panics: EVERY `Union[None, …]` panics (recorded finding) -/
theorem C02c_typeRepr_union (hn : Bool) (opts : List Ty) :
    typeRepr (.union hn opts) = none ↔ (hn = true ∨ anyStrPanics opts = true) := by
  rw [typeRepr, typeString_none_iff, strPanics, Bool.or_eq_true]

example : typeRepr (.union true [.uint 1]) = none := rfl
example : typeRepr (.container [.uint 8, .list (.bitlist 3) 4]) =
    some "C(Container):    f0: uint64\n    f1: List[Bitist[3], 4]\n" := rfl

/-! ## 2. `CheckIndex` (C04 side) -/

/-- on ANY backing: nil error iff `Length()` succeeds and the index is below it -/
theorem C02c_checkIndex (n : Node) (lim i : Nat) :
    checkIndex n lim i = .ok () ↔ ∃ ll, listLength n lim = .ok ll ∧ i < ll := by
  cases hl : listLength n lim with
  | error e => rw [checkIndex_eq, hl]; exact ⟨nofun, nofun⟩
  | ok ll =>
    rw [checkIndex_ok_iff hl]
    exact ⟨fun h => ⟨ll, rfl, h⟩, fun ⟨_, h1, h2⟩ => by cases h1; exact h2⟩

theorem C02c_checkIndex_no_panic (n : Node) (lim i : Nat) : checkIndex n lim i ≠ .error .panic := by
  rw [checkIndex_eq]
  cases hl : listLength n lim with
  | ok ll => rw [R.bind_ok]; split <;> nofun
  | error e => intro h; cases h; exact listLength_ne_panic n lim hl

/-- on a backing of the list value `vs` (any construction route, any mutation history):
    nil error iff `i < length` -/
theorem C02c_checkIndex_value (h : HashFn) (e : Ty) (lim : Nat) (vs : List Val) (n : Node) (i : Nat)
    (hd : DepthOk (.list e lim)) (hr : Rep h (.list e lim) (.seq vs) n) :
    checkIndex n lim i = .ok () ↔ i < vs.length :=
  checkIndex_ok_iff (rep_listLength h hd hr) i

set_option linter.unusedVariables false in
/-- a hand-written length node: nil error iff the stored length respects the limit and the
    index is below it -/
theorem C02c_checkIndex_lengthNode (c : Node) (ov lim i : Nat) (hov : ov < 2 ^ 64) (hlim : lim < 2 ^ 64) :
    checkIndex (.pair c (lengthNode ov)) lim i = .ok () ↔ (ov ≤ lim ∧ i < ov) := by
  have hl := listLength_lengthNode c ov lim hov
  by_cases h : ov ≤ lim
  · rw [if_neg (Nat.not_lt_of_le h)] at hl
    rw [checkIndex_ok_iff hl, and_iff_right h]
  · rw [if_pos (Nat.lt_of_not_le h)] at hl
    rw [checkIndex_eq, hl]
    exact ⟨nofun, fun h' => absurd h'.1 h⟩

example : checkIndex (.pair (.leaf z0) (lengthNode 3)) 4 2 = .ok () ∧
    checkIndex (.pair (.leaf z0) (lengthNode 3)) 4 3 = .error .other ∧
    checkIndex (.pair (.leaf z0) (lengthNode 5)) 4 0 = .error .other := ⟨rfl, rfl, rfl⟩

/-! ## 3. `ContainerView.FieldValues` (C02 side) -/

/-- on ANY backing whose fields are reachable and openable: exactly the views `Get(j)` returns -/
theorem C02c_fieldValues_eq_gets (fs : List Ty) (n : Node) (hd : coverDepth fs.length < 64)
    (cs : Nat → Node)
    (hget : ∀ j (hj : j < fs.length), subtreeGet n (coverDepth fs.length) j = .ok (cs j) ∧
      viewFromBackingOk fs[j] (cs j) = true) :
    fieldValues fs n = .ok ((List.range fs.length).map fun j => (fs[j]?.getD .bool, cs j)) := by
  have hb : (Iter.NodeIt.new n fs.length (coverDepth fs.length)).bad = false :=
    Iter.node_new_not_bad _ _ _ (Or.inr ⟨hd, Iter.le_two_pow_coverDepth' fs.length⟩)
  have hstart : Iter.start (.container fs) n true =
      .nodes (Iter.NodeIt.new n fs.length (coverDepth fs.length)) (fun i => fs[i]?) := rfl
  -- the loop folds the iterator's outputs; those are the indexed accesses in order
  rw [fieldValues, fieldValuesLoop_eq, hstart, Iter.anyNodes_run n fs.length _ hb,
    Iter.nodesSeq_all_ok _ _ fs.length (fun j => .node (fs[j]?.getD .bool) (cs j)),
    Iter.outSeq_closed, Nat.min_eq_right (Nat.le_succ _), Nat.add_sub_cancel_left,
    List.range_eq_range']
  · exact outsToFields_nodes _ _ [] _
  intro j hj
  obtain ⟨h1, h2⟩ := hget j hj
  refine ⟨cs j, h1, ?_⟩
  simp only [Iter.nodeOut, List.getElem?_eq_getElem hj, Iter.elemViewOk, h2, if_true, Option.getD_some]

/-- on a backing of the container value `vs`: one view per field, each the view `Get(j)`
    returns, each a backing of — and reading back — the field's value -/
theorem C02c_fieldValues (h : HashFn) (fs : List Ty) (vs : List Val) (n : Node)
    (hw : (Ty.container fs).wf = true) (hr : inRange (.container fs) = true)
    (ht : hasType (.container fs) (.seq vs) = true) (hrep : Rep h (.container fs) (.seq vs) n) :
    ∃ views : List (Ty × Node), fieldValues fs n = .ok views ∧ views.length = fs.length ∧
      ∀ j (hj : j < fs.length), ∃ c x, views[j]? = some (fs[j], c) ∧ vs[j]? = some x ∧
        getElemNode (.container fs) n j = .ok (fs[j], c) ∧ Rep h fs[j] x c ∧
        viewVal fs[j] c = .ok x := by
  obtain ⟨cs, hcs⟩ := container_gets_rep h fs vs n hw hr ht hrep
  have hd : coverDepth fs.length < 64 := by
    simp only [inRange, Bool.and_eq_true, decide_eq_true_eq] at hr
    exact hr.1
  refine ⟨_, C02c_fieldValues_eq_gets fs n hd cs fun j hj => ?_, by simp, fun j hj => ?_⟩
  · obtain ⟨_, _, _, h3, h4, _⟩ := hcs j hj
    exact ⟨h3, h4⟩
  · obtain ⟨x, h1, h2, _, _, h5, h6⟩ := hcs j hj
    exact ⟨cs j, x, by simp [hj], h1, h2, h5, h6⟩

example : fieldValues [.uint 1, .uint 2] (.pair (.leaf (chunkOf [7])) (.leaf (chunkOf [1, 2]))) =
    .ok [(.uint 1, .leaf (chunkOf [7])), (.uint 2, .leaf (chunkOf [1, 2]))] := rfl

/-! ## 4. the `As*` casts (C02 side) -/

/-- an incoming error is passed through: every cast fails -/
theorem C02c_cast_error (c : Cast) : c.apply .err = none := apply_err c

/-- a nil view (the None option's `Value()`) fails every cast -/
theorem C02c_cast_nil (c : Cast) : c.apply .nil = none := apply_nil c

/-- on a view: success iff the type assertion accepts its dynamic type; the result is the view -/
theorem C02c_cast_view (c : Cast) (t : Ty) (n : Node) (k : Kind) (hk : kindOf t = some k) :
    c.apply (.view t n) = if c.accepts k then some (t, n) else none := by
  simp only [Cast.apply, hk]

/-- exactly the matching casts succeed, for every dynamic view type -/
theorem C02c_accepting_casts (k : Kind) :
    Cast.all.filter (fun c => c.accepts k) =
      match k with
      | .u8 => [.u8, .byte] | .u16 => [.u16] | .u32 => [.u32] | .u64 => [.u64] | .u256 => [.u256]
      | .bool => [.bool] | .root => [.root]
      | .small len =>
        [.small] ++ (if len = 4 then [Cast.b4] else []) ++ (if len = 8 then [Cast.b8] else []) ++
          (if len = 16 then [Cast.b16] else [])
      | .blist => [.blist] | .bvec => [.bvec] | .clist => [.clist] | .cvec => [.cvec]
      | .container => [.container] | .union => [.union] | .bitlist => [.bitlist] | .bitvec => [.bitvec] := by
  cases k with
  | small len =>
    -- `SmallByteVecView` of length `len`: `AsBytesN` compares the length
    simp only [Cast.all, List.filter, Cast.accepts, asBytesN]
    by_cases h4 : len = 4
    · subst h4; rfl
    · by_cases h8 : len = 8
      · subst h8; rfl
      · by_cases h16 : len = 16
        · subst h16; rfl
        · simp [h4, h8, h16]
  | _ => decide

/-- in SSZ terms: on a view of a well-formed type (boolean series excepted: known finding D3)
    a cast succeeds iff the type is the one the cast is for -/
theorem C02c_cast_type (c : Cast) (t : Ty) (n : Node) (hw : t.wf = true) (hb : boolSeries t = false) :
    c.apply (.view t n) = if c.isFor t then some (t, n) else none := by
  obtain ⟨k, hk⟩ := Option.isSome_iff_exists.mp (kindOf_isSome_of_wf t hw)
  rw [C02c_cast_view c t n k hk, accepts_eq_isFor c t k hk hb]

example : Cast.u16.apply (.view (.uint 2) (.leaf z0)) = some (.uint 2, .leaf z0) ∧
    Cast.u8.apply (.view (.uint 2) (.leaf z0)) = none ∧
    Cast.blist.apply (.view (.list .bool 4) (.leaf z0)) = none := ⟨rfl, rfl, rfl⟩

/-- `Get(i)` handed to a cast, on a backing of the value `v : t`: a view of the `i`-th
    component — a backing of that component's value — or an error when there is none -/
theorem C02c_cast_get (h : HashFn) (t : Ty) (v : Val) (n : Node) (i : Nat)
    (hw : t.wf = true) (hr : inRange t = true) (ht : hasType t v = true) (hrep : Rep h t v n) :
    match valElem t v i with
    | some (et, x) => ∃ en, select t n (.get i) = .ok (.view et en) ∧ Rep h et x en ∧
        hasType et x = true ∧ et.wf = true
    | none => select t n (.get i) = .ok .err := by
  have hg := getElem_rep h t v n i hw (depthOk_of_inRange t hr) ht hrep
  cases hv : valElem t v i with
  | none =>
    rw [hv] at hg
    obtain ⟨e, h1, h2⟩ := hg
    rw [select, h1]
    exact asIncoming_error h2
  | some p =>
    obtain ⟨et, x⟩ := p
    rw [hv] at hg
    obtain ⟨en, h1, h2, h3, h4⟩ := hg
    have hwe := valElem_wf t v i et x hw hv
    refine ⟨en, ?_, h2, h4, hwe⟩
    simp only [select, h1, R.bind_ok, h3, if_true, asIncoming_view et en hwe]

/-- `Value()` handed to a cast: a view of the selected option's value, `(nil, nil)` for None -/
theorem C02c_cast_value (h : HashFn) (hasNone : Bool) (opts : List Ty) (sel : Nat) (v : Val)
    (n : Node) (hw : (Ty.union hasNone opts).wf = true)
    (ht : hasType (.union hasNone opts) (.union sel v) = true)
    (hrep : Rep h (.union hasNone opts) (.union sel v) n) :
    match unionOpt hasNone opts sel with
    | some ot => ∃ c, select (.union hasNone opts) n .value = .ok (.view ot c) ∧ Rep h ot v c ∧
        hasType ot v = true ∧ ot.wf = true
    | none => select (.union hasNone opts) n .value = .ok .nil := by
  simp only [Ty.wf, Bool.and_eq_true, decide_eq_true_eq] at hw
  simp only [hasType] at ht
  cases ho : unionOpt hasNone opts sel with
  | none =>
    simp only [ho, Bool.and_eq_true, beq_iff_eq] at ht
    obtain ⟨⟨hn, hsel⟩, hv⟩ := ht
    subst hn; subst hsel
    cases v <;> simp at hv
    obtain ⟨_, _, hn⟩ := rep_union_none.mp hrep
    subst hn
    rw [select, unionValue_pair _ _ _ 0 (by decide)]
    simp [asIncoming]
  | some t =>
    simp only [ho] at ht
    obtain ⟨hlt, hnz, hget⟩ := unionOpt_some ho
    have hvn : v ≠ .none := by
      intro hv; subst hv; rw [hasType_none] at ht; cases ht
    obtain ⟨c, hrc, hn⟩ := (rep_union_some ho hvn).mp hrep
    subst hn
    have hwt : t.wf = true := wfAll_get opts _ t hw.1.2 hget
    refine ⟨c, ?_, hrc, ht, hwt⟩
    rw [select, unionValue_pair _ _ _ sel (by omega), if_neg (by omega)]
    simp only [hnz, Bool.false_eq_true, if_false, hget, RepMut.rep_viewOk h t v c hrc, if_true,
      asIncoming_view t c hwt]

/-- the view a successful cast returns encodes to the component's SSZ encoding -/
theorem C02c_cast_encoding (h : HashFn) (c : Cast) (t : Ty) (v : Val) (n : Node)
    (hw : t.wf = true) (hr : inRange t = true) (ht : hasType t v = true) (hs : SizeOk t v)
    (hrep : Rep h t v n) (hb : boolSeries t = false) (hc : c.isFor t = true) :
    ∃ t' n', c.apply (.view t n) = some (t', n') ∧ serializeView t' n' = .ok (serialize t v) := by
  refine ⟨t, n, ?_, (rep_all h hw hr ht hs hrep).2.1⟩
  rw [C02c_cast_type c t n hw hb, if_pos hc]

/-! ## 5. `Uint256View.Bytes32` / `SetBytes32` / `MustUint256` (C02 side) -/

open ZtypV.BasicApi in
/-- `Bytes32()` is the little-endian 32 byte image = the SSZ encoding of the number -/
theorem C02c_bytes32 (n : Nat) :
    (U256.ofNat n).bytes32 = leBytes 32 (n % 2 ^ 256) ∧
    (U256.ofNat n).bytes32 = serialize (.uint 32) (.num (n % 2 ^ 256)) := by
  have h : (U256.ofNat n).bytes32 = leBytes 32 (n % 2 ^ 256) := by
    rw [U256.bytes32_eq, U256.toNat_ofNat]
  exact ⟨h, by rw [h]; rfl⟩

open ZtypV.BasicApi in
/-- `SetBytes32(Bytes32())` is the identity, for any prior content of the destination -/
theorem C02c_setBytes32_bytes32 (v : U256) : U256.setBytes32 v.bytes32 = v :=
  U256.setBytes32_bytes32' v

open ZtypV.BasicApi in
/-- `SetBytes32(data)`: the value is the little-endian number, and `Bytes32()` returns `data` -/
theorem C02c_bytes32_setBytes32 (x : Bytes) (h : x.length = 32) :
    (U256.setBytes32 x).toNat = leNat x ∧ (U256.setBytes32 x).bytes32 = x :=
  ⟨U256.toNat_setBytes32 x h, U256.bytes32_setBytes32 x h⟩

open ZtypV.BasicApi in
example : (U256.ofNat 258).bytes32 = [2, 1] ++ List.replicate 30 0 := by decide +kernel

/-- `MustUint256(text)` returns `n` iff the text is a (signed) Go integer literal denoting
    `n < 2^256`; in every other case it panics -/
theorem C02c_mustUint256 (s : Conv.Text) (n : Nat) :
    mustUint256 s = some n ↔ (Conv.denotesInt s = some (n : Int) ∧ n < 2 ^ 256) := by
  rw [← Conv.specInt256_ok_iff, ← Conv.uint256ViewUnmarshalText_eq]
  unfold mustUint256
  cases Conv.uint256ViewUnmarshalText s <;> simp

/-- on the decimal rendering of a number: it panics exactly when the number is out of range -/
theorem C02c_mustUint256_decimal (n : Nat) :
    mustUint256 (Conv.decDigits n) = if n < 2 ^ 256 then some n else none := by
  apply Option.ext
  intro m
  rw [C02c_mustUint256, Conv.denotesInt_decDigits, Option.some.injEq, Int.natCast_inj]
  split
  · exact ⟨fun ⟨h1, _⟩ => by rw [h1], fun h1 => by cases h1; exact ⟨rfl, ‹_›⟩⟩
  · exact ⟨fun ⟨h1, h2⟩ => by omega, nofun⟩

/-- "42" and "-1" -/
example : mustUint256 [0x34, 0x32] = some 42 ∧ mustUint256 [0x2d, 0x31] = none := ⟨rfl, rfl⟩

/-! ## 6. codec: `Skip` and the directly called `ReadUint32` (C13 side) -/

/-- `Skip(count)` beyond the scope: an error, nothing is read -/
theorem C02c_skip_scope (dr : CodecIO.DR) (count : UInt64) (h : scopeUpdate dr.i dr.max count = none) :
    ∃ n, skip dr count = (.err .scope n, dr) :=
  skip_scope_err dr count h

/-- `Skip(count)`, `count < 2^63`, when `count` more bytes can arrive — whatever the delivery
    schedule: returns `count`, advances the index, consumes exactly `count` bytes of every
    enclosing scope -/
theorem C02c_skip_ok (dr : CodecIO.DR) (count v : UInt64) (hl : dr.input.legal)
    (h : scopeUpdate dr.i dr.max count = some v) (hc : count.toNat < 2 ^ 63)
    (ha : count.toNat ≤ dr.input.avail.length) :
    ∃ r', skip dr count = (.ok (count.toNat : Int), { input := r', i := v, max := dr.max }) ∧
      r'.avails = dr.input.avails.map (List.drop count.toNat) ∧ r'.legal :=
  skip_ok dr count v hl h hc ha

/-- `Skip(count)`, `count < 2^63`, when the stream fails or ends before `count` bytes have
    arrived: an error, never a success -/
theorem C02c_skip_short (dr : CodecIO.DR) (count v : UInt64) (hl : dr.input.legal)
    (h : scopeUpdate dr.i dr.max count = some v) (hc : count.toNat < 2 ^ 63)
    (ha : dr.input.avail.length < count.toNat) :
    ∃ e n dr', skip dr count = (.err e n, dr') :=
  skip_short dr count v hl h hc ha

/-- counts ≥ 2^63 allowed by the scope: success with count 0 although nothing was skipped
    (`int64(count)` is negative; recorded finding, needs a declared scope ≥ 2^63) -/
theorem C02c_skip_huge (dr : CodecIO.DR) (count v : UInt64) (h : scopeUpdate dr.i dr.max count = some v)
    (hc : 2 ^ 63 ≤ count.toNat) :
    skip dr count = (.ok 0, { input := dr.input, i := v, max := dr.max }) :=
  skip_huge dr count v h hc

/-- `ReadUint32()` called directly takes the `ReadOffset()` step (`ReadOffset` returns
    `dr.ReadUint32()`) -/
theorem C02c_readUint32 (d : Dec) : step2 d .u32 = liftBase (d.step (.uintN 4)) := rfl

/-- every request sequence of `api.read` (reads, typed reads, sub-scopes, `Skip` below 2^63) on
    every legal delivery schedule gives the flat byte-list answer, errors included, and never spins -/
theorem C02c_read (st : ReaderState) (scope : UInt64) (hl : st.legal) (qs : List Req2)
    (hq : ∀ q ∈ qs, q.small) :
    (run2 (Dec.new st scope) qs).1 = (specRun2 (specNew st.data scope) qs).1 ∧
    ((run2 (Dec.new st scope) qs).2.isSome = (specRun2 (specNew st.data scope) qs).2) ∧
    (run2 (Dec.new st scope) qs).2 ≠ some (.stop .spin) := by
  have h := run2_spec (Dec.new st scope) (Dec.new_wf st scope hl) qs hq
  rw [Dec.new_abs] at h
  exact h

example :
    (run2 (Dec.new (mkReader [1, 2, 3, 4, 5, 6, 7, 8] [2, 3] .eofWithData 8) 8)
      [.skip 3, .u32, .base .index, .skip 2]).1 =
      [.skipped 3, .base (.num 117835012), .base (.index 7 8)] := by decide +kernel

/-! ## 7. the remaining small methods: typed `New()`, `BackedView`, basic `SetBacking`, `tree.Root` as a value -/

/-- `td.New()` of a composite type definition is a view of the type's default value:
    its backing exists and has the spec root of `defaultVal t` -/
theorem C02c_new (h : HashFn) (t : Ty) (hwf : t.wf = true) (hnb : noBoolSeries t = true) :
    ∃ n, newBacking h t = .ok n ∧ n.root h = htr h t (defaultVal t) :=
  defaultNode_root h t hwf hnb

/-- `BackedView.Copy()` / `Default(hook)` of a composite view: never fails, and the result views
    the SAME node (so the same root, bytes and components as the original) -/
theorem C02c_backedCopy (t : Ty) (n : Node)
    (hcomp : match t with | .uint _ | .bool | .bytesN _ => False | _ => True) :
    backedCopy t n = .ok n := by
  cases t with
  | uint _ => exact hcomp.elim
  | bool => exact hcomp.elim
  | bytesN _ => exact hcomp.elim
  | _ => cases n <;> rfl

/-- whatever `BackedView.Copy()` returns is the original's node, for every type -/
theorem C02c_backedCopy_same (t : Ty) (n c : Node) (hc : backedCopy t n = .ok c) : c = n := by
  unfold backedCopy at hc
  split at hc
  · cases hc; rfl
  · cases hc

/-- on a backing of the value `v`: the copy reads back `v`, serializes to `serialize t v` and has
    the spec root -/
theorem C02c_backedCopy_value (h : HashFn) (t : Ty) (v : Val) (n c : Node)
    (hc : backedCopy t n = .ok c) (hr : Rep h t v n) : Rep h t v c := by
  rw [C02c_backedCopy_same t n c hc]; exact hr

/-- `SetBacking` of a basic value view is always refused and leaves the value untouched -/
theorem C02c_basicSetBacking (v : Val) (b : Node) :
    (basicSetBacking v b).1 = some .other ∧ (basicSetBacking v b).2 = v := ⟨rfl, rfl⟩

/-- a `tree.Root` used as a value is the SSZ value `Bytes32`: root, bytes and both lengths -/
theorem C02c_root_value (h : HashFn) (r : Root) (hl : r.length = 32) :
    rootHashTreeRoot h r = htr h (.bytesN 32) (.bytes r) ∧
    rootSerialize r = serialize (.bytesN 32) (.bytes r) ∧
    rootValueByteLength = .ok (serialize (.bytesN 32) (.bytes r)).length ∧
    rootByteLength = Ty.typeByteLength (.bytesN 32) := by
  have hc : chunks r = [r] := by
    rw [ViewRoot.chunks_single r (hl ▸ by decide) (Nat.le_of_eq hl), chunkOf_of_ge r (Nat.le_of_eq hl.symm),
      List.take_of_length_le (Nat.le_of_eq hl)]
  have hs : serialize (.bytesN 32) (.bytes r) = r := rfl
  refine ⟨?_, hs.symm, by rw [hs, hl]; rfl, rfl⟩
  rw [rootHashTreeRoot, htr, hc]
  rfl

example : backedCopy (.list (.uint 1) 4) (.pair (.leaf z0) (lengthNode 0)) = .ok (.pair (.leaf z0) (lengthNode 0)) := rfl
example : (basicSetBacking (.num 5) (.leaf z0)).2 = .num 5 := rfl

end ZtypV.Props.C02
