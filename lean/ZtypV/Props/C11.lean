/-
C11 — Tree navigation obeys get/set/expand/summarise laws.

All theorems are about the model functions that the driver executes (`getNode`, `setNode`,
`summarizeInto`, `fillTo*`, `toPath`/`gbits` of `ZtypV.Model.Tree` and the raw-integer entry
points of `ZtypV.Model.TreeG`), for every tree, every path and every pair hash `h`.

"The original tree is unchanged" has no theorem: model trees are immutable values, so the
statement is vacuous there; on the Go side it is checked per operation (structure dump and root
of the original before/after, pointer identity of every off-path node: `unchanged=1 shared=1`).
-/
import ZtypV.Proofs.Tree
namespace ZtypV.Props.C11
open ZtypV ZtypV.TreeNav

/-- a small concrete pair "hash" for the non-vacuity examples -/
private def hx : HashFn := fun a b => a.take 1 ++ b.take 1 ++ [1]
private def d1 : Node := .leaf [1]
private def d2 : Node := .leaf [2]
private def d3 : Node := .leaf [3]
private def d9 : Node := .leaf [9]

/-! ## get / set -/

/-- reading back the position just written returns the written node (with or without expansion) -/
theorem C11_get_set (h : HashFn) (n : Node) (p : List Bool) (e : Bool) (v n' : Node) :
    setNode h n p e v = .ok n' → getNode n' p = .ok v :=
  getNode_setNode h n p e v n'

example : setNode hx (.pair d1 (.pair d2 d3)) [true, false] false d9 = .ok (.pair d1 (.pair d9 d3)) := rfl
example : setNode hx (.leaf (zh hx 2)) [true, false] true d9
    = .ok (.pair (.leaf (zh hx 1)) (.pair d9 (.leaf (zh hx 0)))) := rfl

/-- The sibling of every step of the written path is the original sibling or, where the original
    had no such position (inside an expanded zero summary, only with `expand`), the zero node of
    the remaining height. -/
theorem C11_sibling (h : HashFn) (n : Node) (c : List Bool) (b : Bool) (p' : List Bool) (e : Bool)
    (v n' : Node) :
    setNode h n (c ++ b :: p') e v = .ok n' →
    ∃ s, getNode n' (c ++ [!b]) = .ok s ∧
      (getNode n (c ++ [!b]) = .ok s ∨
        (e = true ∧ getNode n (c ++ [!b]) = .error .nav ∧ s = zeroNode h p'.length)) := by
  induction c generalizing n n' with
  | nil =>
    intro hs
    simp only [List.nil_append] at hs ⊢
    rcases setNode_cons_cases h n b p' e with hn | ⟨l, r, hlr, hset⟩
    · rw [hn] at hs; cases hs
    · rw [hset, R.map_eq_ok] at hs
      obtain ⟨t, _, rfl⟩ := hs
      refine ⟨if b then l else r, by cases b <;> exact getNode_nil _, ?_⟩
      rcases hlr with rfl | ⟨he, rfl, rfl, rfl⟩
      · exact .inl (by cases b <;> exact getNode_nil _)
      · exact .inr ⟨he, rfl, by cases b <;> rfl⟩
  | cons a c ih =>
    intro hs
    rcases setNode_cons_cases h n a (c ++ b :: p') e with hn | ⟨l, r, hlr, hset⟩
    · rw [List.cons_append, hn] at hs; cases hs
    · rw [List.cons_append, hset, R.map_eq_ok] at hs
      obtain ⟨t, ht, rfl⟩ := hs
      obtain ⟨s, hs1, hs2⟩ := ih _ _ ht
      refine ⟨s, by rw [List.cons_append, getNode_rebuilt]; exact hs1, ?_⟩
      rcases hlr with rfl | ⟨he, rfl, rfl, rfl⟩
      · rw [List.cons_append, getNode_pair_cons']; exact hs2
      · -- below an expanded summary the original has nothing, and neither has its child
        have hleaf : ∀ x, getNode (Node.leaf x) (c ++ [!b]) = .error .nav := fun x => by cases c <;> rfl
        refine .inr ⟨he, rfl, ?_⟩
        rcases hs2 with h2 | ⟨_, _, h2⟩
        · rw [ite_self, zeroNode, hleaf] at h2; cases h2
        · exact h2

example : setNode hx (.pair d1 (.leaf (zh hx 1))) ([true] ++ false :: []) true d9
    = .ok (.pair d1 (.pair d9 (.leaf (zh hx 0)))) := rfl

/-- every position off the written path (neither a prefix of it nor below it) keeps the
    identical node, and a position missing before is still missing (no expansion) -/
theorem C11_off_path (h : HashFn) (n : Node) (p q : List Bool) (v n' : Node)
    (h1 : ¬ p <+: q) (h2 : ¬ q <+: p) :
    setNode h n p false v = .ok n' → getNode n' q = getNode n q := by
  obtain ⟨c, b, p', q', rfl, rfl⟩ := diverge_of_not_prefix p q h1 h2
  intro hs
  obtain ⟨s, hs1, hs2⟩ := C11_sibling h n c b p' false v n' hs
  rw [List.append_cons]
  rcases hs2 with h2 | ⟨h2, _, _⟩
  · rw [getNode_append_ok _ hs1, getNode_append_ok _ h2]
  · cases h2

example : ¬ [true, false] <+: [false] ∧ ¬ [false] <+: [true, false] := by decide

/-- with expansion: every off-path position that existed keeps the identical node -/
theorem C11_off_path_expand (h : HashFn) (n : Node) (p q : List Bool) (e : Bool) (v n' x : Node)
    (h1 : ¬ p <+: q) (h2 : ¬ q <+: p) :
    setNode h n p e v = .ok n' → getNode n q = .ok x → getNode n' q = .ok x := by
  obtain ⟨c, b, p', q', rfl, rfl⟩ := diverge_of_not_prefix p q h1 h2
  intro hs hg
  obtain ⟨s, hs1, hs2⟩ := C11_sibling h n c b p' e v n' hs
  rw [List.append_cons] at hg ⊢
  rcases hs2 with h2 | ⟨_, h2, _⟩
  · rw [getNode_append_ok _ hs1]; rwa [getNode_append_ok _ h2] at hg
  · rw [getNode_append, h2] at hg; cases hg

example : setNode hx (.pair (.pair d1 d2) (.leaf (zh hx 1))) [true, true] true d9
      = .ok (.pair (.pair d1 d2) (.pair (.leaf z0) d9))
    ∧ getNode (.pair (.pair d1 d2) (.leaf (zh hx 1))) [false, true] = .ok d2
    ∧ ¬ [true, true] <+: [false, true] ∧ ¬ [false, true] <+: [true, true] :=
  ⟨rfl, rfl, by decide, by decide⟩

/-- a write along `q ++ r` is: read at `q`, write at `r` inside, write the result back at `q` -/
theorem C11_set_append (h : HashFn) (n : Node) (q r : List Bool) (v : Node) :
    setNode h n (q ++ r) false v =
      (getNode n q >>= fun s => setNode h s r false v >>= fun s' => setNode h n q false s') := by
  cases hg : getNode n q with
  | ok s => exact setNode_append_of_get h n q r false false v s hg
  | error er =>
    -- the write fails as well: it would succeed only where `q ++ r`, hence `q`, exists
    cases getNode_error_nav n q er hg
    cases hs : setNode h n (q ++ r) false v with
    | error er' => cases setNode_error_nav h n _ false v er' hs; rfl
    | ok n' =>
      obtain ⟨s, hs'⟩ := (setNode_false_ok_iff_get h n (q ++ r) v).1 ⟨n', hs⟩
      rw [getNode_append, hg] at hs'; cases hs'

/-- at a strict prefix `q` of the written path the new tree holds the rebuilt spine node: the
    off-path child is the original child, the on-path child is the rewritten subtree -/
theorem C11_spine (h : HashFn) (n : Node) (q : List Bool) (b : Bool) (r : List Bool) (v n' : Node) :
    setNode h n (q ++ b :: r) false v = .ok n' →
    ∃ l rr c', getNode n q = .ok (.pair l rr) ∧
      setNode h (if b then rr else l) r false v = .ok c' ∧
      getNode n' q = .ok (if b then .pair l c' else .pair c' rr) := by
  intro hs
  rw [C11_set_append, R.bind_eq_ok] at hs
  obtain ⟨s, hg, hs⟩ := hs
  rw [R.bind_eq_ok] at hs
  obtain ⟨s', hs', hback⟩ := hs
  cases s with
  | leaf x => cases hs'
  | pair l rr =>
    rw [setNode_pair_cons', R.map_eq_ok] at hs'
    obtain ⟨c', hc', rfl⟩ := hs'
    exact ⟨l, rr, c', hg, hc', getNode_setNode h n q false _ n' hback⟩

example : setNode hx (.pair d1 (.pair d2 d3)) ([true] ++ false :: []) false d9 = .ok (.pair d1 (.pair d9 d3)) := rfl

/-- Whether, and with which error, `setNode` fails does not depend on the node being bound:
    this justifies modelling Go's two-stage `Setter` + `Link` as one function. -/
theorem C11_error_indep (h : HashFn) (n : Node) (p : List Bool) (e : Bool) (v w : Node) (er : Err) :
    setNode h n p e v = .error er → setNode h n p e w = .error er :=
  setNode_error_indep h n p e v w er

theorem C11_ok_indep (h : HashFn) (n : Node) (p : List Bool) (e : Bool) (v w n' : Node) :
    setNode h n p e v = .ok n' → ∃ n'', setNode h n p e w = .ok n'' := by
  intro hs
  rcases setNode_cases h n p e with hn | ⟨k, hk⟩
  · rw [hn] at hs; cases hs
  · exact ⟨_, (hk w).1⟩

example : setNode hx d1 [true] false d2 = .error .nav := rfl

/-! ## missing positions -/

/-- reading through a leaf is a navigation error -/
theorem C11_missing_get (n : Node) (q : List Bool) (x : Root) (b : Bool) (r : List Bool) :
    getNode n q = .ok (.leaf x) → getNode n (q ++ b :: r) = .error .nav := by
  intro hq
  rw [getNode_append_ok _ hq]; rfl

/-- writing through a leaf without expansion is a navigation error -/
theorem C11_missing_set (h : HashFn) (n : Node) (q : List Bool) (x : Root) (b : Bool) (r : List Bool) (v : Node) :
    getNode n q = .ok (.leaf x) → setNode h n (q ++ b :: r) false v = .error .nav := by
  intro hq
  rw [setNode_append_of_get h n q _ false false v _ hq]; rfl

example : getNode (.pair d1 d2) [false] = .ok (.leaf [1]) := rfl
example : setNode hx (.pair d1 d2) ([false] ++ true :: [false]) false d9 = .error .nav := rfl

/-- the only failure of navigation is the navigation error — never a panic or another error -/
theorem C11_no_panic (h : HashFn) (n : Node) (p : List Bool) (e : Bool) (v : Node) (er : Err) :
    (getNode n p = .error er → er = .nav) ∧
    (setNode h n p e v = .error er → er = .nav) ∧
    (summarizeInto h n p = .error er → er = .nav) := by
  refine ⟨getNode_error_nav n p er, setNode_error_nav h n p e v er, ?_⟩
  cases hg : getNode n p with
  | ok s => rw [summarizeInto_of_get h hg]; exact setNode_error_nav h n p false _ er
  | error er' => rw [summarizeInto_of_get_error h hg]; intro hs; cases hs; rfl

/-- without expansion a write succeeds exactly at the positions that exist -/
theorem C11_set_ok_iff (h : HashFn) (n : Node) (p : List Bool) (v : Node) :
    (∃ n', setNode h n p false v = .ok n') ↔ (∃ s, getNode n p = .ok s) :=
  setNode_false_ok_iff_get h n p v

/-! ## expansion -/

/-- Writing with expansion is *the same tree and the same outcome* as writing without expansion
    into the tree whose zero summaries on the path were materialised level by level. -/
theorem C11_expand_path (h : HashFn) (n : Node) (p : List Bool) (v : Node) :
    setNode h n p true v = setNode h (materialise h n p) p false v := by
  induction p generalizing n with
  | nil => rw [setNode_nil, setNode_nil]
  | cons b bs ih =>
    have pair : ∀ l r, setNode h (.pair l r) (b :: bs) true v =
        setNode h (materialise h (.pair l r) (b :: bs)) (b :: bs) false v := fun l r => by
      cases b <;> simp only [materialise, setNode_pair_cons, ih, if_true, if_false, Bool.false_eq_true]
    cases n with
    | pair l r => exact pair l r
    | leaf x =>
      by_cases hx : (x == zh h (bs.length + 1)) = true
      · rw [setNode_leaf_expand h x b bs true v hx, pair]
        simp only [materialise, if_pos hx]
      · rw [setNode_leaf_cons, Bool.true_and, if_neg hx]
        simp only [materialise, if_neg hx, setNode_leaf_cons_false]

/-- Writing with expansion into a zero-subtree summary gives the same Merkle root (and the same
    error, if any) as writing into the fully materialised zero subtree (`materialiseFull` puts
    the complete tree of `2^k` zero chunks in place of the summary — also when the anchor
    itself is the summary). -/
theorem C11_expand (h : HashFn) (n : Node) (p : List Bool) (v : Node) :
    (setNode h n p true v).map (Node.root h)
      = (setNode h (materialiseFull h n p) p false v).map (Node.root h) := by
  show Node.root h <$> setNode h n p true v = Node.root h <$> setNode h (materialiseFull h n p) p false v
  induction p generalizing n with
  | nil => rw [setNode_nil, setNode_nil]
  | cons b bs ih =>
    cases n with
    | pair l r =>
      cases b <;> simp only [materialiseFull, root_setNode_pair, ih, if_true, if_false, Bool.false_eq_true]
    | leaf x =>
      by_cases hx : (x == zh h (bs.length + 1)) = true
      · cases eq_of_beq hx
        simp only [materialiseFull, if_pos hx]
        exact (setNode_fullZero_root h (b :: bs) v).symm
      · simp only [materialiseFull, if_neg hx]
        rw [setNode_leaf_cons_false, setNode_leaf_cons, Bool.true_and, if_neg hx]

theorem C11_materialise_root (h : HashFn) (n : Node) (p : List Bool) :
    (materialise h n p).root h = n.root h ∧ (materialiseFull h n p).root h = n.root h :=
  ⟨materialise_root h n p, materialiseFull_root h n p⟩

/-- the expanding write succeeds exactly on zero-shaped paths -/
theorem C11_expand_ok_iff (h : HashFn) (n : Node) (p : List Bool) (v : Node) :
    ZeroShaped h n p ↔ ∃ n', setNode h n p true v = .ok n' := by
  induction p generalizing n with
  | nil => simp only [ZeroShaped, setNode_nil, true_iff]; exact ⟨v, rfl⟩
  | cons b bs ih =>
    cases n with
    | pair l r =>
      cases b <;>
        simp only [ZeroShaped, setNode_pair_cons, R.map_ok_iff, ih, if_true, if_false, Bool.false_eq_true]
    | leaf x =>
      simp only [ZeroShaped]
      constructor
      · rintro rfl; exact ⟨_, setNode_zeroNode h (b :: bs) v⟩
      · rintro ⟨n', hs⟩
        rw [setNode_leaf_cons, Bool.true_and] at hs
        by_cases hx : (x == zh h (bs.length + 1)) = true
        · exact eq_of_beq hx
        · rw [if_neg hx] at hs; cases hs

/-- on a zero-shaped path both writes succeed, with equal roots (the form of the property text) -/
theorem C11_expand_ok (h : HashFn) (n : Node) (p : List Bool) (v : Node) (hz : ZeroShaped h n p) :
    ∃ n' m', setNode h n p true v = .ok n' ∧ setNode h (materialiseFull h n p) p false v = .ok m' ∧
      n'.root h = m'.root h := by
  obtain ⟨n', hn⟩ := (C11_expand_ok_iff h n p v).1 hz
  have := C11_expand h n p v
  rw [hn] at this
  cases hm : setNode h (materialiseFull h n p) p false v with
  | error er => rw [hm] at this; cases this
  | ok m' =>
    rw [hm] at this
    exact ⟨n', m', hn, rfl, by simpa [Except.map] using this⟩

example : ZeroShaped hx (.pair d1 (.leaf (zh hx 2))) [true, false, true] := by
  simp [ZeroShaped]
example : materialiseFull hx (.leaf (zh hx 1)) [true] = .pair (.leaf z0) (.leaf z0) := by decide

/-- with expansion a leaf on the path that is not the zero hash of its height is never replaced:
    navigation error -/
theorem C11_expand_only_zero (h : HashFn) (n : Node) (q : List Bool) (x : Root) (b : Bool)
    (r : List Bool) (v : Node) :
    getNode n q = .ok (.leaf x) → x ≠ zh h (r.length + 1) →
    setNode h n (q ++ b :: r) true v = .error .nav := by
  intro hq hx
  rw [setNode_append_of_get h n q _ true false v _ hq, setNode_leaf_cons,
    if_neg (fun hc => hx (eq_of_beq (Bool.and_eq_true _ _ ▸ hc).2))]
  rfl

example : getNode (.pair d1 d2) [true] = .ok (.leaf [2]) ∧ ([2] : Root) ≠ zh hx ([false].length + 1) :=
  ⟨rfl, by decide⟩

/-! ## summarising -/

/-- summarising any position preserves the Merkle root -/
theorem C11_summarize (h : HashFn) (n : Node) (p : List Bool) (n' : Node) :
    summarizeInto h n p = .ok n' → n'.root h = n.root h := by
  intro hs
  obtain ⟨s, hg, hset⟩ := (summarizeInto_eq h n p n').1 hs
  exact setNode_root_same h n p _ n' s hset hg rfl

/-- summarising is the write of the subtree's root at that position, so all `setNode` laws apply
    to the other positions -/
theorem C11_summarize_eq (h : HashFn) (n : Node) (p : List Bool) (n' : Node) :
    summarizeInto h n p = .ok n' ↔
      ∃ s, getNode n p = .ok s ∧ setNode h n p false (.leaf (s.root h)) = .ok n' :=
  summarizeInto_eq h n p n'

theorem C11_summarize_get (h : HashFn) (n : Node) (p : List Bool) (n' : Node) :
    summarizeInto h n p = .ok n' → ∃ s, getNode n p = .ok s ∧ getNode n' p = .ok (.leaf (s.root h)) := by
  intro hs
  obtain ⟨s, hg, hset⟩ := (summarizeInto_eq h n p n').1 hs
  exact ⟨s, hg, getNode_setNode h n p false _ n' hset⟩

example : summarizeInto hx (.pair d1 (.pair d2 d3)) [true] = .ok (.pair d1 (.leaf [2, 3, 1]))
    ∧ getNode (.pair d1 (.pair d2 d3)) [true] = .ok (.pair d2 d3) ∧ (Node.pair d2 d3).root hx = [2, 3, 1] :=
  ⟨rfl, rfl, rfl⟩

theorem C11_summarize_ok_iff (h : HashFn) (n : Node) (p : List Bool) :
    (∃ n', summarizeInto h n p = .ok n') ↔ ∃ s, getNode n p = .ok s := by
  constructor
  · rintro ⟨n', hs⟩
    obtain ⟨s, hg, _⟩ := (summarizeInto_eq h n p n').1 hs
    exact ⟨s, hg⟩
  · rintro ⟨s, hg⟩
    obtain ⟨n', hn⟩ := (setNode_false_ok_iff_get h n p (.leaf (s.root h))).2 ⟨s, hg⟩
    exact ⟨n', (summarizeInto_eq h n p n').2 ⟨s, hg, hn⟩⟩

example : summarizeInto hx (.pair d1 (.pair d2 d3)) [true] = .ok (.pair d1 (.leaf [2, 3, 1])) := rfl

/-! ## subtree filling -/

theorem C11_fill_root (h : HashFn) (d : Nat) (ns : List Node) (n : Node) :
    fillToContents h d ns = .ok n → n.root h = merk h d (ns.map (Node.root h)) :=
  fill_root h d ns n

theorem C11_fillToDepth_root (h : HashFn) (b : Node) (d : Nat) :
    (fillToDepth b d).root h = merk h d (List.replicate (2 ^ d) (b.root h)) :=
  fillToDepth_root h b d

/-- needs `0 < len`: for length 0 and depth ≥ 1 the code builds the length-1 tree
    (`fillToLength_zero_len`), at depth 0 it panics (`fillToLength_zero_panic`) -/
theorem C11_fillToLength_root (h : HashFn) (b : Node) (d len : Nat) (n : Node) (hpos : 0 < len) :
    fillToLength h b d len = .ok n → n.root h = merk h d (List.replicate len (b.root h)) :=
  fillToLength_root h b d len n hpos

example : fillToContents hx 2 [d1, d2, d3] = .ok (.pair (.pair d1 d2) (.pair d3 (.leaf z0))) := rfl
example : fillToLength hx d1 2 3 = .ok (.pair (.pair d1 d1) (.pair d1 (.leaf z0))) := rfl

/-! ## generalized indices as paths -/

/-- `ToGindex64(i, d)` yields a path of length `d` -/
theorem C11_toPath_length (i d : Nat) (p : List Bool) : toPath i d = .ok p → p.length = d := by
  intro hp
  obtain ⟨_, _, rfl⟩ := toPath_ok hp
  simp

/-- step `k` of that path is bit `d-1-k` of `i`: the binary expansion of `i`, most significant first -/
theorem C11_toPath_bits (i d : Nat) (p : List Bool) (k : Nat) (hk : k < d) :
    toPath i d = .ok p → p[k]? = some (i.testBit (d - 1 - k)) := by
  intro hp
  obtain ⟨_, _, rfl⟩ := toPath_ok hp
  simp [hk]

/-- `ToGindex64(i, d)` is defined only for `d < 64`, `i < 2^d` (conversely `C11_toPath_ok`), and is
    the bit path of the generalized index `2^d + i` -/
theorem C11_toPath_gbits (i d : Nat) (p : List Bool) :
    toPath i d = .ok p → d < 64 ∧ i < 2 ^ d ∧ p = gbits (2 ^ d + i) ∧ gindexOfPath p = 2 ^ d + i := by
  intro hp
  obtain ⟨hd, hi, _⟩ := toPath_ok hp
  have hg := toPath_eq_gbits hp
  refine ⟨hd, hi, hg, ?_⟩
  rw [hg, gindexOfPath_gbits]
  exact Nat.lt_of_lt_of_le (Nat.two_pow_pos d) (Nat.le_add_right _ _)

theorem C11_toPath_ok (i d : Nat) (hd : d < 64) (hi : i < 2 ^ d) : ∃ p, toPath i d = .ok p := by
  rw [toPath, if_neg (Nat.not_le.2 hd), if_neg (Nat.not_le.2 hi)]
  exact ⟨_, rfl⟩

/-- `gbits` is the binary expansion after the leading one: root ↦ [], left child appends 0,
    right child appends 1; `gindexOfPath` is its inverse -/
theorem C11_gbits (g : Nat) (hg : 0 < g) (b : Bool) :
    gbits 1 = [] ∧ gbits (2 * g + b.toNat) = gbits g ++ [b] ∧ (gbits g).length = Nat.log2 g ∧
    gindexOfPath (gbits g) = g :=
  ⟨gbits_one, gbits_step g hg b, gbits_length g, gindexOfPath_gbits g hg⟩

theorem C11_gbits_gindexOfPath (p : List Bool) : gbits (gindexOfPath p) = p := gbits_gindexOfPath p

example : toPath 5 3 = .ok [true, false, true] := rfl
example : gbits 13 = [true, false, true] := by decide

/-! ## the raw-integer entry points coincide with the path model on valid generalized indices -/

theorem C11_entry_points (h : HashFn) (n : Node) (g : UInt64) (e : Bool) (v : Node) (hg : g ≠ 0) :
    getG n g = getNode n (gbits g.toNat) ∧
    setG h n g e v = setNode h n (gbits g.toNat) e v ∧
    sumG h n g = summarizeInto h n (gbits g.toNat) := by
  simp [getG, setG, sumG, hg]

theorem C11_fill_entry_points (h : HashFn) (b : Node) (d len : Nat) (ns : List Node) (hd : d < 64) :
    fillcG h d ns = fillToContents h d ns ∧ filllG h b d len = fillToLength h b d len := by
  simp [fillcG, filllG, hd]

end ZtypV.Props.C11
