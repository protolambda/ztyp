/-
C03, vectors and lists: soundness and panic freedom of the decoders of `vector e k` and
`list e lim`, given the same for the element type.
-/
import ZtypV.Proofs.Offsets
namespace ZtypV.DecodeProofs
open ZtypV ZtypV.View

theorem fill_nodes_ok (h : HashFn) (ns : List Node) (m : Nat) (hm : ns.length ≤ m) :
    ∃ n, fillToContents h (coverDepth m) ns = .ok n :=
  fillToContents_ok h _ ns (Nat.le_trans hm (le_two_pow_coverDepth m))

theorem basic_is_uint {e : Ty} (hb : isBasicElem e = true) : ∃ b, e = .uint b := by
  cases e <;> simp [isBasicElem] at hb
  exact ⟨_, rfl⟩

theorem isLeafTy_false_of_not_fixed {e : Ty} (hf : ¬ e.isFixed = true) : isLeafTy e = false := by
  cases hl : isLeafTy e with
  | false => rfl
  | true => exact absurd (isFixed_of_isLeafTy hl) hf

/-! ### `construct` and `hasType` on a series of given items -/

theorem construct_vector {h : HashFn} {e : Ty} {k : Nat} {vs : List Val} {ns : List Node} {c : Node}
    (hb : ¬ isBasicElem e = true) (hl : vs.length = k) (hcon : constructList h e vs = .ok ns)
    (hc : fillToContents h (coverDepth k) ns = .ok c) :
    construct h (.vector e k) (.seq vs) = .ok c := by
  rw [construct, if_neg hb, if_neg (fun hne => hne hl), hcon, R.bind_ok, hc]; rfl

theorem construct_list {h : HashFn} {e : Ty} {lim : Nat} {vs : List Val} {ns : List Node} {c : Node}
    (hb : ¬ isBasicElem e = true) (hl : vs.length ≤ lim) (hcon : constructList h e vs = .ok ns)
    (hc : fillToContents h (coverDepth lim) ns = .ok c) :
    construct h (.list e lim) (.seq vs) = .ok (.pair c (lengthNode vs.length)) := by
  rw [construct, if_neg (Nat.not_lt.mpr hl), if_neg hb, hcon, R.bind_ok, hc]; rfl

theorem hasType_vector {e : Ty} {k : Nat} {vs : List Val} (hl : vs.length = k)
    (ht : allHaveType e vs = true) : hasType (.vector e k) (.seq vs) = true := by
  simp [hasType, hl, ht]

theorem hasType_list {e : Ty} {lim : Nat} {vs : List Val} (hl : vs.length ≤ lim)
    (ht : allHaveType e vs = true) : hasType (.list e lim) (.seq vs) = true := by
  simp [hasType, hl, ht]

/-! ### vector -/

theorem vector_sound {h : HashFn} {e : Ty} (he : Sound h e) (k : Nat) : Sound h (.vector e k) := by
  intro dr n dr' hd _
  unfold decode at hd
  by_cases hb : isBasicElem e = true
  · rw [if_pos hb] at hd
    obtain ⟨hsc, hd⟩ := ite_err_eq_ok hd
    obtain ⟨⟨bs, d1⟩, h1, hd⟩ := bind_eq_ok hd
    obtain ⟨n', hn, hd⟩ := bind_eq_ok hd
    cases hd
    obtain ⟨b, rfl⟩ := basic_is_uint hb
    have sp := read_span h1
    obtain ⟨vs, hvl, hvt, hvs⟩ := basic_series_vals b k bs
      (sp.length.trans (Decidable.of_not_not hsc).symm)
    rw [← hvs] at sp hn
    exact sp.sound (hasType_vector hvl hvt) rfl
      (by rw [construct, if_pos hb, if_neg (Nat.not_lt.mpr (Nat.le_of_eq hvl)), hn])
  · rw [if_neg hb] at hd
    by_cases hf : e.isFixed = true
    · rw [if_pos hf] at hd
      obtain ⟨hsc, hd⟩ := ite_err_eq_ok hd
      obtain ⟨⟨ns, d1⟩, h1, hd⟩ := bind_eq_ok hd
      obtain ⟨n', hn, hd⟩ := bind_eq_ok hd
      cases hd
      obtain ⟨vs, hvl, hvt, hcon, sp⟩ := fixedItems_sound he (fun _ => rfl) _ _ _ _ h1
      rw [Decidable.of_not_not hsc] at sp
      exact sp.sound (hasType_vector hvl hvt) (by rw [serialize, if_pos hf])
        (construct_vector hb hvl hcon (orNil_eq_ok hn))
    · rw [if_neg hf] at hd
      obtain ⟨hk0, hd⟩ := ite_err_eq_ok hd
      obtain ⟨⟨first, d1⟩, h1, hd⟩ := bind_eq_ok hd
      obtain ⟨hfirst, hd⟩ := ite_err_eq_ok hd
      obtain ⟨⟨os, d2⟩, h2, hd⟩ := bind_eq_ok hd
      obtain ⟨⟨ns, d3⟩, h3, hd⟩ := bind_eq_ok hd
      obtain ⟨n', hn, hd⟩ := bind_eq_ok hd
      cases hd
      obtain ⟨vs, hvl, hvt, hcon, sp⟩ :=
        varSeries_sound he (isLeafTy_false_of_not_fixed hf) (Nat.pos_of_ne_zero hk0)
          ((Decidable.of_not_not hfirst).trans (Nat.mul_comm k 4)) h1 h2 h3
      exact sp.sound (hasType_vector hvl hvt) (by rw [serialize, if_neg hf])
        (construct_vector hb hvl hcon (orNil_eq_ok hn))

/-- chunk count of a packed basic series: `len` elements of a legal size fit the bottom nodes
    computed for any `lim ≥ len` -/
theorem basic_chunks_le (b len lim : Nat) (hb : b = 1 ∨ b = 2 ∨ b = 4 ∨ b = 8 ∨ b = 32)
    (hl : len ≤ lim) : (len * b + 31) / 32 ≤ bottomNodes b lim := by
  unfold bottomNodes perNode
  rcases hb with rfl | rfl | rfl | rfl | rfl <;> omega

theorem fill_basic_ok (h : HashFn) {b len lim : Nat} (hb : b = 1 ∨ b = 2 ∨ b = 4 ∨ b = 8 ∨ b = 32)
    (hl : len ≤ lim) {bs : Bytes} (hbs : bs.length = len * b) :
    ∃ n, fillToContents h (seriesDepth (.uint b) lim) (bytesIntoNodes bs) = .ok n :=
  fill_bytes_ok h bs (bottomNodes b lim) (hbs ▸ basic_chunks_le b len lim hb hl)

theorem vector_noPanic {h : HashFn} {e : Ty} (he : NoPanic h e) (k : Nat) (hk : 1 ≤ k)
    (hbs : ∀ b, e = .uint b → b = 1 ∨ b = 2 ∨ b = 4 ∨ b = 8 ∨ b = 32) :
    NoPanic h (.vector e k) := by
  intro dr
  unfold decode
  by_cases hb : isBasicElem e = true
  · rw [if_pos hb]
    obtain ⟨b, rfl⟩ := basic_is_uint hb
    apply ite_ne_panic (fun _ => other_ne_panic); intro hsc
    apply bind_ne_panic (read_ne_panic _ _)
    rintro ⟨bs, d1⟩ h1
    exact orNil_bind_ne_panic (fill_basic_ok h (hbs b rfl) (Nat.le_refl k)
      ((read_span h1).length.trans (Decidable.of_not_not hsc).symm)) (fun _ => ok_ne_panic _)
  · rw [if_neg hb]
    by_cases hf : e.isFixed = true
    · rw [if_pos hf]
      apply ite_ne_panic (fun _ => other_ne_panic); intro _
      apply bind_ne_panic (fixedItems_ne_panic he _ _)
      rintro ⟨ns, d1⟩ h1
      apply orNil_bind_ne_panic _ (fun _ => ok_ne_panic _)
      apply fill_nodes_ok
      rw [fixedItems_length _ _ _ _ h1]; exact Nat.le_refl _
    · rw [if_neg hf, if_neg (by omega)]
      apply bind_ne_panic (readOffset_ne_panic _)
      rintro ⟨first, d1⟩ _
      simp only
      apply ite_ne_panic (fun _ => other_ne_panic); intro _
      apply bind_ne_panic (readOffsets_ne_panic _ _ _)
      rintro ⟨os, d2⟩ h2
      apply bind_ne_panic (offsetItems_ne_panic he _ _)
      rintro ⟨ns, d3⟩ h3
      apply orNil_bind_ne_panic _ (fun _ => ok_ne_panic _)
      apply fill_nodes_ok
      rw [offsetItems_length _ _ _ _ _ h3, (readOffsets_span _ _ _ _ _ h2).1]; omega

/-! ### list -/

theorem construct_list_nil (h : HashFn) (e : Ty) (lim : Nat) :
    construct h (.list e lim) (.seq []) = .ok (.pair (zeroNode h (seriesDepth e lim)) (zeroNode h 0)) := by
  simp only [construct]
  rw [if_neg (by simp)]
  by_cases hb : isBasicElem e = true
  · rw [if_pos hb]
    simp [serList, bytesIntoNodes_nil, fillToContents_nil, orNil, lengthNode_zero h, bind, Except.bind]
  · rw [if_neg hb]
    simp [constructList, fillToContents_nil, orNil, lengthNode_zero h, bind, Except.bind,
      seriesDepth, hb]

theorem list_nil_sound (h : HashFn) (e : Ty) (lim : Nat) {dr : DR} (hs0 : dr.scope = 0) :
    ∃ v, hasType (.list e lim) v = true ∧ serialize (.list e lim) v = dr.avail.take dr.scope ∧
      dr.scope ≤ dr.avail.length ∧ dr.avail = dr.avail.drop dr.scope ∧
      construct h (.list e lim) v = .ok (.pair (zeroNode h (seriesDepth e lim)) (zeroNode h 0)) := by
  refine ⟨.seq [], hasType_list (Nat.zero_le _) rfl, ?_, by omega, by rw [hs0]; rfl,
    construct_list_nil h e lim⟩
  rw [hs0]
  by_cases hf : e.isFixed = true <;> simp [serialize, serList, hf, serVarParts, offsetsOf]

theorem list_sound {h : HashFn} {e : Ty} (he : Sound h e) (lim : Nat) : Sound h (.list e lim) := by
  intro dr n dr' hd _
  unfold decode at hd
  by_cases hb : isBasicElem e = true
  · rw [if_pos hb] at hd
    obtain ⟨hlim, hd⟩ := ite_err_eq_ok hd
    obtain ⟨hsc, hd⟩ := ite_err_eq_ok hd
    have hsc := Decidable.of_not_not hsc
    by_cases h0 : dr.scope / e.fixedSize = 0
    · rw [if_pos h0] at hd
      cases hd
      exact list_nil_sound h e lim (by rw [← hsc, h0, Nat.zero_mul])
    · rw [if_neg h0] at hd
      obtain ⟨⟨bs, d1⟩, h1, hd⟩ := bind_eq_ok hd
      obtain ⟨c, hc, hd⟩ := bind_eq_ok hd
      cases hd
      obtain ⟨b, rfl⟩ := basic_is_uint hb
      have sp := read_span h1
      obtain ⟨vs, hvl, hvt, hvs⟩ := basic_series_vals b _ bs (sp.length.trans hsc.symm)
      rw [← hvs] at sp hc
      have hvlim : vs.length ≤ lim := hvl ▸ Nat.le_of_not_lt hlim
      exact sp.sound (hasType_list hvlim hvt) rfl
        (by rw [construct, if_neg (Nat.not_lt.mpr hvlim), if_pos hb, hc, hvl]; rfl)
  · rw [if_neg hb] at hd
    by_cases hs0 : dr.scope = 0
    · rw [if_pos hs0] at hd
      cases hd
      exact list_nil_sound h e lim hs0
    · rw [if_neg hs0] at hd
      by_cases hf : e.isFixed = true
      · rw [if_pos hf] at hd
        obtain ⟨hsz, hd⟩ := ite_err_eq_ok hd
        obtain ⟨hlim, hd⟩ := ite_err_eq_ok hd
        obtain ⟨hsc, hd⟩ := ite_err_eq_ok hd
        obtain ⟨⟨ns, d1⟩, h1, hd⟩ := bind_eq_ok hd
        obtain ⟨c, hc, hd⟩ := bind_eq_ok hd
        cases hd
        obtain ⟨vs, hvl, hvt, hcon, sp⟩ := fixedItems_sound he (fun _ => rfl) _ _ _ _ h1
        rw [Decidable.of_not_not hsc] at sp
        have hvlim : vs.length ≤ lim := hvl ▸ Nat.le_of_not_lt hlim
        exact sp.sound (hasType_list hvlim hvt) (by rw [serialize, if_pos hf])
          (hvl ▸ construct_list hb hvlim hcon (orNil_eq_ok hc))
      · rw [if_neg hf] at hd
        obtain ⟨⟨first, d1⟩, h1, hd⟩ := bind_eq_ok hd
        obtain ⟨hmod, hd⟩ := ite_err_eq_ok hd
        obtain ⟨hrange, hd⟩ := ite_err_eq_ok hd
        obtain ⟨hlim, hd⟩ := ite_err_eq_ok hd
        obtain ⟨⟨os, d2⟩, h2, hd⟩ := bind_eq_ok hd
        obtain ⟨⟨ns, d3⟩, h3, hd⟩ := bind_eq_ok hd
        obtain ⟨c, hc, hd⟩ := bind_eq_ok hd
        cases hd
        obtain ⟨vs, hvl, hvt, hcon, sp⟩ :=
          varSeries_sound he (isLeafTy_false_of_not_fixed hf) (m := first / 4) (by omega) (by omega)
            h1 h2 h3
        have hvlim : vs.length ≤ lim := hvl ▸ Nat.le_of_not_lt hlim
        exact sp.sound (hasType_list hvlim hvt) (by rw [serialize, if_neg hf])
          (hvl ▸ construct_list hb hvlim hcon (orNil_eq_ok hc))

theorem list_noPanic {h : HashFn} {e : Ty} (he : NoPanic h e) (lim : Nat)
    (hfs : e.isFixed = true → e.fixedSize ≠ 0)
    (hbs : ∀ b, e = .uint b → b = 1 ∨ b = 2 ∨ b = 4 ∨ b = 8 ∨ b = 32) :
    NoPanic h (.list e lim) := by
  intro dr
  unfold decode
  by_cases hb : isBasicElem e = true
  · rw [if_pos hb]
    obtain ⟨b, rfl⟩ := basic_is_uint hb
    apply ite_ne_panic (fun _ => other_ne_panic); intro hlim
    apply ite_ne_panic (fun _ => other_ne_panic); intro hsc
    apply ite_ne_panic (fun _ => ok_ne_panic _); intro _
    apply bind_ne_panic (read_ne_panic _ _)
    rintro ⟨bs, d1⟩ h1
    exact orNil_bind_ne_panic (fill_basic_ok h (hbs b rfl) (Nat.le_of_not_lt hlim)
      ((read_span h1).length.trans (Decidable.of_not_not hsc).symm)) (fun _ => ok_ne_panic _)
  · rw [if_neg hb]
    apply ite_ne_panic (fun _ => ok_ne_panic _); intro hs0
    by_cases hf : e.isFixed = true
    · rw [if_pos hf, if_neg (hfs hf)]
      apply ite_ne_panic (fun _ => other_ne_panic); intro hlim
      apply ite_ne_panic (fun _ => other_ne_panic); intro _
      apply bind_ne_panic (fixedItems_ne_panic he _ _)
      rintro ⟨ns, d1⟩ h1
      apply orNil_bind_ne_panic _ (fun _ => ok_ne_panic _)
      apply fill_nodes_ok
      rw [fixedItems_length _ _ _ _ h1]; omega
    · rw [if_neg hf]
      apply bind_ne_panic (readOffset_ne_panic _)
      rintro ⟨first, d1⟩ _
      simp only
      apply ite_ne_panic (fun _ => other_ne_panic); intro hmod
      apply ite_ne_panic (fun _ => other_ne_panic); intro hrange
      apply ite_ne_panic (fun _ => other_ne_panic); intro hlim
      apply bind_ne_panic (readOffsets_ne_panic _ _ _)
      rintro ⟨os, d2⟩ h2
      apply bind_ne_panic (offsetItems_ne_panic he _ _)
      rintro ⟨ns, d3⟩ h3
      apply orNil_bind_ne_panic _ (fun _ => ok_ne_panic _)
      apply fill_nodes_ok
      rw [offsetItems_length _ _ _ _ _ h3, (readOffsets_span _ _ _ _ _ h2).1]; omega

end ZtypV.DecodeProofs
