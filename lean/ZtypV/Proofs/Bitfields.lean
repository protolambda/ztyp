/-
Bit-level view of packed byte strings (`bitAt`), the characterisation of `packBits` in that view,
and exact characterisations of every function of `Model/Bitfields.lean`.

Facts about a single byte come first: a byte is determined by its eight bits `tb x j`, the
bit-wise operations act bit by bit, `BitIndex` is `Nat.log2` (a 256-row table).  The list-level
facts are then about positions `8 * k + j` and do not look inside a byte again.
-/
import ZtypV.Spec
import ZtypV.Model.Bitfields
import ZtypV.Proofs.SerLemmas
namespace ZtypV.Bitfields
open ZtypV

/-! ### one byte -/

theorem forall_u8 {P : UInt8 → Prop} (h : ∀ n : Nat, n < 256 → P (UInt8.ofNat n)) : ∀ v, P v := by
  intro v
  have := h v.toNat v.toNat_lt
  rwa [UInt8.ofNat_toNat] at this

/-- bit `j` of a byte -/
def tb (x : UInt8) (j : Nat) : Bool := x.toNat.testBit j

theorem tb_ge8 (x : UInt8) {j : Nat} (h : 8 ≤ j) : tb x j = false :=
  Nat.testBit_lt_two_pow (Nat.lt_of_lt_of_le x.toNat_lt (Nat.pow_le_pow_right (by decide) h))

@[simp] theorem tb_zero (j : Nat) : tb 0 j = false := Nat.zero_testBit j

theorem u8_ext {x y : UInt8} (h : ∀ j, j < 8 → tb x j = tb y j) : x = y := by
  apply UInt8.toNat_inj.mp
  apply Nat.eq_of_testBit_eq
  intro j
  by_cases hj : j < 8
  · exact h j hj
  · exact (tb_ge8 x (Nat.le_of_not_lt hj)).trans (tb_ge8 y (Nat.le_of_not_lt hj)).symm

theorem u8_eq_zero_iff {x : UInt8} : x = 0 ↔ ∀ j, j < 8 → tb x j = false := by
  constructor
  · intro h j _; rw [h, tb_zero]
  · intro h; apply u8_ext; intro j hj; rw [h j hj, tb_zero]

/-! `==` on machine integers is `decide (_ = _)`.  The general `beq_iff_eq`, `bne_iff_ne` say the
same but each use searches for `LawfulBEq UInt8` through the order classes, which is slow. -/

theorem u8_beq_iff {x y : UInt8} : (x == y) = true ↔ x = y := decide_eq_true_iff

theorem u8_bne_iff {x y : UInt8} : (x != y) = true ↔ x ≠ y := by
  rw [bne, Bool.not_eq_true', ← Bool.not_eq_true, u8_beq_iff]

theorem u64_bne_iff {x y : UInt64} : (x != y) = true ↔ x ≠ y := by
  rw [bne, Bool.not_eq_true', ← Bool.not_eq_true]; exact not_congr decide_eq_true_iff

theorem tb_or (x y : UInt8) (j : Nat) : tb (x ||| y) j = (tb x j || tb y j) := by
  unfold tb; rw [UInt8.toNat_or, Nat.testBit_or]

theorem tb_and (x y : UInt8) (j : Nat) : tb (x &&& y) j = (tb x j && tb y j) := by
  unfold tb; rw [UInt8.toNat_and, Nat.testBit_and]

theorem tb_xor (x y : UInt8) (j : Nat) : tb (x ^^^ y) j = (tb x j ^^ tb y j) := by
  unfold tb; rw [UInt8.toNat_xor, Nat.testBit_xor]

theorem tb_not (x : UInt8) {j : Nat} (hj : j < 8) : tb (~~~x) j = !tb x j := by
  unfold tb
  rw [UInt8.toNat_not]
  show (2 ^ 8 - 1 - x.toNat).testBit j = _
  rw [Nat.sub_sub, Nat.add_comm 1, Nat.testBit_two_pow_sub_succ x.toNat_lt, decide_eq_true hj,
    Bool.true_and]

/-- the mask `1 << s` of `GetBit`, `SetBit` and of the delimiter -/
theorem tb_one_shl (s : UInt8) (hs : s.toNat < 8) (j : Nat) :
    tb (1 <<< s) j = decide (j = s.toNat) := by
  unfold tb
  rw [UInt8.toNat_shiftLeft, Nat.mod_eq_of_lt hs, show (1 : UInt8).toNat = 1 from rfl,
    Nat.one_shiftLeft, Nat.mod_eq_of_lt (Nat.pow_lt_pow_right (by decide) hs),
    Nat.testBit_two_pow]
  exact decide_eq_decide.mpr eq_comm

/-- the test `(x >> s) & 1 == 1` of `GetBit` -/
theorem shr_and_one (x s : UInt8) (hs : s.toNat < 8) :
    (((x >>> s) &&& 1) == 1) = tb x s.toNat := by
  unfold tb
  rw [Nat.testBit_eq_decide_div_mod_eq, ← Nat.shiftRight_eq_div_pow, ← Nat.and_one_is_mod,
    Bool.eq_iff_iff, u8_beq_iff, decide_eq_true_iff, ← UInt8.toNat_inj, UInt8.toNat_and,
    UInt8.toNat_shiftRight, Nat.mod_eq_of_lt hs]
  rfl

/-! the two updates of `SetBit`, `x | 1<<s` and `x &^ (1<<s)`, write bit `s` and keep the rest -/

theorem tb_or_shl (x s : UInt8) (hs : s.toNat < 8) (j : Nat) :
    tb (x ||| 1 <<< s) j = if j = s.toNat then true else tb x j := by
  rw [tb_or, tb_one_shl s hs]
  split <;> simp [*]

theorem tb_and_not_shl (x s : UInt8) (hs : s.toNat < 8) {j : Nat} (hj : j < 8) :
    tb (x &&& ~~~(1 <<< s)) j = if j = s.toNat then false else tb x j := by
  rw [tb_and, tb_not _ hj, tb_one_shl s hs]
  split <;> simp [*]

theorem shr_eq_zero_iff (x : UInt8) (s : UInt8) (hs : s.toNat < 8) :
    x >>> s = 0 ↔ ∀ j, s.toNat ≤ j → tb x j = false := by
  rw [← UInt8.toNat_inj, UInt8.toNat_shiftRight, Nat.mod_eq_of_lt hs]
  show x.toNat >>> s.toNat = 0 ↔ _
  constructor
  · intro h j hj
    have := Nat.testBit_shiftRight (i := s.toNat) (j := j - s.toNat) x.toNat
    rwa [h, Nat.zero_testBit, Nat.add_sub_cancel' hj, eq_comm] at this
  · intro h
    apply Nat.eq_of_testBit_eq
    intro j
    rw [Nat.testBit_shiftRight, Nat.zero_testBit]
    exact h (s.toNat + j) (Nat.le_add_right _ _)

/-! ### the highest set bit of a byte -/

theorem bitIndex_eq_log2 : ∀ v : UInt8, (bitIndex v).toNat = Nat.log2 v.toNat := by
  apply forall_u8
  intro n hn
  -- a 256-row table; it is evaluated over a list because the instance for `∀ n, n < 256 → _`
  -- wraps the predicate once more at every step, which makes the evaluation quadratic
  have : ∀ n ∈ List.range 256, (bitIndex (UInt8.ofNat n)).toNat = Nat.log2 (UInt8.ofNat n).toNat := by
    decide +kernel
  exact this n (List.mem_range.mpr hn)

theorem log2_u8_lt (v : UInt8) : Nat.log2 v.toNat < 8 := by
  by_cases h : v.toNat = 0
  · rw [h]; decide
  · exact (Nat.log2_lt h).mpr v.toNat_lt

theorem bitIndex_lt (v : UInt8) : (bitIndex v).toNat < 8 := by
  rw [bitIndex_eq_log2]; exact log2_u8_lt v

/-- the shift count `uint8(BitIndex(x))` -/
theorem bitIndex_toUInt8 (x : UInt8) : (bitIndex x).toUInt8.toNat = Nat.log2 x.toNat := by
  rw [UInt64.toNat_toUInt8, bitIndex_eq_log2]
  exact Nat.mod_eq_of_lt (Nat.lt_trans (log2_u8_lt x) (by decide))

theorem tb_log2 (x : UInt8) (h : x ≠ 0) : tb x (Nat.log2 x.toNat) = true :=
  Nat.testBit_log2 fun e => h (UInt8.toNat_inj.mp e)

theorem tb_above_log2 (x : UInt8) {j : Nat} (hj : Nat.log2 x.toNat < j) : tb x j = false := by
  unfold tb
  by_cases h : x.toNat = 0
  · rw [h, Nat.zero_testBit]
  · exact Nat.testBit_lt_two_pow ((Nat.log2_lt h).mp hj)

theorem log2_eq_of_bits {x m : Nat} (h1 : x.testBit m = true)
    (h2 : ∀ j, m < j → x.testBit j = false) : Nat.log2 x = m := by
  have hge := Nat.ge_two_pow_of_testBit h1
  have hx : x ≠ 0 := Nat.ne_of_gt (Nat.lt_of_lt_of_le (Nat.two_pow_pos m) hge)
  exact (Nat.log2_eq_iff hx).mpr ⟨hge, Nat.lt_pow_two_of_testBit x fun j hj => h2 j hj⟩

/-- `last ^= 1 << BitIndex(last)` -/
def clearTop (x : UInt8) : UInt8 := x ^^^ ((1 : UInt8) <<< (bitIndex x).toUInt8)

theorem tb_clearTop (x : UInt8) (hx : x ≠ 0) (j : Nat) :
    tb (clearTop x) j = if j = Nat.log2 x.toNat then false else tb x j := by
  unfold clearTop
  rw [tb_xor, tb_one_shl _ (by rw [bitIndex_toUInt8]; exact log2_u8_lt x), bitIndex_toUInt8]
  split
  · next h => rw [decide_eq_true h, h, tb_log2 x hx]; rfl
  · next h => rw [decide_eq_false h, Bool.xor_false]

/-! ### `List.getD` -/

theorem getD_lt {α : Type} (l : List α) (d : α) {i : Nat} (h : i < l.length) : l.getD i d = l[i] := by
  rw [List.getD_eq_getElem?_getD, List.getElem?_eq_getElem h]; rfl

theorem getD_ge {α : Type} (l : List α) (d : α) {i : Nat} (h : l.length ≤ i) : l.getD i d = d := by
  rw [List.getD_eq_getElem?_getD, List.getElem?_eq_none h]; rfl

theorem getD_append_singleton (bits : List Bool) (c : Bool) (i : Nat) :
    (bits ++ [c]).getD i false =
      if i < bits.length then bits.getD i false else if i = bits.length then c else false := by
  rw [List.getD_eq_getElem?_getD, List.getElem?_append]
  split
  · rw [List.getD_eq_getElem?_getD]
  · split
    · simp [*]
    · next h1 h2 =>
      rw [List.getElem?_eq_none
        (Nat.sub_pos_of_lt (Nat.lt_of_le_of_ne (Nat.le_of_not_lt h1) (Ne.symm h2)))]
      rfl

/-! ### bit view of byte strings -/

theorem packBits_length (bs : List Bool) : (packBits bs).length = (bs.length + 7) / 8 :=
  ZtypV.packBits_length bs

/-- bit `i` of a packed byte string (false beyond the end) -/
def bitAt (b : Bytes) (i : Nat) : Bool := tb (b.getD (i / 8) 0) (i % 8)

/-- the last byte of a byte string (`0` for the empty string) -/
def lastByte (b : Bytes) : UInt8 := b.getD (b.length - 1) 0

theorem bitAt_packBits (bs : List Bool) (i : Nat) : bitAt (packBits bs) i = bs.getD i false := by
  unfold bitAt tb
  rw [Nat.testBit_eq_decide_div_mod_eq, ← Bool.beq_eq_decide_eq,
    packBits_getD_bit _ _ _ (Nat.mod_lt i (by decide)), Nat.div_add_mod]

theorem bitAt_of_div_ge (b : Bytes) {i : Nat} (h : b.length ≤ i / 8) : bitAt b i = false := by
  unfold bitAt
  rw [getD_ge b 0 h, tb_zero]

theorem bitAt_of_ge (b : Bytes) {i : Nat} (h : 8 * b.length ≤ i) : bitAt b i = false :=
  bitAt_of_div_ge b ((Nat.le_div_iff_mul_le (by decide)).mpr (Nat.mul_comm _ _ ▸ h))

theorem bitAt_mul_add (b : Bytes) (k : Nat) {j : Nat} (hj : j < 8) :
    bitAt b (8 * k + j) = tb (b.getD k 0) j := by
  unfold bitAt
  rw [Nat.mul_add_div (by decide), Nat.div_eq_of_lt hj, Nat.add_zero, Nat.mul_add_mod,
    Nat.mod_eq_of_lt hj]

/-- the bits from the last byte on; beyond the end both sides are `false` -/
theorem bitAt_tail (b : Bytes) (j : Nat) : bitAt b (8 * (b.length - 1) + j) = tb (lastByte b) j := by
  by_cases hj : j < 8
  · exact bitAt_mul_add b _ hj
  · have hj := Nat.le_of_not_lt hj
    have hl : 8 * b.length ≤ 8 * (b.length - 1 + 1) :=
      Nat.mul_le_mul_left 8 (Nat.le_add_of_sub_le (Nat.le_refl _))
    rw [Nat.mul_succ] at hl
    rw [bitAt_of_ge b (Nat.le_trans hl (Nat.add_le_add_left hj _)), tb_ge8 _ hj]

theorem bitAt_last (b : Bytes) (_ : b.length ≠ 0) (j : Nat) (_ : j < 8) :
    bitAt b (8 * (b.length - 1) + j) = tb (lastByte b) j :=
  bitAt_tail b j

theorem bitAt_cons_lt (x : UInt8) (b : Bytes) {j : Nat} (hj : j < 8) : bitAt (x :: b) j = tb x j := by
  unfold bitAt
  rw [Nat.div_eq_of_lt hj, Nat.mod_eq_of_lt hj]; rfl

theorem bitAt_cons_add (x : UInt8) (b : Bytes) (i : Nat) : bitAt (x :: b) (8 + i) = bitAt b i := by
  unfold bitAt
  rw [Nat.add_div_left _ (by decide), Nat.add_mod_left]
  rfl

theorem bitAt_set (b : Bytes) (k : Nat) (y : UInt8) (i : Nat) :
    bitAt (b.set k y) i = if i / 8 = k ∧ k < b.length then tb y (i % 8) else bitAt b i := by
  unfold bitAt
  rw [List.getD_eq_getElem?_getD, List.getElem?_set]
  by_cases h : k = i / 8
  · by_cases hk : k < b.length
    · rw [if_pos h, if_pos hk, if_pos ⟨h.symm, hk⟩]; rfl
    · rw [if_pos h, if_neg hk, if_neg (fun c => hk c.2), getD_ge b 0 (h ▸ Nat.le_of_not_lt hk)]; rfl
  · rw [if_neg h, if_neg (fun c => h c.1.symm), List.getD_eq_getElem?_getD]

/-- replacing byte `k` by one that differs from it in bit `s` only, position `p = 8 * k + s` -/
theorem bitAt_set_bit (b : Bytes) {k s p : Nat} (hk : k < b.length) (hs : s < 8) (hp : 8 * k + s = p)
    (v : Bool) (y : UInt8) (hy : ∀ j, j < 8 → tb y j = if j = s then v else tb (b.getD k 0) j)
    (i : Nat) : bitAt (b.set k y) i = if i = p then v else bitAt b i := by
  subst hp
  rw [bitAt_set]
  by_cases hq : i / 8 = k
  · have : i % 8 = s ↔ i = 8 * k + s := by
      rw [← hq]
      exact ⟨fun h => by rw [← h, Nat.div_add_mod],
        fun h => by rw [h, Nat.mul_add_mod, Nat.mod_eq_of_lt hs]⟩
    rw [if_pos ⟨hq, hk⟩, hy _ (Nat.mod_lt _ (by decide))]
    unfold bitAt
    rw [hq]
    simp only [this]
  · have : i ≠ 8 * k + s := fun e =>
      hq (by rw [e, Nat.mul_add_div (by decide), Nat.div_eq_of_lt hs, Nat.add_zero])
    rw [if_neg (fun c => hq c.1), if_neg this]

theorem bytes_ext {a b : Bytes} (hl : a.length = b.length) (h : ∀ i, bitAt a i = bitAt b i) :
    a = b := by
  apply List.ext_getElem hl
  intro k h1 h2
  apply u8_ext
  intro j hj
  rw [← getD_lt a 0 h1, ← getD_lt b 0 h2, ← bitAt_mul_add a k hj, ← bitAt_mul_add b k hj]
  exact h _

theorem eq_packBits_iff (b : Bytes) (bits : List Bool) :
    b = packBits bits ↔ b.length = (bits.length + 7) / 8 ∧ ∀ i, bitAt b i = bits.getD i false := by
  constructor
  · intro h; subst h
    exact ⟨packBits_length _, bitAt_packBits _⟩
  · intro ⟨hl, hb⟩
    apply bytes_ext
    · rw [hl, packBits_length]
    · intro i; rw [hb, bitAt_packBits]

/-- the first `n` bits of a byte string -/
def unpack (b : Bytes) (n : Nat) : List Bool := (List.range n).map (bitAt b)

@[simp] theorem unpack_length (b : Bytes) (n : Nat) : (unpack b n).length = n := by
  simp [unpack]

theorem unpack_getD (b : Bytes) (n i : Nat) :
    (unpack b n).getD i false = if i < n then bitAt b i else false := by
  unfold unpack
  rw [List.getD_eq_getElem?_getD, List.getElem?_map]
  by_cases h : i < n
  · rw [List.getElem?_range h, if_pos h]; rfl
  · rw [List.getElem?_eq_none (by simpa using Nat.le_of_not_lt h), if_neg h]; rfl

/-! ### shape of bitlist encodings -/

/-- a byte string with non-zero last byte is the bitlist encoding of its bits below the
    highest set bit of the last byte -/
theorem eq_packBits_delim (b : Bytes) (h0 : b.length ≠ 0) (hz : lastByte b ≠ 0) :
    b = packBits (unpack b (8 * (b.length - 1) + Nat.log2 (lastByte b).toNat) ++ [true]) := by
  have hlog := log2_u8_lt (lastByte b)
  rw [eq_packBits_iff]
  constructor
  · rw [List.length_append, unpack_length]
    show b.length = (8 * (b.length - 1) + Nat.log2 (lastByte b).toNat + 8) / 8
    rw [Nat.add_div_right _ (by decide), Nat.mul_add_div (by decide), Nat.div_eq_of_lt hlog]
    exact (Nat.sub_add_cancel (Nat.pos_of_ne_zero h0)).symm
  · intro i
    rw [getD_append_singleton, unpack_length, unpack_getD]
    split
    · rfl
    · next h =>
      -- `i` is the position of the highest set bit of the last byte, or above it
      obtain ⟨d, rfl⟩ := Nat.exists_eq_add_of_le (Nat.le_of_not_lt h)
      cases d with
      | zero => rw [Nat.add_zero, if_pos rfl, bitAt_tail]; exact tb_log2 _ hz
      | succ d =>
        rw [if_neg (Nat.ne_of_gt (Nat.lt_add_of_pos_right (Nat.succ_pos d))), Nat.add_assoc,
          bitAt_tail]
        exact tb_above_log2 _ (Nat.lt_add_of_pos_right (Nat.succ_pos d))

theorem bitlist_shape (bits : List Bool) :
    (packBits (bits ++ [true])).length = bits.length / 8 + 1 ∧
    lastByte (packBits (bits ++ [true])) ≠ 0 ∧
    Nat.log2 (lastByte (packBits (bits ++ [true]))).toNat = bits.length % 8 := by
  have hlen : (packBits (bits ++ [true])).length = bits.length / 8 + 1 := by
    rw [packBits_length, List.length_append]
    exact Nat.add_div_right bits.length (show 0 < 8 by decide)
  -- the bits of the last byte from `bits.length % 8` on are `true` (the delimiter), `false`, …
  have hbit : ∀ d, tb (lastByte (packBits (bits ++ [true]))) (bits.length % 8 + d)
      = (bits ++ [true]).getD (bits.length + d) false := by
    intro d
    rw [← bitAt_tail, bitAt_packBits, hlen, Nat.add_sub_cancel, ← Nat.add_assoc, Nat.div_add_mod]
  have hdelim : tb (lastByte (packBits (bits ++ [true]))) (bits.length % 8) = true := by
    rw [← Nat.add_zero (_ % 8), hbit, Nat.add_zero, getD_append_singleton,
      if_neg (Nat.lt_irrefl _), if_pos rfl]
  refine ⟨hlen, fun e => ?_, log2_eq_of_bits hdelim fun j hj => ?_⟩
  · rw [e, tb_zero] at hdelim; cases hdelim
  · obtain ⟨d, rfl⟩ := Nat.exists_eq_add_of_lt hj
    show tb _ _ = false
    rw [Nat.add_assoc, hbit, getD_ge _ _ (by
      rw [List.length_append]; exact Nat.add_le_add_left (Nat.succ_le_succ (Nat.zero_le d)) _)]

theorem packBits_delim_length_ne_zero (bits : List Bool) :
    (packBits (bits ++ [true])).length ≠ 0 := by
  rw [(bitlist_shape bits).1]; exact Nat.succ_ne_zero _

/-! ### machine-integer facts -/

theorem u64_shr3 (x : UInt64) : (x >>> 3).toNat = x.toNat / 8 := by
  rw [UInt64.toNat_shiftRight, Nat.shiftRight_eq_div_pow]; rfl

theorem u64_and7 (x : UInt64) : (x &&& 7).toNat = x.toNat % 8 := by
  rw [UInt64.toNat_and]; exact Nat.and_two_pow_sub_one_eq_mod x.toNat 3

/-- the shift count `uint8(i & 7)` -/
theorem u64_and7_u8 (x : UInt64) : (x &&& 7).toUInt8.toNat = x.toNat % 8 := by
  rw [UInt64.toNat_toUInt8, u64_and7]
  exact Nat.mod_eq_of_lt (Nat.lt_trans (Nat.mod_lt _ (by decide)) (by decide))

theorem u64_eq_zero (x : UInt64) : (x == 0) = decide (x.toNat = 0) := by
  rw [Bool.eq_iff_iff]; simp [← UInt64.toNat_inj]

theorem u64_ofNat {n : Nat} (h : n < 2 ^ 64) : (UInt64.ofNat n).toNat = n :=
  UInt64.toNat_ofNat_of_lt' h

theorem u64_sub1 (x : UInt64) (h : x.toNat ≠ 0) : (x - 1).toNat = x.toNat - 1 :=
  UInt64.toNat_sub_of_le x 1 (UInt64.le_iff_toNat_le.mpr (Nat.pos_of_ne_zero h))

theorem u64_shl3 (x : UInt64) (h : 8 * x.toNat < 2 ^ 64) : (x <<< 3).toNat = 8 * x.toNat := by
  rw [UInt64.toNat_shiftLeft, Nat.shiftLeft_eq, show (3 : UInt64).toNat % 64 = 3 from rfl,
    Nat.mul_comm, Nat.mod_eq_of_lt h]

theorem idx_eq (b : Bytes) (i : UInt64) (h : i.toNat < b.length) : idx b i = .ok (b.getD i.toNat 0) := by
  unfold idx
  rw [List.getD_eq_getElem?_getD, List.getElem?_eq_getElem h]; rfl

theorem idx_panic (b : Bytes) (i : UInt64) (h : b.length ≤ i.toNat) : idx b i = .error .panic := by
  unfold idx
  rw [List.getElem?_eq_none h]

/-! `byteLen - 1`, the index of the last byte in `BitlistLen`, `BitlistCheck`, `BitvectorCheck` -/

theorem u64_pred_length (b : Bytes) (hb : b.length < 2 ^ 64) (h0 : b.length ≠ 0) :
    (UInt64.ofNat b.length - 1).toNat = b.length - 1 := by
  rw [u64_sub1 _ (by rw [u64_ofNat hb]; exact h0), u64_ofNat hb]

theorem idx_last (b : Bytes) (hb : b.length < 2 ^ 64) (h0 : b.length ≠ 0) :
    idx b (UInt64.ofNat b.length - 1) = .ok (lastByte b) := by
  have hi := u64_pred_length b hb h0
  rw [idx_eq b _ (by rw [hi]; exact Nat.sub_one_lt h0), hi]; rfl

theorem u64_pred_length_shl3 (b : Bytes) (hb : b.length < 2 ^ 64) (h0 : b.length ≠ 0)
    (h8 : 8 * (b.length - 1) < 2 ^ 64) :
    ((UInt64.ofNat b.length - 1) <<< 3).toNat = 8 * (b.length - 1) := by
  have hi := u64_pred_length b hb h0
  rw [u64_shl3 _ (by rw [hi]; exact h8), hi]

/-! ### outcomes of the checks -/

/-- the outcome is `nil` or a Go `error`, not a run-time panic -/
def NoPanic (x : R Unit) : Prop := x = .ok () ∨ x = .error .err

theorem NoPanic.ok : NoPanic (.ok ()) := .inl rfl

theorem NoPanic.err : NoPanic (.error .err) := .inr rfl

theorem NoPanic.ite {c : Prop} [Decidable c] {x y : R Unit} (hx : NoPanic x) (hy : NoPanic y) :
    NoPanic (if c then x else y) := by
  split <;> assumption

theorem NoPanic.bind {x y : R Unit} (hx : NoPanic x) (hy : NoPanic y) : NoPanic (do x; y) := by
  cases hx with
  | inl h => rw [h]; exact hy
  | inr h => rw [h]; exact .err

theorem bind_ok_iff {x y : R Unit} : (do x; y) = .ok () ↔ x = .ok () ∧ y = .ok () := by
  cases x <;> simp [bind, Except.bind]

/-- the shape of both `BitlistCheck` sub-checks -/
theorem ite_err_err_ok_iff {c d : Prop} [Decidable c] [Decidable d] :
    (if c then .error .err else if d then .error .err else .ok () : R Unit) = .ok () ↔ ¬c ∧ ¬d := by
  by_cases c <;> by_cases d <;> simp [*]

/-- the shape of `BitvectorCheckLastByte` -/
theorem ite_err_ok_err_ok_iff {c d e : Prop} [Decidable c] [Decidable d] [Decidable e] :
    (if c then .error .err else if d then .ok () else if e then .error .err else .ok () : R Unit)
      = .ok () ↔ ¬c ∧ (¬d → ¬e) := by
  by_cases c <;> by_cases d <;> by_cases e <;> simp [*]

/-! ### `n` bits in `(n + 7) / 8` bytes -/

theorem ceil8_of_dvd {n : Nat} (h : n % 8 = 0) : (n + 7) / 8 = n / 8 := by
  rw [Nat.add_div (by decide), h]; rfl

theorem ceil8_of_not_dvd {n : Nat} (h : n % 8 ≠ 0) : (n + 7) / 8 = n / 8 + 1 := by
  rw [Nat.add_div (by decide),
    if_pos (show 8 ≤ n % 8 + 7 % 8 from Nat.add_le_add_right (Nat.pos_of_ne_zero h) 7)]

theorem le_ceil8 (n : Nat) : n ≤ 8 * ((n + 7) / 8) :=
  Nat.le_of_lt_succ
    (Nat.lt_of_add_lt_add_right (Nat.lt_mul_div_succ (n + 7) (show 0 < 8 by decide)))

theorem div8_lt_ceil8 {i n : Nat} (h : i < n) : i / 8 < (n + 7) / 8 :=
  Nat.div_lt_of_lt_mul (Nat.lt_of_lt_of_le h (le_ceil8 n))

theorem div8_lt {n : Nat} (h : n < 2 ^ 64) : n / 8 < 2 ^ 61 :=
  Nat.div_lt_of_lt_mul h

theorem pred_mul8_le_iff {l m : Nat} : 8 * (l - 1) ≤ m ↔ l ≤ m / 8 + 1 := by
  rw [← Nat.sub_le_iff_le_add, Nat.le_div_iff_mul_le (by decide), Nat.mul_comm]

/-! ### BitvectorCheck -/

theorem bitvectorCheckByteLen_ok_iff (bl n : UInt64) :
    bitvectorCheckByteLen bl n = .ok () ↔ bl = (n + 7) >>> 3 := by
  unfold bitvectorCheckByteLen
  by_cases h : bl = (n + 7) >>> 3
  · rw [if_neg fun c => u64_bne_iff.mp c h]; exact iff_of_true rfl h
  · rw [if_pos (u64_bne_iff.mpr h)]; exact iff_of_false nofun h

theorem u64_add7_shr3 (n : UInt64) (hn : n.toNat + 7 < 2 ^ 64) :
    ((n + 7) >>> 3).toNat = (n.toNat + 7) / 8 := by
  rw [u64_shr3, UInt64.toNat_add]; exact congrArg (· / 8) (Nat.mod_eq_of_lt hn)

theorem bitvectorCheckByteLen_eq (bl n : UInt64) (hn : n.toNat + 7 < 2 ^ 64) :
    bitvectorCheckByteLen bl n = if bl.toNat = (n.toNat + 7) / 8 then .ok () else .error .err := by
  unfold bitvectorCheckByteLen
  simp only [u64_bne_iff, ne_eq, ← UInt64.toNat_inj, u64_add7_shr3 n hn, ite_not]

theorem bitvectorCheckLastByte_ok_iff (last : UInt8) (n : UInt64) :
    bitvectorCheckLastByte last n = .ok () ↔
      n.toNat ≠ 0 ∧ (n.toNat % 8 ≠ 0 → ∀ j, n.toNat % 8 ≤ j → tb last j = false) := by
  have hs : (n &&& 7).toUInt8.toNat < 8 := by rw [u64_and7_u8]; exact Nat.mod_lt _ (by decide)
  unfold bitvectorCheckLastByte
  dsimp only
  rw [ite_err_ok_err_ok_iff, u64_eq_zero, u64_eq_zero, u64_and7, decide_eq_true_iff,
    decide_eq_true_iff, u8_bne_iff, Classical.not_not, shr_eq_zero_iff _ _ hs, u64_and7_u8]

/-- the last byte is there whenever it is read -/
theorem bitvectorCheck_eq (b : Bytes) (n : UInt64) (hb : b.length < 2 ^ 64) :
    bitvectorCheck b n = (do
      bitvectorCheckByteLen (UInt64.ofNat b.length) n
      if b.length = 0 then .ok () else bitvectorCheckLastByte (lastByte b) n) := by
  unfold bitvectorCheck
  dsimp only
  rw [u64_eq_zero, u64_ofNat hb]
  by_cases h0 : b.length = 0
  · rw [if_pos h0, decide_eq_true h0, if_pos rfl]
  · rw [if_neg h0, decide_eq_false h0, if_neg Bool.false_ne_true, idx_last b hb h0]; rfl

theorem bitvectorCheck_noPanic (b : Bytes) (n : UInt64) (hb : b.length < 2 ^ 64) :
    NoPanic (bitvectorCheck b n) := by
  rw [bitvectorCheck_eq b n hb]
  unfold bitvectorCheckByteLen bitvectorCheckLastByte
  exact .bind (.ite .err .ok) (.ite .ok (.ite .err (.ite .ok (.ite .err .ok))))

/-- acceptance condition of `BitvectorCheck` for every `n`, with `(n+7)>>3` as the machine
    computes it -/
theorem bitvectorCheck_ok_iff_wrapping (b : Bytes) (n : UInt64) (hb : b.length < 2 ^ 64) :
    bitvectorCheck b n = .ok () ↔
      b.length = ((n + 7) >>> 3).toNat ∧
        (if b.length = 0 then .ok () else bitvectorCheckLastByte (lastByte b) n) = .ok () := by
  rw [bitvectorCheck_eq b n hb, bind_ok_iff, bitvectorCheckByteLen_ok_iff, ← UInt64.toNat_inj,
    u64_ofNat hb]

/-- a string of `(n + 7) / 8` bytes: the positions from `n` on are beyond the end when `8 ∣ n`,
    and are otherwise the bits of the last byte from `n % 8` on -/
theorem bitAt_from_iff (b : Bytes) (n : Nat) (hl : b.length = (n + 7) / 8) :
    (∀ i, n ≤ i → bitAt b i = false) ↔
      (n % 8 ≠ 0 → ∀ j, n % 8 ≤ j → tb (lastByte b) j = false) := by
  by_cases hr : n % 8 = 0
  · have hn8 : 8 * b.length = n := by
      rw [hl, ceil8_of_dvd hr, ← Nat.add_zero (8 * _), ← hr]; exact Nat.div_add_mod n 8
    exact iff_of_true (fun i hi => bitAt_of_ge b (hn8 ▸ hi)) fun h => absurd hr h
  · have hn8 : 8 * (b.length - 1) + n % 8 = n := by
      rw [hl, ceil8_of_not_dvd hr]; exact Nat.div_add_mod n 8
    constructor
    · intro h _ j hj
      obtain ⟨d, rfl⟩ := Nat.exists_eq_add_of_le hj
      rw [← bitAt_tail, ← Nat.add_assoc, hn8]
      exact h _ (Nat.le_add_right _ _)
    · intro h i hi
      obtain ⟨d, rfl⟩ := Nat.exists_eq_add_of_le hi
      rw [← hn8, Nat.add_assoc, bitAt_tail]
      exact h hr _ (Nat.le_add_right _ _)

/-- exact acceptance condition of `BitvectorCheck` (no wrap of `n+7`) -/
theorem bitvectorCheck_ok_iff (b : Bytes) (n : UInt64) (hb : b.length < 2 ^ 64)
    (hn : n.toNat + 7 < 2 ^ 64) :
    bitvectorCheck b n = .ok () ↔
      b.length = (n.toNat + 7) / 8 ∧ ∀ i, n.toNat ≤ i → bitAt b i = false := by
  rw [bitvectorCheck_ok_iff_wrapping b n hb, u64_add7_shr3 n hn]
  refine and_congr_right fun hl => ?_
  by_cases h0 : b.length = 0
  · rw [if_pos h0]
    exact iff_of_true rfl fun i _ => bitAt_of_ge b (by rw [h0]; exact Nat.zero_le _)
  · rw [if_neg h0, bitvectorCheckLastByte_ok_iff, bitAt_from_iff b _ hl]
    exact and_iff_right fun h => h0 (by rw [hl, h])

/-! ### BitlistCheck -/

theorem bitlistCheckByteLen_eq (bl lim : UInt64) :
    bitlistCheckByteLen bl lim =
      if bl.toNat = 0 then .error .err
      else if bl.toNat > lim.toNat / 8 + 1 then .error .err else .ok () := by
  unfold bitlistCheckByteLen
  have h1 : ((lim >>> 3) + 1).toNat = lim.toNat / 8 + 1 := by
    rw [UInt64.toNat_add, u64_shr3]
    exact Nat.mod_eq_of_lt (Nat.lt_of_le_of_lt (div8_lt lim.toNat_lt) (by decide))
  simp only [u64_eq_zero, decide_eq_true_eq, gt_iff_lt, UInt64.lt_iff_toNat_lt, h1]

theorem bitlistCheckLastByte_eq (last : UInt8) (limit : UInt64) :
    bitlistCheckLastByte last limit =
      if last = 0 then .error .err
      else if Nat.log2 last.toNat > limit.toNat then .error .err else .ok () := by
  unfold bitlistCheckLastByte
  simp only [u8_beq_iff, gt_iff_lt, UInt64.lt_iff_toNat_lt, bitIndex_eq_log2]

/-- the byte-length check has excluded the empty string when the last byte is read -/
theorem bitlistCheck_eq (b : Bytes) (lim : UInt64) (hb : b.length < 2 ^ 64) :
    bitlistCheck b lim = (do
      bitlistCheckByteLen (UInt64.ofNat b.length) lim
      bitlistCheckLastByte (lastByte b) (lim - ((UInt64.ofNat b.length - 1) <<< 3))) := by
  unfold bitlistCheck
  dsimp only
  by_cases h0 : b.length = 0
  · have : bitlistCheckByteLen (UInt64.ofNat b.length) lim = .error .err := by
      rw [bitlistCheckByteLen_eq, u64_ofNat hb, if_pos h0]
    rw [this]; rfl
  · rw [idx_last b hb h0]; rfl

theorem bitlistCheck_noPanic (b : Bytes) (lim : UInt64) (hb : b.length < 2 ^ 64) :
    NoPanic (bitlistCheck b lim) := by
  rw [bitlistCheck_eq b lim hb]
  unfold bitlistCheckByteLen bitlistCheckLastByte
  exact .bind (.ite .err (.ite .err .ok)) (.ite .err (.ite .err .ok))

/-- exact acceptance condition of `BitlistCheck` -/
theorem bitlistCheck_ok_iff (b : Bytes) (lim : UInt64) (hb : b.length < 2 ^ 64) :
    bitlistCheck b lim = .ok () ↔
      b.length ≠ 0 ∧ lastByte b ≠ 0 ∧
        8 * (b.length - 1) + Nat.log2 (lastByte b).toNat ≤ lim.toNat := by
  rw [bitlistCheck_eq b lim hb, bind_ok_iff, bitlistCheckByteLen_eq, bitlistCheckLastByte_eq,
    ite_err_err_ok_iff, ite_err_err_ok_iff, u64_ofNat hb]
  by_cases h0 : b.length = 0
  · exact iff_of_false (fun h => h.1.1 h0) fun h => h.1 h0
  · by_cases hle : 8 * (b.length - 1) ≤ lim.toNat
    · -- `limit-((byteLen-1)<<3)` does not wrap once the byte-length check has passed
      have hsh := u64_pred_length_shl3 b hb h0 (Nat.lt_of_le_of_lt hle lim.toNat_lt)
      rw [UInt64.toNat_sub_of_le _ _ (UInt64.le_iff_toNat_le.mpr (by rw [hsh]; exact hle)), hsh]
      exact ⟨fun ⟨_, hz, hlog⟩ => ⟨h0, hz, Nat.add_le_of_le_sub' hle (Nat.not_lt.mp hlog)⟩,
        fun ⟨_, hz, h⟩ => ⟨⟨h0, Nat.not_lt.mpr (pred_mul8_le_iff.mp hle)⟩, hz,
          Nat.not_lt.mpr (Nat.le_sub_of_add_le' h)⟩⟩
    · exact iff_of_false (fun h => hle (pred_mul8_le_iff.mpr (Nat.not_lt.mp h.1.2)))
        fun h => hle (Nat.le_trans (Nat.le_add_right _ _) h.2.2)

/-! ### GetBit / SetBit -/

theorem getBit_eq (b : Bytes) (i : UInt64) :
    getBit b i = if i.toNat / 8 < b.length then .ok (bitAt b i.toNat) else .error .panic := by
  unfold getBit
  split
  · next h =>
    rw [idx_eq b _ (by rw [u64_shr3]; exact h), u64_shr3]
    show Except.ok (((b.getD (i.toNat / 8) 0 >>> (i &&& 7).toUInt8) &&& 1) == 1) = _
    rw [shr_and_one _ _ (by rw [u64_and7_u8]; exact Nat.mod_lt _ (by decide)), u64_and7_u8]
    rfl
  · next h => rw [idx_panic b _ (by rw [u64_shr3]; exact Nat.le_of_not_lt h)]; rfl

theorem setBit_spec (b : Bytes) (i : UInt64) (v : Bool) (h : i.toNat / 8 < b.length) :
    ∃ b', setBit b i v = .ok b' ∧ b'.length = b.length ∧
      ∀ j, bitAt b' j = if j = i.toNat then v else bitAt b j := by
  have h8 : i.toNat % 8 < 8 := Nat.mod_lt _ (by decide)
  have hs : (i &&& 7).toUInt8.toNat < 8 := by rw [u64_and7_u8]; exact h8
  have hidx := idx_eq b (i >>> 3) (by rw [u64_shr3]; exact h)
  rw [u64_shr3] at hidx
  unfold setBit
  rw [hidx, u64_shr3]
  cases v with
  | true =>
    exact ⟨_, rfl, List.length_set, bitAt_set_bit b h h8 (Nat.div_add_mod _ _) true _
      fun j _ => by rw [tb_or_shl _ _ hs, u64_and7_u8]⟩
  | false =>
    exact ⟨_, rfl, List.length_set, bitAt_set_bit b h h8 (Nat.div_add_mod _ _) false _
      fun j hj => by rw [tb_and_not_shl _ _ hs hj, u64_and7_u8]⟩

theorem setBit_panic (b : Bytes) (i : UInt64) (v : Bool) (h : b.length ≤ i.toNat / 8) :
    setBit b i v = .error .panic := by
  unfold setBit
  rw [idx_panic b _ (by rw [u64_shr3]; exact h)]
  cases v <;> rfl

/-! ### BitlistLen -/

theorem bitlistLen_eq (b : Bytes) (hb : b.length ≤ 2 ^ 61) :
    ∃ r, bitlistLen b = .ok r ∧
      r.toNat = if b.length = 0 then 0 else 8 * (b.length - 1) + Nat.log2 (lastByte b).toNat := by
  have hb' : b.length < 2 ^ 64 := Nat.lt_of_le_of_lt hb (by decide)
  unfold bitlistLen
  dsimp only
  rw [u64_eq_zero, u64_ofNat hb']
  by_cases h0 : b.length = 0
  · exact ⟨0, by rw [decide_eq_true h0]; rfl, by rw [if_pos h0]; rfl⟩
  · have h8 : 8 * (b.length - 1) < 8 * 2 ^ 61 :=
      (Nat.mul_lt_mul_left (by decide)).mpr (Nat.lt_of_lt_of_le (Nat.sub_one_lt h0) hb)
    rw [decide_eq_false h0, idx_last b hb' h0]
    refine ⟨_, rfl, ?_⟩
    rw [if_neg h0, UInt64.toNat_or, u64_pred_length_shl3 b hb' h0 h8, bitIndex_eq_log2]
    -- the index of the top bit is below 8, so `|` adds
    have := Nat.shiftLeft_add_eq_or_of_lt (i := 3) (log2_u8_lt (lastByte b)) (b.length - 1)
    rw [Nat.shiftLeft_eq, Nat.mul_comm] at this
    exact this.symm

/-! ### counting -/

theorem onesCount8_toNat (x : UInt8) : (onesCount8 x).toNat = (List.range 8).countP (tb x) :=
  u64_ofNat (Nat.lt_of_le_of_lt List.countP_le_length (by decide))

theorem onesLoop_toNat (c : UInt64) (v : Bytes) :
    (onesLoop c v).toNat = (c.toNat + (List.range (8 * v.length)).countP (bitAt v)) % 2 ^ 64 := by
  induction v generalizing c with
  | nil => exact (Nat.mod_eq_of_lt c.toNat_lt).symm
  | cons x v ih =>
    have h1 : List.countP (bitAt (x :: v)) (List.range 8) = (List.range 8).countP (tb x) :=
      List.countP_congr fun j hj => by rw [bitAt_cons_lt x v (List.mem_range.mp hj)]
    have h2 : (bitAt (x :: v) ∘ fun i => 8 + i) = bitAt v := funext (bitAt_cons_add x v)
    show (onesLoop (c + onesCount8 x) v).toNat = _
    rw [ih, UInt64.toNat_add, onesCount8_toNat, Nat.mod_add_mod, Nat.add_assoc, List.length_cons,
      Nat.mul_succ, Nat.add_comm (8 * _) 8, List.range_add, List.countP_append, List.countP_map,
      h1, h2]

theorem onesLoop_snoc (c : UInt64) (v : Bytes) (x : UInt8) :
    onesLoop c (v ++ [x]) = onesLoop c v + onesCount8 x := by
  unfold onesLoop; rw [List.foldl_append]; rfl

theorem countP_getD (l : List Bool) (n : Nat) (h : l.length ≤ n) :
    (List.range n).countP (fun i => l.getD i false) = l.count true := by
  induction l generalizing n with
  | nil => simp
  | cons a l ih =>
    cases n with
    | zero => simp at h
    | succ m =>
      rw [List.range_succ_eq_map, List.countP_cons, List.countP_map]
      have : ((fun i => (a :: l).getD i false) ∘ Nat.succ) = fun i => l.getD i false := rfl
      rw [this, ih m (by simpa using h)]
      cases a <;> simp

/-- the sum of at most `2^64` bits does not wrap -/
theorem onesLoop_packBits (l : List Bool) (n : Nat) (hn : l.count true ≤ n) (h : n < 2 ^ 64) :
    (onesLoop 0 (packBits l)).toNat = l.count true := by
  have : bitAt (packBits l) = fun i => l.getD i false := funext (bitAt_packBits l)
  rw [onesLoop_toNat, this, countP_getD _ _ (by rw [packBits_length]; exact le_ceil8 _)]
  show (0 + l.count true) % 2 ^ 64 = _
  rw [Nat.zero_add, Nat.mod_eq_of_lt (Nat.lt_of_le_of_lt hn h)]

/-! ### clearing the delimiter -/

theorem take_append_eq_set (b : Bytes) (y : UInt8) (h0 : b.length ≠ 0) :
    b.take (b.length - 1) ++ [y] = b.set (b.length - 1) y := by
  rw [List.set_eq_take_append_cons_drop, if_pos (Nat.sub_one_lt h0),
    List.drop_eq_nil_of_le (Nat.le_add_of_sub_le (Nat.le_refl _))]

/-- what `BitlistOnesCount` and `IsZeroBitlist` go through: the string with the highest set bit
    of its last byte cleared -/
def clearDelim (b : Bytes) : Bytes := b.take (b.length - 1) ++ [clearTop (lastByte b)]

theorem bitAt_clearDelim (b : Bytes) (h0 : b.length ≠ 0) (hz : lastByte b ≠ 0) (i : Nat) :
    bitAt (clearDelim b) i =
      if i = 8 * (b.length - 1) + Nat.log2 (lastByte b).toNat then false else bitAt b i := by
  unfold clearDelim
  rw [take_append_eq_set b _ h0]
  exact bitAt_set_bit b (Nat.sub_lt (Nat.pos_of_ne_zero h0) Nat.one_pos) (log2_u8_lt _) rfl false _
    (fun j _ => tb_clearTop _ hz j) i

theorem clear_delim (bits : List Bool) :
    clearDelim (packBits (bits ++ [true])) = packBits (bits ++ [false]) := by
  obtain ⟨hlen, hz, hlog⟩ := bitlist_shape bits
  have h0 := packBits_delim_length_ne_zero bits
  apply bytes_ext
  · unfold clearDelim
    rw [take_append_eq_set _ _ h0, List.length_set, packBits_length, packBits_length,
      List.length_append, List.length_append]
    rfl
  · intro i
    rw [bitAt_clearDelim _ h0 hz, hlen, hlog, Nat.add_sub_cancel, Nat.div_add_mod, bitAt_packBits,
      bitAt_packBits, getD_append_singleton, getD_append_singleton]
    by_cases h : i = bits.length
    · rw [if_pos h, if_neg (h ▸ Nat.lt_irrefl _), if_pos h]
    · rw [if_neg h, if_neg h, if_neg h]

theorem bitlistOnesCount_nz (b : Bytes) (h0 : b.length ≠ 0) (hz : lastByte b ≠ 0) :
    bitlistOnesCount b = onesLoop 0 (clearDelim b) := by
  unfold bitlistOnesCount clearDelim
  have h1 : (b.length == 0) = false := by simpa using h0
  have h2 : (b.getD (b.length - 1) 0 == 0) = false := decide_eq_false hz
  rw [h1, onesLoop_snoc]
  simp only [Bool.false_eq_true, if_false, h2]
  rfl

/-! ### zero test -/

theorem allZero_iff (b : Bytes) : (b.all (· == 0)) = true ↔ ∀ i, bitAt b i = false := by
  rw [List.all_eq_true]
  constructor
  · intro h i
    by_cases hi : i / 8 < b.length
    · unfold bitAt
      rw [getD_lt b 0 hi, u8_beq_iff.mp (h _ (List.getElem_mem hi)), tb_zero]
    · exact bitAt_of_div_ge b (Nat.le_of_not_lt hi)
  · intro h x hx
    obtain ⟨k, hk, rfl⟩ := List.mem_iff_getElem.mp hx
    rw [u8_beq_iff, u8_eq_zero_iff]
    intro j hj
    rw [← getD_lt b 0 hk, ← bitAt_mul_add b k hj]
    exact h _

theorem allZero_packBits (l : List Bool) : (packBits l).all (· == 0) = l.all (!·) := by
  rw [Bool.eq_iff_iff, allZero_iff, List.all_eq_true]
  simp only [bitAt_packBits, Bool.not_eq_true']
  constructor
  · intro h x hx
    obtain ⟨k, hk, rfl⟩ := List.mem_iff_getElem.mp hx
    rw [← getD_lt l false hk, h k]
  · intro h i
    by_cases hi : i < l.length
    · rw [getD_lt l false hi]; exact h _ (List.getElem_mem hi)
    · exact getD_ge l false (Nat.le_of_not_lt hi)

theorem isZeroBitlist_nz (b : Bytes) (h0 : b.length ≠ 0) (hz : lastByte b ≠ 0) :
    isZeroBitlist b = (clearDelim b).all (· == 0) := by
  unfold isZeroBitlist clearDelim
  have h1 : (b.length == 0) = false := by simpa using h0
  have h2 : (b.getD (b.length - 1) 0 == 0) = false := decide_eq_false hz
  simp only [h1, h2, Bool.false_eq_true, if_false, List.all_append, List.all_cons, List.all_nil,
    Bool.and_true, List.any_eq_not_all_not, bne, Bool.not_not]
  cases (b.take (b.length - 1)).all (· == 0) <;> rfl

/-! ### Covers -/

theorem andnot_eq_zero_iff (x y : UInt8) :
    ((y &&& ~~~x) == 0) = true ↔ ∀ j, j < 8 → tb y j = true → tb x j = true := by
  rw [u8_beq_iff, u8_eq_zero_iff]
  refine forall_congr' fun j => forall_congr' fun hj => ?_
  rw [tb_and, tb_not _ hj]
  cases tb y j <;> cases tb x j <;> simp

theorem covers_ok (a b : Bytes) (h : a.length = b.length) :
    ∃ r, covers a b = .ok r ∧ (r = true ↔ ∀ i, bitAt b i = true → bitAt a i = true) := by
  unfold covers
  have : (a.length != b.length) = false := by simpa using h
  rw [this]
  refine ⟨_, rfl, ?_⟩
  induction a generalizing b with
  | nil =>
    have : b = [] := List.length_eq_zero_iff.mp h.symm
    subst this
    simp [bitAt]
  | cons x a ih =>
    cases b with
    | nil => simp at h
    | cons y b =>
      have hl : a.length = b.length := by simpa using h
      rw [List.zip_cons_cons, List.all_cons, Bool.and_eq_true, ih b hl (by simpa using hl),
        andnot_eq_zero_iff]
      constructor
      · intro ⟨h1, h2⟩ i
        by_cases hi : i < 8
        · rw [bitAt_cons_lt _ _ hi, bitAt_cons_lt _ _ hi]; exact h1 i hi
        · have e : i = 8 + (i - 8) := (Nat.add_sub_cancel' (Nat.le_of_not_lt hi)).symm
          rw [e, bitAt_cons_add, bitAt_cons_add]; exact h2 _
      · intro h'
        constructor
        · intro j hj
          have := h' j
          rwa [bitAt_cons_lt _ _ hj, bitAt_cons_lt _ _ hj] at this
        · intro i
          have := h' (8 + i)
          rwa [bitAt_cons_add, bitAt_cons_add] at this

end ZtypV.Bitfields
