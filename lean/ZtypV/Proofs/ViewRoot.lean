/-
For property C01: the side condition `noBoolSeries`, the reachable backings `Reach` used to state
the mutation route, and the facts about chunks, depths and zero contents behind the Merkle roots
of view backings.
-/
import ZtypV.Proofs.ViewSer
namespace ZtypV
open View

/-! ### the side condition of C01 (finding D3) -/

def Ty.isBool : Ty → Bool
  | .bool => true
  | _ => false

mutual
/-- no `vector` / `list` whose element type is `bool`, anywhere inside the type -/
def noBoolSeries : Ty → Bool
  | .vector e _ => !e.isBool && noBoolSeries e
  | .list e _ => !e.isBool && noBoolSeries e
  | .container fs => noBoolSeriesAll fs
  | .union _ opts => noBoolSeriesAll opts
  | _ => true
def noBoolSeriesAll : List Ty → Bool
  | [] => true
  | t :: ts => noBoolSeries t && noBoolSeriesAll ts
end

namespace ViewRoot

/-! ### depth / size arithmetic -/

theorem seriesDepth_uint (b n : Nat) (hb : (Ty.uint b).wf = true) :
    seriesDepth (.uint b) n = coverDepth (basicChunkCount b n) := by
  simp only [seriesDepth, isBasicElem, if_true, Ty.fixedSize, View.bottomNodes_eq b n (wf_uint hb),
    basicChunkCount]

/-- for non-`bool` element types ztyp's notion of "basic" coincides with the spec's -/
theorem isBasic_eq_isBasicElem (e : Ty) (hnb : e.isBool = false) : e.isBasic = isBasicElem e := by
  cases e <;> simp [Ty.isBasic, isBasicElem, Ty.isBool] at hnb ⊢

/-! ### chunks -/

theorem map_root_bytesIntoNodes (h : HashFn) (bs : Bytes) :
    (bytesIntoNodes bs).map (Node.root h) = chunks bs := by
  unfold bytesIntoNodes
  rw [List.map_map]
  have : (Node.root h ∘ Node.leaf) = id := by funext r; rfl
  rw [this, List.map_id]

/-- the selector chunk written by `UnionType` (one byte) is the spec's 8-byte mix-in number -/
theorem selector_chunk (sel : Nat) (hs : sel < 256) :
    chunkOf [UInt8.ofNat sel] = chunkOf (leBytes 8 sel) := by
  have h1 : sel % 256 = sel := Nat.mod_eq_of_lt hs
  have h2 : sel / 256 = 0 := Nat.div_eq_of_lt hs
  simp [leBytes, h1, h2, chunkOf]

theorem chunks_single (bs : Bytes) (h1 : 1 ≤ bs.length) (h2 : bs.length ≤ 32) :
    chunks bs = [chunkOf bs] := by
  have : (bs.length + 31) / 32 = 1 := by omega
  simp [chunks, this]

/-! ### typing side conditions of components -/

theorem noBoolSeriesAll_eq : ∀ ts : List Ty, noBoolSeriesAll ts = ts.all noBoolSeries
  | [] => rfl
  | t :: ts => by rw [noBoolSeriesAll, List.all_cons, noBoolSeriesAll_eq ts]

theorem noBoolSeriesAll_mem (ts : List Ty) (t : Ty) (h : noBoolSeriesAll ts = true) (hm : t ∈ ts) :
    noBoolSeries t = true :=
  List.all_eq_true.mp (noBoolSeriesAll_eq ts ▸ h) t hm

/-! ### all-zero contents (the default route) -/

theorem byteOfBits_false (m : Nat) : byteOfBits (List.replicate m false) = 0 := by
  have : (List.replicate m false).foldr (fun b acc => 2 * acc + (if b then 1 else 0)) 0 = 0 := by
    induction m with
    | zero => rfl
    | succ m ih => simp [List.replicate_succ, ih]
  unfold byteOfBits
  rw [this]; rfl

theorem packBits_false (n : Nat) :
    packBits (List.replicate n false) = List.replicate ((n + 7) / 8) 0 := by
  rw [List.eq_replicate_iff]
  refine ⟨by rw [packBits_length, List.length_replicate], ?_⟩
  intro b hb
  unfold packBits at hb
  obtain ⟨i, _, rfl⟩ := List.mem_map.mp hb
  rw [List.drop_replicate, List.take_replicate, byteOfBits_false]

theorem chunks_zeros (k : Nat) :
    chunks (List.replicate k 0) = List.replicate ((k + 31) / 32) z0 := by
  rw [List.eq_replicate_iff]
  refine ⟨by rw [chunks_length, List.length_replicate], ?_⟩
  intro c hc
  unfold chunks at hc
  obtain ⟨i, _, rfl⟩ := List.mem_map.mp hc
  rw [List.drop_replicate, chunkOf_zeros]

theorem z0_number_chunk : chunkOf (leBytes 8 0) = z0 := by
  rw [leBytes_zero]; exact chunkOf_zeros 8

end ViewRoot

/-! ### reachable backings -/

/-- `Reach h t v n`: `n` is a backing of a view of type `t` holding value `v`, obtained from the
    default or the constructor route followed by any chain of node-level mutations, each
    expressed with the `tree` primitives the typed mutators are made of
    (`SubtreeView.SetNode` = `toPath` + `setNode`; `Append/Pop` = `Setter(_, expand = true)` +
    length rewrite; `UnionView.Change` = re-pairing).  The new element backing `c` may itself
    be any reachable backing, which covers mutation through nested sub-views (the hook
    propagates the child's new backing with the parent's `setNode`).
    Sub-chunk updates of packed elements / bits are value-level read-modify-write on a single
    chunk and are stated over `Model/Machine.lean` in C04. -/
inductive Reach (h : HashFn) : Ty → Val → Node → Prop where
  | construct {t v n} : t.wf = true → noBoolSeries t = true → hasType t v = true →
      construct h t v = .ok n → Reach h t v n
  | default {t n} : t.wf = true → noBoolSeries t = true → defaultNode h t = .ok n →
      Reach h t (defaultVal t) n
  | setVector {e k vs n i w c p n'} : Reach h (.vector e k) (.seq vs) n →
      isBasicElem e = false → i < k → Reach h e w c →
      toPath i (coverDepth k) = .ok p → setNode h n p false c = .ok n' →
      Reach h (.vector e k) (.seq (vs.set i w)) n'
  | setList {e lim vs n i w c p n'} : Reach h (.list e lim) (.seq vs) n →
      isBasicElem e = false → i < vs.length → Reach h e w c →
      toPath i (coverDepth lim + 1) = .ok p → setNode h n p false c = .ok n' →
      Reach h (.list e lim) (.seq (vs.set i w)) n'
  | setField {fs vs n i t w c p n'} : Reach h (.container fs) (.seq vs) n →
      fs[i]? = some t → Reach h t w c →
      toPath i (coverDepth fs.length) = .ok p → setNode h n p false c = .ok n' →
      Reach h (.container fs) (.seq (vs.set i w)) n'
  | append {e lim vs n w c p n1 n'} : Reach h (.list e lim) (.seq vs) n →
      isBasicElem e = false → vs.length < lim → Reach h e w c →
      toPath vs.length (coverDepth lim + 1) = .ok p → setNode h n p true c = .ok n1 →
      setNode h n1 [true] false (lengthNode (vs.length + 1)) = .ok n' →
      Reach h (.list e lim) (.seq (vs ++ [w])) n'
  | pop {e lim vs n p n1 n'} : Reach h (.list e lim) (.seq vs) n →
      isBasicElem e = false → 0 < vs.length →
      toPath (vs.length - 1) (coverDepth lim + 1) = .ok p →
      setNode h n p true (zeroNode h 0) = .ok n1 →
      setNode h n1 [true] false (lengthNode (vs.length - 1)) = .ok n' →
      Reach h (.list e lim) (.seq vs.dropLast) n'
  | change {hasNone opts v0 n sel t w c} : Reach h (.union hasNone opts) v0 n →
      unionOpt hasNone opts sel = some t → Reach h t w c →
      Reach h (.union hasNone opts) (.union sel w) (.pair c (.leaf (chunkOf [UInt8.ofNat sel])))
  | changeNone {opts v0 n} : Reach h (.union true opts) v0 n →
      Reach h (.union true opts) (.union 0 .none)
        (.pair (.leaf z0) (.leaf (chunkOf [UInt8.ofNat 0])))

/-! ### a nested type using every constructor of `Ty`, and a value of it -/

def c01ExTy : Ty :=
  .container [
    .uint 8,
    .list (.vector (.uint 2) 3) 4,
    .bitlist 9,
    .bitvector 3,
    .union true [.uint 1, .bytesN 32],
    .vector (.container [.bool, .list (.uint 32) 5]) 2,
    .list (.uint 8) 0]

def c01ExVal : Val :=
  .seq [
    .num 0xFFFFFFFFFFFFFFFF,
    .seq [.seq [.num 1, .num 2, .num 65535], .seq [.num 0, .num 0, .num 7]],
    .bits [true, false, true],
    .bits [false, true, true],
    .union 2 (.bytes (List.replicate 32 7)),
    .seq [.seq [.bool true, .seq []], .seq [.bool false, .seq [.num (2 ^ 255), .num 3]]],
    .seq []]

end ZtypV
