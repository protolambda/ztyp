/-
C20, view side.  The result component of the instrumented decoder `decodeM` is the validated decoder
`decode` (`decodeM_res`).  The cost statement `Costs` of one type, and the element and field loops
in the amortised form `Pays`: `288 · elements + r · (bytes available)` pays for the loop, the bytes
it consumes pay `r` each.
-/
import ZtypV.Proofs.CostLogic
import ZtypV.Proofs.DecodeSound
namespace ZtypV.CostProofs
open ZtypV ZtypV.View ZtypV.DecodeProofs

/-! ### the result component: loops -/

section
variable {f : DR → CR (Node × DR)} {g : DR → R (Node × DR)} (hfg : ∀ d, (f d).res = g d)
include hfg

theorem decodeFixedItemsC_res (size : Nat) : ∀ (n : Nat) (dr : DR),
    (decodeFixedItemsC f size n dr).res = decodeFixedItems g size n dr
  | 0, dr => rfl
  | n + 1, dr => by
    rw [decodeFixedItemsC, decodeFixedItems]
    push_res [inSubC_res hfg, decodeFixedItemsC_res size n]

theorem decodeOffsetItemsC_res (scope : Nat) : ∀ (offs : List Nat) (dr : DR),
    (decodeOffsetItemsC f scope offs dr).res = decodeOffsetItems g scope offs dr
  | [], dr => rfl
  | [last], dr => by
    rw [decodeOffsetItemsC, decodeOffsetItems]
    push_res [inSubC_res hfg]
  | o :: o' :: rest, dr => by
    rw [decodeOffsetItemsC, decodeOffsetItems]
    push_res [inSubC_res hfg, decodeOffsetItemsC_res scope (o' :: rest)]

end

/-! ### the result component: the decoder -/

/-- uniform unfolding of the second container loop -/
theorem decodeDynPartM_cons (h : HashFn) (t : Ty) (ts : List Ty) (scope : Nat) (offs : List Nat)
    (dr : DR) :
    decodeDynPartM h (t :: ts) scope offs dr =
      (if t.isFixed = true then decodeDynPartM h ts scope offs dr
      else match offs with
        | [] => CR.fail .panic
        | o :: rest => (do
          let (x, dr') ← dr.inSubC (rest.headD scope - o) (fun d => decodeM h t d)
          let (xs, dr'') ← decodeDynPartM h ts scope rest dr'
          pure (x :: xs, dr''))) := by
  cases offs with
  | nil => rfl
  | cons o rest => cases rest <;> rfl

mutual
theorem decodeM_res (h : HashFn) : (t : Ty) → ∀ dr, (decodeM h t dr).res = decode h t dr
  | .uint b, dr => by rw [decodeM, decode]; push_res []
  | .bool, dr => by
    rw [decodeM, decode]; push_res []
    -- what is left is the `match` on the byte read
    refine bind_congr fun a => ?_
    rcases a.1 with _ | ⟨x, _ | _⟩ <;> push_res []
  | .bytesN k, dr => by rw [decodeM, decode]; push_res []
  | .bitvector k, dr => by
    rw [decodeM, decode]; push_res []
    rfl  -- the two sides differ in the name of the `match` inside the padding check only
  | .bitlist lim, dr => by
    rw [decodeM, decode]; push_res []
    -- down to the `match` on the last byte
    refine ite_congr rfl (fun _ => rfl) fun _ => ite_congr rfl (fun _ => rfl) fun _ =>
      bind_congr fun a => ?_
    cases a.1.getLast? <;> push_res []
  | .vector e k, dr => by
    rw [decodeM, decode]
    push_res [decodeFixedItemsC_res (decodeM_res h e), decodeOffsetItemsC_res (decodeM_res h e)]
  | .list e lim, dr => by
    rw [decodeM, decode]
    push_res [decodeFixedItemsC_res (decodeM_res h e), decodeOffsetItemsC_res (decodeM_res h e)]
  | .container fs, dr => by
    rw [decodeM, decode]
    push_res [decodeFixedPartM_res h fs, decodeDynPartM_res h fs]
    -- `orOtherC` followed by `pure` on the left, a single `match` on the right
    refine ite_congr rfl (fun _ => rfl) fun _ => bind_congr fun a => bind_congr fun b => ?_
    cases fillToContents h (coverDepth fs.length) (mergeFields a.1 b.1) <;> rfl
  | .union _ opts, dr => by
    rw [decodeM, decode]
    push_res [decodeOptM_res h opts]
theorem decodeFixedPartM_res (h : HashFn) : ∀ (fs : List Ty) (prev : Nat) (first : Bool)
    (scope : Nat) (dr : DR),
    (decodeFixedPartM h fs prev first scope dr).res = decodeFixedPart h fs prev first scope dr
  | [], _, _, _, _ => rfl
  | t :: ts, prev, first, scope, dr => by
    rw [decodeFixedPartM, decodeFixedPart]
    push_res [inSubC_res (decodeM_res h t), decodeFixedPartM_res h ts]
theorem decodeDynPartM_res (h : HashFn) : ∀ (fs : List Ty) (scope : Nat) (offs : List Nat) (dr : DR),
    (decodeDynPartM h fs scope offs dr).res = decodeDynPart h fs scope offs dr
  | [], _, _, _ => rfl
  | t :: ts, scope, offs, dr => by
    rw [decodeDynPartM_cons, decodeDynPart_cons]
    cases offs <;> push_res [inSubC_res (decodeM_res h t), decodeDynPartM_res h ts]
theorem decodeOptM_res (h : HashFn) : ∀ (opts : List Ty) (k rem : Nat) (dr : DR),
    (decodeOptM h opts k rem dr).res = decodeOpt h opts k rem dr
  | [], _, _, _ => rfl
  | t :: ts, 0, rem, dr => by
    rw [decodeOptM, decodeOpt]
    push_res [decodeM_res h t]
  | t :: ts, k + 1, rem, dr => by
    rw [decodeOptM, decodeOpt]
    exact decodeOptM_res h ts k rem dr
end

theorem decodeC_fst (h : HashFn) (t : Ty) (dr : DR) : (decodeC h t dr).1 = decode h t dr :=
  decodeM_res h t dr

/-! ### `fillCost` -/

theorem fillCost_full : ∀ d : Nat, fillCost d (2 ^ d) + 1 ≤ 2 ^ d := by
  intro d
  induction d with
  | zero => rw [fillCost]; simp
  | succ d ih =>
    have hp : 0 < 2 ^ d := Nat.two_pow_pos d
    have h2 : 2 ^ (d + 1) = 2 ^ d + 2 ^ d := by rw [Nat.pow_succ]; omega
    rw [fillCost]
    rw [if_neg (by omega), if_neg (by omega)]
    by_cases hd : d = 0
    · subst hd; simp
    · rw [if_neg hd, if_neg (by omega)]
      have : 2 ^ (d + 1) - 2 ^ d = 2 ^ d := by omega
      rw [this]; omega

theorem fillCost_le : ∀ d k : Nat, fillCost d k ≤ k + d := by
  intro d
  induction d with
  | zero =>
    intro k; rw [fillCost]
    split; · omega
    split <;> simp
  | succ d ih =>
    intro k
    rw [fillCost]
    split; · omega
    split; · omega
    split; · omega
    split
    · have := ih k; omega
    · have h1 := fillCost_full d
      have h2 := ih (k - 2 ^ d)
      omega

section
variable {h : HashFn}

/-- successful decoders consume exactly their scope (from `decode_sound`) -/
theorem consumed {t : Ty} {dr dr' : DR} {n : Node} (hr : (decodeM h t dr).res = .ok (n, dr'))
    (hleaf : isLeafTy t = true → dr.scope = t.fixedSize) :
    dr.scope ≤ dr.avail.length ∧ dr'.avail = dr.avail.drop dr.scope := by
  rw [decodeM_res] at hr
  obtain ⟨v, _, _, h1, h2, _⟩ := decode_sound h t dr n dr' hr hleaf
  exact ⟨h1, h2⟩

/-! ### the cost statement of one type, and one element in its own sub-scope -/

/-- a successful run of the decoder of `t` spends at most `r` units per byte of its scope plus
    192; a failing run at most `r` per available byte and per byte of scope plus `F` -/
def Costs (h : HashFn) (t : Ty) (r F : Nat) : Prop :=
  ∀ dr : DR, Spec 0 (decodeM h t dr) (fun _ c => c ≤ r * dr.scope + 192)
    (r * dr.avail.length + r * dr.scope + F)

theorem Costs.mono {t : Ty} {r r' F F' : Nat} (ht : Costs h t r F) (hr : r ≤ r') (hF : F ≤ F') :
    Costs h t r' F' := by
  intro dr
  have := Nat.mul_le_mul_right dr.scope hr
  have := Nat.mul_le_mul_right dr.avail.length hr
  exact (ht dr).mono (fun _ c hc => by omega) (by omega)

theorem Costs.ok {t : Ty} {r F : Nat} (ht : Costs h t r F) {dr dr' : DR} {n : Node}
    (hr : (decodeM h t dr).res = .ok (n, dr')) : (decodeM h t dr).cost ≤ r * dr.scope + 192 := by
  have := ht dr
  unfold Spec at this
  rw [hr, Nat.zero_add] at this
  exact this

theorem Costs.any {t : Ty} {r F : Nat} (ht : Costs h t r F) (hF : 192 ≤ F) (dr : DR) :
    (decodeM h t dr).cost ≤ r * dr.avail.length + r * dr.scope + F := by
  have := ht dr
  unfold Spec at this
  split at this <;> omega

/-- an element of type `t` in its own sub-scope: 96 for the reader, 192 and `r` per byte for
    the element (a successful one consumed exactly its scope: `consumed`) -/
theorem Costs.inSub {t : Ty} {r F : Nat} (ht : Costs h t r F) {count : Nat}
    (hleaf : isLeafTy t = true → count = t.fixedSize) (dr : DR) :
    Pays (dr.inSubC count (fun d => decodeM h t d)) (288 + r * dr.avail.length)
      (fun p => r * p.2.avail.length) (fun p => p.2.scope = dr.scope) (r * dr.scope + F) := by
  refine inSub_pays (c := 192) ?_ (Nat.le_refl r) (by omega)
  have hd := ht (subDR dr count)
  unfold Spec at hd ⊢
  rw [subDR_scope] at hd
  cases hr : (decodeM h t (subDR dr count)).res with
  | error e => rw [hr] at hd; exact hd
  | ok p =>
    rw [hr] at hd
    obtain ⟨h1, h2⟩ := consumed hr hleaf
    exact ⟨h1, h2, by dsimp only at hd; omega⟩

/-! ### the element loops

A loop over `k` elements in sub-scopes pays 288 units per element and `r` per byte it moves the
stream, out of `288 · k + r · (bytes available)`; the one failing element pays as in `Costs`. -/

theorem fixedItems_pays {e : Ty} {r F size : Nat} (he : Costs h e r F)
    (hleaf : isLeafTy e = true → size = e.fixedSize) : ∀ (k : Nat) (dr : DR),
    Pays (decodeFixedItemsC (fun d => decodeM h e d) size k dr) (288 * k + r * dr.avail.length)
      (fun p => r * p.2.avail.length) (fun p => p.1.length ≤ k ∧ p.2.scope = dr.scope)
      (r * dr.scope + F)
  | 0, dr => by
    rw [decodeFixedItemsC]
    exact Pays.pure ⟨Nat.le_refl _, rfl⟩ (Nat.le_add_left _ _)
  | k + 1, dr => by
    rw [decodeFixedItemsC]
    exact (item_cons_pays (he.inSub hleaf dr) (fixedItems_pays he hleaf k)).weaken (by omega)
      (Nat.le_refl _)

theorem offsetItems_pays {e : Ty} {r F : Nat} (he : Costs h e r F) (hnl : isLeafTy e = false)
    (scope : Nat) : ∀ (offs : List Nat) (dr : DR),
    Pays (decodeOffsetItemsC (fun d => decodeM h e d) scope offs dr)
      (288 * offs.length + r * dr.avail.length) (fun p => r * p.2.avail.length)
      (fun p => p.1.length ≤ offs.length ∧ p.2.scope = dr.scope) (r * dr.scope + F)
  | [], dr => by
    rw [decodeOffsetItemsC]
    exact Pays.pure ⟨Nat.le_refl _, rfl⟩ (Nat.le_add_left _ _)
  | [last], dr => by
    rw [decodeOffsetItemsC]
    refine Pays.guard fun _ => Pays.bind (he.inSub (by rw [hnl]; exact nofun) dr) ?_
    rintro ⟨x, d1⟩ hs
    exact Pays.pure ⟨Nat.le_refl _, hs⟩ (Nat.le_refl _)
  | o :: o' :: rest, dr => by
    rw [decodeOffsetItemsC]
    exact (item_cons_pays (he.inSub (by rw [hnl]; exact nofun) dr)
      (offsetItems_pays he hnl scope (o' :: rest))).weaken
      (by simp only [List.length_cons]; omega) (Nat.le_refl _)

theorem readOffsets_ok_len : ∀ (n prev : Nat) (dr : DR) (os : List Nat) (dr' : DR),
    readOffsets n prev dr = .ok (os, dr') →
    os.length = n ∧ dr'.scope + 4 * n = dr.scope ∧ dr'.avail.length + 4 * n = dr.avail.length := by
  intro n
  induction n with
  | zero => intro prev dr os dr' h; rw [readOffsets] at h; cases h; simp
  | succ n ih =>
    intro prev dr os dr' h
    rw [readOffsets] at h
    obtain ⟨⟨o, d1⟩, h1, h⟩ := bind_eq_ok h
    dsimp only at h
    obtain ⟨_, h⟩ := ite_err_eq_ok h
    obtain ⟨⟨os', d2⟩, h2, h⟩ := bind_eq_ok h
    cases h
    obtain ⟨a1, a2⟩ := readOffset_ok_len h1
    obtain ⟨b1, b2, b3⟩ := ih _ _ _ _ h2
    simp only [List.length_cons]
    omega

/-- the loop of a series of `L` offset-delimited elements, seen from the reader `dr` before
    its offset table was read -/
theorem offsetSeries_pays {e : Ty} {r F first L : Nat} {os : List Nat} {dr dr1 dr2 : DR}
    (he : Costs h e r F) (hnl : isLeafTy e = false) (h1 : dr.readOffset = .ok (first, dr1))
    (h2 : readOffsets (L - 1) first dr1 = .ok (os, dr2)) (hL : 1 ≤ L) :
    4 * L ≤ dr.scope ∧ Pays (decodeOffsetItemsC (fun d => decodeM h e d) dr.scope (first :: os) dr2)
      (288 * L + r * dr.avail.length) (fun p => r * p.2.avail.length) (fun p => p.1.length ≤ L)
      (r * dr.scope + F) := by
  obtain ⟨s1, v1⟩ := readOffset_ok_len h1
  obtain ⟨ol, s2, v2⟩ := readOffsets_ok_len _ _ _ _ _ h2
  obtain rfl : os.length + 1 = L := by omega
  have hv : r * dr2.avail.length ≤ r * dr.avail.length := Nat.mul_le_mul_left r (by omega)
  exact ⟨by omega, ((offsetItems_pays he hnl dr.scope (first :: os) dr2).weaken
    (Nat.add_le_add_left hv _) (slack_le F (by omega))).post fun _ hp => ⟨hp.1, Nat.le_refl _⟩⟩

/-! ### the two container loops -/

theorem fixedPart_pays {r F : Nat} : ∀ (ts : List Ty), (∀ t ∈ ts, Costs h t r F) →
    ∀ (prev : Nat) (first : Bool) (scope : Nat) (dr : DR),
    Pays (decodeFixedPartM h ts prev first scope dr) (288 * ts.length + r * dr.avail.length)
      (fun p => r * p.2.2.avail.length) (fun p => p.1.length ≤ ts.length ∧ p.2.2.scope ≤ dr.scope)
      (r * dr.scope + F)
  | [], _, prev, first, scope, dr => by
    rw [decodeFixedPartM]
    exact Pays.pure ⟨Nat.le_refl _, Nat.le_refl _⟩ (Nat.le_add_left _ _)
  | t :: ts, he, prev, first, scope, dr => by
    have ih := fixedPart_pays ts (fun t' ht' => he t' (List.mem_cons_of_mem _ ht'))
    rw [decodeFixedPartM]
    refine Pays.ite (fun _ => ?_) (fun _ => ?_)
    · refine (Pays.bind (((he t List.mem_cons_self).inSub (fun _ => rfl) dr).frame
        (288 * ts.length)) ?_).weaken (by simp only [List.length_cons]; omega) (Nat.le_refl _)
      rintro ⟨x, d1⟩ hs
      refine Pays.bind ((ih prev first scope d1).weaken (Nat.le_of_eq (Nat.add_comm _ _))
        (slack_le F (Nat.le_of_eq hs))) ?_
      rintro ⟨sl, os, d2⟩ ⟨b1, b2⟩
      exact Pays.pure ⟨Nat.succ_le_succ b1, hs ▸ b2⟩ (Nat.le_refl _)
    · -- an offset read is an element of 4 bytes that costs nothing
      refine (Pays.bind ((readOffset_pays r _ dr).frame (288 * ts.length)) ?_).weaken
        (by simp only [List.length_cons]; omega) (Nat.le_refl _)
      rintro ⟨o, d1⟩ hs
      have hs : d1.scope ≤ dr.scope := Nat.le.intro hs
      refine Pays.guard fun _ => Pays.guard fun _ => Pays.guard fun _ => ?_
      refine Pays.bind ((ih o false scope d1).weaken (by dsimp only; omega) (slack_le F hs)) ?_
      rintro ⟨sl, os, d2⟩ ⟨b1, b2⟩
      exact Pays.pure ⟨Nat.succ_le_succ b1, Nat.le_trans b2 hs⟩ (Nat.le_refl _)

theorem dynPart_pays {r F : Nat} : ∀ (ts : List Ty), (∀ t ∈ ts, Costs h t r F) →
    ∀ (scope : Nat) (offs : List Nat) (dr : DR),
    Pays (decodeDynPartM h ts scope offs dr) (288 * ts.length + r * dr.avail.length)
      (fun p => r * p.2.avail.length) (fun p => p.1.length ≤ ts.length ∧ p.2.scope = dr.scope)
      (r * dr.scope + F)
  | [], _, scope, offs, dr => by
    rw [decodeDynPartM]
    exact Pays.pure ⟨Nat.le_refl _, rfl⟩ (Nat.le_add_left _ _)
  | t :: ts, he, scope, offs, dr => by
    have ih := dynPart_pays ts (fun t' ht' => he t' (List.mem_cons_of_mem _ ht'))
    rw [decodeDynPartM_cons]
    refine Pays.ite (fun _ => ?_) (fun hf => ?_)
    · exact ((ih scope offs dr).weaken (by simp only [List.length_cons]; omega) (Nat.le_refl _)).post
        fun _ hp => ⟨⟨Nat.le_succ_of_le hp.1, hp.2⟩, Nat.le_refl _⟩
    · cases offs with
      | nil => exact Pays.fail
      | cons o rest =>
        exact (item_cons_pays ((he t List.mem_cons_self).inSub
          (fun hl => absurd (isFixed_of_isLeafTy hl) hf) dr) (ih scope rest)).weaken
          (by simp only [List.length_cons]; omega) (Nat.le_refl _)

end

end ZtypV.CostProofs
