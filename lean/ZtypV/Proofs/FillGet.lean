/-
Paths into subtrees: `toPath i d` is the `d`-bit big-endian path `bitsOf i d` of `i`; `getNode`
through pairs and leaves; `SubtreeFillToContents` succeeds whenever the nodes fit.
-/
import ZtypV.Model.View
import ZtypV.Proofs.Fill
namespace ZtypV

/-- the `d` low bits of `i`, most significant first: the path `toPath i d` yields -/
def bitsOf (i d : Nat) : List Bool := (List.range d).reverse.map fun k => i.testBit k

@[simp] theorem bitsOf_zero (i : Nat) : bitsOf i 0 = [] := rfl

theorem bitsOf_succ (i d : Nat) : bitsOf i (d + 1) = i.testBit d :: bitsOf i d := by
  simp [bitsOf, List.range_succ]

@[simp] theorem bitsOf_length (i d : Nat) : (bitsOf i d).length = d := by
  simp [bitsOf]

theorem bitsOf_mod (i d : Nat) : bitsOf (i % 2 ^ d) d = bitsOf i d := by
  unfold bitsOf
  apply List.map_congr_left
  intro k hk
  have hk' : k < d := by simpa using hk
  simp [Nat.testBit_mod_two_pow, hk']

theorem bitsOf_sub_pow (i d : Nat) (h1 : 2 ^ d ≤ i) (h2 : i < 2 ^ (d + 1)) :
    bitsOf (i - 2 ^ d) d = bitsOf i d := by
  rw [← bitsOf_mod i d]
  have : i % 2 ^ d = i - 2 ^ d := by
    rw [Nat.pow_succ] at h2
    rw [Nat.mod_eq_sub_mod h1, Nat.mod_eq_of_lt (by omega)]
  rw [this]

theorem testBit_top_true (i d : Nat) (h1 : 2 ^ d ≤ i) (h2 : i < 2 ^ (d + 1)) :
    i.testBit d = true := by
  rw [Nat.testBit_eq_decide_div_mod_eq]
  have h3 : i / 2 ^ d = 1 := by
    rw [Nat.pow_succ] at h2
    have hp : 0 < 2 ^ d := Nat.two_pow_pos d
    apply Nat.div_eq_of_lt_le <;> omega
  simp [h3]

theorem toPath_ok (i d : Nat) (hd : d < 64) (hi : i < 2 ^ d) : toPath i d = .ok (bitsOf i d) := by
  unfold toPath bitsOf
  rw [if_neg (by omega), if_neg (by omega)]

theorem toPath_length {i d : Nat} {p : List Bool} (hp : toPath i d = .ok p) : p.length = d := by
  unfold toPath at hp
  split at hp; · cases hp
  split at hp; · cases hp
  cases hp; simp

theorem toPath_eq {i d : Nat} {p : List Bool} (hp : toPath i d = .ok p) :
    p = bitsOf i d ∧ d < 64 ∧ i < 2 ^ d := by
  unfold toPath at hp
  split at hp; · cases hp
  split at hp; · cases hp
  cases hp
  exact ⟨rfl, by omega, by omega⟩

theorem getNode_pair_false (l r : Node) (p : List Bool) :
    getNode (.pair l r) (false :: p) = getNode l p := by simp [getNode]

theorem getNode_pair_true (l r : Node) (p : List Bool) :
    getNode (.pair l r) (true :: p) = getNode r p := by simp [getNode]

theorem getNode_leaf_cons (x : Root) (b : Bool) (p : List Bool) :
    getNode (.leaf x) (b :: p) = .error .nav := rfl

/-! ### `fillToContents`, level by level -/

theorem fillToContents_zero_single (h : HashFn) (a : Node) : fillToContents h 0 [a] = .ok a := by
  unfold fillToContents; rfl

theorem fill_ok_length {h : HashFn} {d : Nat} {ns : List Node} {n : Node}
    (hf : fillToContents h d ns = .ok n) : ns.length ≤ 2 ^ d := by
  unfold fillToContents at hf
  split at hf
  · rename_i h0; rw [h0]; exact Nat.zero_le _
  split at hf; · cases hf
  omega

/-- one level of `SubtreeFillToContents` on non-empty contents that fit: both halves are filled
    (an empty half becomes the zero summary) -/
theorem fillToContents_halves (h : HashFn) (d : Nat) {ns : List Node} (hne : ns ≠ [])
    (hle : ns.length ≤ 2 ^ (d + 1)) :
    fillToContents h (d + 1) ns = (do
      let l ← fillToContents h d (ns.take (2 ^ d))
      let r ← fillToContents h d (ns.drop (2 ^ d))
      .ok (.pair l r)) := by
  rw [fillToContents_succ h d ns (List.length_pos_iff.mpr hne) hle]
  split
  · rename_i hp
    rw [List.take_of_length_le hp, List.drop_of_length_le hp, fillToContents_nil]
    cases fillToContents h d ns <;> rfl
  · rfl

theorem fill_ok_of_length (h : HashFn) (d : Nat) : ∀ (ns : List Node), ns.length ≤ 2 ^ d →
    ∃ n, fillToContents h d ns = .ok n := by
  induction d with
  | zero =>
    intro ns hle
    match ns, hle with
    | [], _ => exact ⟨_, fillToContents_nil h 0⟩
    | [a], _ => exact ⟨_, fillToContents_zero_single h a⟩
    | _ :: _ :: _, hle => simp at hle
  | succ d ih =>
    intro ns hle
    cases ns with
    | nil => exact ⟨_, fillToContents_nil h _⟩
    | cons a as =>
      rw [Nat.pow_succ] at hle
      obtain ⟨l, hl⟩ := ih ((a :: as).take (2 ^ d)) (by rw [List.length_take]; omega)
      obtain ⟨r, hr⟩ := ih ((a :: as).drop (2 ^ d)) (by rw [List.length_drop]; omega)
      exact ⟨_, by rw [fillToContents_halves h d (List.cons_ne_nil a as) (by rw [Nat.pow_succ]; omega), hl, hr]; rfl⟩

theorem fillToLength_ok (h : HashFn) (b : Node) (d len : Nat) (hpos : 0 < len)
    (hle : len ≤ 2 ^ d) : ∃ n, fillToLength h b d len = .ok n := by
  rw [fillToLength_eq_fillToContents h b d len hpos]
  exact fill_ok_of_length h d _ (by rw [List.length_replicate]; exact hle)

/-- a list or bitlist view is `pair contents length`: a position below `2^d` is read from the
    contents subtree, one level down -/
theorem subtreeGet_pair_left (c m : Node) (d i : Nat) (hd : d + 1 < 64) (hi : i < 2 ^ d) :
    View.subtreeGet (.pair c m) (d + 1) i = View.subtreeGet c d i := by
  unfold View.subtreeGet
  have hi' : i < 2 ^ (d + 1) := by rw [Nat.pow_succ]; omega
  rw [toPath_ok i (d + 1) hd hi', toPath_ok i d (by omega) hi, bitsOf_succ,
    Nat.testBit_lt_two_pow hi]
  simp [bind, Except.bind, getNode]

end ZtypV
