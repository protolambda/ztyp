/-
C20, the logic of the cost monad `CR` (Model/DecodeCost.lean), shared by the view decoder and the
flat codec.  `CR.res` is a monad morphism from `CR` to `R`; an instrumented decoder is the plain one
with `tick`s inserted, so pushing `.res` inwards (`push_res`) turns the one into the other.  `Spec`
walks through a `do` block counting forwards; `Pays` is its amortised reading, in which loops
compose: potentials are `budget + rate · (bytes still available)`, so that consumed bytes pay for
what was allocated.
-/
import ZtypV.Model.DecodeCost
import ZtypV.Proofs.DecodeBasic
namespace ZtypV.CostProofs
open ZtypV ZtypV.View ZtypV.DecodeProofs

variable {α β : Type}

/-! ### `.res` is a monad morphism -/

theorem res_bind (x : CR α) (f : α → CR β) : (x >>= f).res = x.res >>= fun a => (f a).res := by
  show (CR.bind x f).res = _
  unfold CR.bind
  cases x.res <;> rfl
theorem res_pure (a : α) : (pure a : CR α).res = .ok a := rfl
theorem res_lift (r : R α) : (CR.lift r).res = r := rfl
theorem res_tick (n : Nat) : (CR.tick n).res = .ok () := rfl
theorem res_fail (e : Err) : (CR.fail e : CR α).res = .error e := rfl
theorem res_ite (c : Prop) [Decidable c] (x y : CR α) :
    (if c then x else y).res = if c then x.res else y.res := by
  split <;> rfl
theorem res_orNilC (r : CR Node) : (orNilC r).res = orNil r.res := rfl
theorem res_orOtherC (r : CR Node) : (orOtherC r).res =
    match r.res with
    | .ok n => .ok n
    | .error _ => .error .other := rfl
theorem res_fillC (h : HashFn) (d : Nat) (ns : List Node) :
    (fillC h d ns).res = fillToContents h d ns := rfl
theorem res_bytesIntoNodesC (bs : Bytes) : (bytesIntoNodesC bs).res = .ok (bytesIntoNodes bs) := rfl
theorem res_readOffsetsC (n prev : Nat) (dr : DR) :
    (readOffsetsC n prev dr).res = readOffsets n prev dr := rfl
theorem ebind_ok (a : α) (f : α → R β) : ((Except.ok a : R α) >>= f) = f a := rfl
theorem ebind_err (e : Err) (f : α → R β) : ((Except.error e : R α) >>= f) = .error e := rfl

/-- push `.res` inwards with the morphism equations (and those given); a `let (a, b) ← …` is
    passed on the way, a `match` on anything but a pair stops it -/
macro "push_res" "[" ts:Lean.Parser.Tactic.simpLemma,* "]" : tactic => `(tactic|
  simp only [res_bind, res_pure, res_lift, res_tick, res_fail, res_ite, res_orNilC, res_orOtherC,
    res_fillC, res_bytesIntoNodesC, res_readOffsetsC, ebind_ok, ebind_err, $ts,*])

theorem inSubC_res {f : DR → CR (α × DR)} {g : DR → R (α × DR)} (hfg : ∀ d, (f d).res = g d)
    (dr : DR) (count : Nat) : (dr.inSubC count f).res = dr.inSub count g := by
  unfold DR.inSubC DR.inSub
  push_res [hfg]

/-! ### costs -/

theorem cost_bind (x : CR α) (f : α → CR β) : (x >>= f).cost =
    x.cost + (match x.res with
      | .ok a => (f a).cost
      | .error _ => 0) := by
  show (CR.bind x f).cost = _
  unfold CR.bind
  cases x.res <;> rfl
theorem cost_pure (a : α) : (pure a : CR α).cost = 0 := rfl
theorem cost_lift (r : R α) : (CR.lift r).cost = 0 := rfl
theorem cost_tick (n : Nat) : (CR.tick n).cost = n := rfl
theorem cost_fail (e : Err) : (CR.fail e : CR α).cost = 0 := rfl

/-! ### both outcomes of a run in one statement -/

/-- `x`, started after `n` units were spent: a successful run ends with a value and a total
    in `P`, a failing run with a total of at most `E` -/
def Spec (n : Nat) (x : CR α) (P : α → Nat → Prop) (E : Nat) : Prop :=
  match x.res with
  | .ok a => P a (n + x.cost)
  | .error _ => n + x.cost ≤ E

section
variable {n E : Nat} {P : α → Nat → Prop} {Q : β → Nat → Prop}

theorem Spec.ok {x : CR α} {a : α} (hx : Spec n x P E) (hr : x.res = .ok a) : P a (n + x.cost) := by
  unfold Spec at hx
  rw [hr] at hx
  exact hx

theorem Spec.cost_le {x : CR α} {B : Nat} (hx : Spec 0 x (fun _ c => c ≤ B) B) : x.cost ≤ B := by
  unfold Spec at hx
  split at hx <;> omega

theorem spec_pure {a : α} (h : P a n) : Spec n (pure a) P E := h
theorem spec_fail {e : Err} (h : n ≤ E) : Spec n (CR.fail e) P E := h

theorem spec_ite {c : Prop} [Decidable c] {x y : CR α} (hx : c → Spec n x P E)
    (hy : ¬ c → Spec n y P E) : Spec n (if c then x else y) P E := by
  split
  · exact hx ‹_›
  · exact hy ‹_›

/-- a check of the decoder: taken, the run fails with what it has spent -/
theorem spec_guard {c : Prop} [Decidable c] {e : Err} {y : CR α} (hE : n ≤ E)
    (hy : ¬ c → Spec n y P E) : Spec n (if c then CR.fail e else y) P E :=
  spec_ite (fun _ => hE) hy

theorem spec_lift {r : R α} (hP : ∀ a, r = .ok a → P a n) (hE : n ≤ E) :
    Spec n (CR.lift r) P E := by
  cases r with
  | ok a => exact hP a rfl
  | error e => exact hE

/-- sequencing: the continuation starts with what the first part has spent -/
theorem spec_bind {x : CR α} {f : α → CR β} (hx : Spec n x (fun a c => Spec c (f a) Q E) E) :
    Spec n (x >>= f) Q E := by
  unfold Spec at hx ⊢
  rw [res_bind, cost_bind]
  cases hr : x.res with
  | error e => rw [hr] at hx; exact hx
  | ok a =>
    rw [hr] at hx
    rw [← Nat.add_assoc]
    exact hx

/-- a step that succeeds with a known value and cost (`bytesIntoNodesC`) -/
theorem spec_known {a : α} {k : Nat} {f : α → CR β} (h : Spec (n + k) (f a) Q E) :
    Spec n ((⟨.ok a, k⟩ : CR α) >>= f) Q E := spec_bind h

theorem spec_tick {m : Nat} {g : Unit → CR β} (hg : Spec (n + m) (g ()) Q E) :
    Spec n (CR.tick m >>= g) Q E := spec_bind hg

theorem Spec.mono {P' : α → Nat → Prop} {E' : Nat} {x : CR α} (hx : Spec n x P' E')
    (hP : ∀ a c, P' a c → P a c) (hE : E' ≤ E) : Spec n x P E := by
  unfold Spec at hx ⊢
  split at hx
  · exact hP _ _ hx
  · omega

/-- a statement about `x` alone, read after `n` units were spent -/
theorem Spec.shift {P' : α → Nat → Prop} {E' : Nat} {x : CR α} (hx : Spec 0 x P' E')
    (hP : ∀ a c, P' a c → P a (n + c)) (hE : n + E' ≤ E) : Spec n x P E := by
  unfold Spec at hx ⊢
  split at hx
  · rw [Nat.zero_add] at hx; exact hP _ _ hx
  · omega

theorem Spec.frame {x : CR α} {f : α → CR β} {E' : Nat} (hx : Spec 0 x P E')
    (hf : ∀ a c, P a c → Spec (n + c) (f a) Q E) (hE : n + E' ≤ E) : Spec n (x >>= f) Q E :=
  spec_bind (hx.shift hf hE)

/-- a step of which only a cost bound is known, whatever its outcome -/
theorem spec_le {x : CR α} {f : α → CR β} {B : Nat} (hx : x.cost ≤ B)
    (hf : ∀ a c, c ≤ n + B → Spec c (f a) Q E) (hE : n + B ≤ E) : Spec n (x >>= f) Q E := by
  refine spec_bind ?_
  unfold Spec
  split
  · exact hf _ _ (by omega)
  · omega

/-- a run that ends below `B` whatever its outcome, followed by steps that request nothing -/
theorem Spec.then_free {x : CR α} {f : α → CR β} {B : Nat} (hx : Spec 0 x (fun _ c => c ≤ B) B)
    (hf : ∀ a, (f a).cost = 0) : Spec 0 (x >>= f) (fun _ c => c ≤ B) B :=
  hx.frame (fun a c hc => by unfold Spec; rw [hf a]; split <;> omega) (by omega)

end

/-! ### paying out of a potential -/

/-- the run `x` pays its cost out of the potential `P`: an accepted run with result `a`
    establishes `S a` and leaves `Q a`; a rejected run has spent at most `P + E` -/
def Pays (x : CR α) (P : Nat) (Q : α → Nat) (S : α → Prop) (E : Nat) : Prop :=
  Spec 0 x (fun a c => S a ∧ c + Q a ≤ P) (P + E)

section
variable {x : CR α} {P P' E E' C : Nat} {Q Q' : α → Nat} {S S' : α → Prop}

theorem Pays.ok {a : α} (h : Pays x P Q S E) (hr : x.res = .ok a) : S a ∧ x.cost + Q a ≤ P := by
  have := Spec.ok h hr
  rwa [Nat.zero_add] at this

theorem Pays.cost_le (h : Pays x P Q S E) : x.cost ≤ P + E := by
  unfold Pays Spec at h
  split at h <;> omega

theorem Pays.weaken (h : Pays x P Q S E) (hP : P ≤ P') (hE : E ≤ E') : Pays x P' Q S E' :=
  Spec.mono h (fun _ _ hc => ⟨hc.1, Nat.le_trans hc.2 hP⟩) (Nat.add_le_add hP hE)

theorem Pays.post (h : Pays x P Q S E) (hS : ∀ a, S a → S' a ∧ Q' a ≤ Q a) : Pays x P Q' S' E :=
  Spec.mono h (fun a _ hc => ⟨(hS a hc.1).1, by have := (hS a hc.1).2; omega⟩) (Nat.le_refl _)

/-- a part `C` of the budget that a step does not need is still there afterwards -/
theorem Pays.frame (h : Pays x P Q S E) (C : Nat) : Pays x (P + C) (fun a => Q a + C) S E :=
  Spec.mono h (fun a c hc => ⟨hc.1, by have := hc.2; show c + (Q a + C) ≤ P + C; omega⟩) (by omega)

theorem Pays.pure {a : α} (hS : S a) (hQ : Q a ≤ P) : Pays (pure a : CR α) P Q S E :=
  spec_pure ⟨hS, by omega⟩

theorem Pays.fail {e : Err} : Pays (CR.fail e : CR α) P Q S E :=
  spec_fail (Nat.zero_le _)

/-- a step that allocates nothing -/
theorem Pays.lift {r : R α} (h : ∀ a, r = .ok a → S a ∧ Q a ≤ P) : Pays (CR.lift r) P Q S E :=
  spec_lift (fun a ha => ⟨(h a ha).1, by have := (h a ha).2; omega⟩) (Nat.zero_le _)

/-- sequencing: the continuation starts on what the first step left -/
theorem Pays.bind {f : α → CR β} {Q' : β → Nat} {S' : β → Prop} (hx : Pays x P Q S E)
    (hf : ∀ a, S a → Pays (f a) (Q a) Q' S' E) : Pays (x >>= f) P Q' S' E :=
  Spec.frame hx (fun a _ hc => Spec.shift (hf a hc.1)
    (fun _ _ hb => ⟨hb.1, by have := hc.2; have := hb.2; omega⟩) (by have := hc.2; omega))
    (Nat.le_of_eq (Nat.zero_add _))

theorem Pays.tick {n : Nat} {g : Unit → CR α} (h : Pays (g ()) P Q S E) :
    Pays (CR.tick n >>= g) (n + P) Q S E :=
  spec_tick (Spec.shift h (fun _ _ hc => ⟨hc.1, by have := hc.2; omega⟩) (by omega))

theorem Pays.ite {c : Prop} [Decidable c] {y : CR α} (hx : c → Pays x P Q S E)
    (hy : ¬ c → Pays y P Q S E) : Pays (if c then x else y) P Q S E :=
  spec_ite hx hy

/-- a check that rejects -/
theorem Pays.guard {c : Prop} [Decidable c] {e : Err} (h : ¬ c → Pays x P Q S E) :
    Pays (if c then CR.fail e else x) P Q S E :=
  spec_guard (Nat.zero_le _) h

/-- a run that pays out of a potential, in the middle of a walk that counts forwards -/
theorem Pays.spec {n F : Nat} {f : α → CR β} {R : β → Nat → Prop} (hx : Pays x P Q S E)
    (hf : ∀ a c, S a → c + Q a ≤ P → Spec (n + c) (f a) R F) (hE : n + (P + E) ≤ F) :
    Spec n (x >>= f) R F :=
  Spec.frame hx (fun a c hc => hf a c hc.1 hc.2) hE
end

/- From here on `Spec` and `Pays` are used through their rules only (`unfold` opens them):
   otherwise every failed unification of two such statements is retried on their bodies. -/
attribute [irreducible] Spec Pays

theorem slack_le {r a b : Nat} (F : Nat) (h : a ≤ b) : r * a + F ≤ r * b + F :=
  Nat.add_le_add_right (Nat.mul_le_mul_left r h) F

/-- `r` per byte of the first `a` of `b` bytes and of the rest -/
theorem mul_split (r a b : Nat) (hab : a ≤ b) : r * a + r * (b - a) = r * b := by
  rw [← Nat.mul_add]; congr 1; omega

/-! ### the reader: `n` bytes read release `n` times the rate -/

theorem read_ok_len {dr dr' : DR} {n : Nat} {bs : Bytes} (h : dr.read n = .ok (bs, dr')) :
    dr'.scope + n = dr.scope ∧ dr'.avail.length + n = dr.avail.length ∧ bs.length = n := by
  unfold DR.read at h
  split at h
  · rename_i h0; subst h0; cases h; simp
  split at h; · cases h
  split at h; · cases h
  rename_i h1 h2 h3
  cases h
  simp only [DR.scope, List.length_drop, List.length_take]
  omega

theorem readOffset_ok_len {dr dr' : DR} {o : Nat} (h : dr.readOffset = .ok (o, dr')) :
    dr'.scope + 4 = dr.scope ∧ dr'.avail.length + 4 = dr.avail.length := by
  unfold DR.readOffset at h
  obtain ⟨⟨bs, d1⟩, h1, h⟩ := bind_eq_ok h
  cases h
  exact ⟨(read_ok_len h1).1, (read_ok_len h1).2.1⟩

theorem read_release {ρ n a A : Nat} (h : a + n = A) : ρ * n + ρ * a ≤ ρ * A := by
  rw [← Nat.mul_add, Nat.add_comm, h]; exact Nat.le_refl _

theorem read_pays (ρ E n : Nat) (dr : DR) :
    Pays (CR.lift (dr.read n)) (ρ * dr.avail.length) (fun p => ρ * n + ρ * p.2.avail.length)
      (fun p => p.2.scope + n = dr.scope) E :=
  Pays.lift fun _ hp => ⟨(read_ok_len hp).1, read_release (read_ok_len hp).2.1⟩

theorem readOffset_pays (ρ E : Nat) (dr : DR) :
    Pays (CR.lift dr.readOffset) (ρ * dr.avail.length) (fun p => ρ * 4 + ρ * p.2.avail.length)
      (fun p => p.2.scope + 4 = dr.scope) E :=
  Pays.lift fun _ hp => ⟨(readOffset_ok_len hp).1, read_release (readOffset_ok_len hp).2⟩

/-- what the checks of a list decoder on its first offset give: the item count `L` is positive
    and its offset table fits the scope -/
theorem first_offset {first scope L : Nat} (c1 : ¬ first % 4 ≠ 0) (c2 : ¬ (first = 0 ∨ first > scope))
    (hL : first / 4 = L) : 4 * L ≤ scope ∧ 1 ≤ L := by omega

/-! ### sub-scopes -/

/-- the child reader of `SubScope(count)` -/
def subDR (dr : DR) (count : Nat) : DR := { i := 0, max := count, avail := dr.avail.take count }

theorem subDR_scope (dr : DR) (count : Nat) : (subDR dr count).scope = count := rfl

theorem sub_ok {dr c0 : DR} {count : Nat} (h : dr.sub count = .ok c0) :
    count ≤ dr.scope ∧ c0 = subDR dr count := by
  unfold DR.sub at h
  split at h
  · cases h
  · cases h; exact ⟨by omega, rfl⟩

/-- One item in its own sub-scope of `count` bytes.  The decoder `f` on the child reader: an
    accepted run consumes exactly the `count` bytes and costs at most `c + r · count`, any run at
    most `r` per available byte and per byte of scope plus `F`.  Accounted at a rate `ρ ≥ r`:
    the `SubScope` (96) and the item come out of `k` and of `ρ` per byte of the item. -/
theorem inSub_pays {f : DR → CR (α × DR)} {dr : DR} {count c r ρ k F : Nat}
    (hf : Spec 0 (f (subDR dr count))
      (fun p c' => count ≤ (subDR dr count).avail.length ∧
        p.2.avail = (subDR dr count).avail.drop count ∧ c' ≤ c + r * count)
      (r * (subDR dr count).avail.length + r * count + F))
    (hρ : r ≤ ρ) (hk : 96 + c + r * count ≤ k + ρ * count) :
    Pays (dr.inSubC count f) (k + ρ * dr.avail.length) (fun p => ρ * p.2.avail.length)
      (fun p => p.2.scope = dr.scope) (ρ * dr.scope + F) := by
  have hlen : (subDR dr count).avail.length ≤ dr.avail.length ∧ (subDR dr count).avail.length ≤ count := by
    simp only [subDR, List.length_take]; omega
  unfold DR.inSubC Pays
  refine spec_bind (spec_lift (fun c0 h0 => ?_) (Nat.zero_le _))
  obtain ⟨hcs, rfl⟩ := sub_ok h0
  have e1 : r * (subDR dr count).avail.length ≤ ρ * dr.avail.length := Nat.mul_le_mul hρ hlen.1
  have e2 : ρ * count ≤ ρ * dr.scope := Nat.mul_le_mul_left ρ hcs
  refine spec_tick (hf.frame ?_ (by omega))
  rintro ⟨a, c1⟩ c' ⟨h1, h2, h3⟩
  refine spec_pure ⟨rfl, ?_⟩
  -- the child was given `count` bytes and consumed them: the parent moves by `count`
  have hv : (dr.after (subDR dr count) c1).avail.length + count = dr.avail.length := by
    have := congrArg List.length h2
    simp only [DR.after, List.length_drop] at this ⊢
    omega
  have := Nat.mul_add ρ (dr.after (subDR dr count) c1).avail.length count
  rw [hv] at this
  dsimp only at h3 ⊢
  omega

/-- the step of every item loop: one item in its sub-scope, then the rest of the loop on the
    same scope -/
theorem item_cons_pays {f : DR → CR (α × DR)} {rest : DR → CR (List α × DR)} {dr : DR}
    {count ρ k F B n : Nat}
    (hf : Pays (dr.inSubC count f) (k + ρ * dr.avail.length) (fun p => ρ * p.2.avail.length)
      (fun p => p.2.scope = dr.scope) (ρ * dr.scope + F))
    (hrest : ∀ d1 : DR, Pays (rest d1) (B + ρ * d1.avail.length) (fun p => ρ * p.2.avail.length)
      (fun p => p.1.length ≤ n ∧ p.2.scope = d1.scope) (ρ * d1.scope + F)) :
    Pays (do
        let (x, d1) ← dr.inSubC count f
        let (xs, d2) ← rest d1
        pure (x :: xs, d2))
      (k + ρ * dr.avail.length + B) (fun p => ρ * p.2.avail.length)
      (fun p => p.1.length ≤ n + 1 ∧ p.2.scope = dr.scope) (ρ * dr.scope + F) := by
  refine Pays.bind (hf.frame B) ?_
  rintro ⟨x, d1⟩ a2
  refine Pays.bind ((a2 ▸ hrest d1).weaken (Nat.le_of_eq (Nat.add_comm _ _)) (Nat.le_refl _)) ?_
  rintro ⟨xs, d2⟩ ⟨b1, b2⟩
  exact Pays.pure ⟨Nat.succ_le_succ b1, b2⟩ (Nat.le_refl _)

end ZtypV.CostProofs
