/-
C09, completeness of the flat decoder, the type recursion: every case of `flatDecode` instantiates
the `Dec` lemma of its codec helper with the recursion hypothesis for the element types
(`flatDecode_DComplete`); `flatDecode_complete` is that at the top level.
-/
import ZtypV.Proofs.FlatDecLeaf
import ZtypV.Proofs.FlatEnc
namespace ZtypV.FlatProofs
open ZtypV ZtypV.View ZtypV.Flat

/-- the decoder `f` of type `t` is complete: it decodes the encoding of every well-typed value
    (below 2^32 bytes) from any reader positioned on it -/
def DComplete (t : Ty) (f : DR → R (Val × DR)) : Prop :=
  ∀ (v : Val), hasType t v = true → (serialize t v).length < 2 ^ 32 →
    Dec.Dec f t.isFixed (serialize t v) v

namespace Dec

def serParts (e : Ty) (vs : List Val) : List (Bool × Bytes) :=
  vs.map fun v => (e.isFixed, serialize e v)

theorem encs_serParts (e : Ty) (vs : List Val) : encs (serParts e vs) = serList e vs := by
  induction vs with
  | nil => rfl
  | cons v vs ih => rw [serList, ← ih]; rfl

theorem serParts_fst (e : Ty) (vs : List Val) : ∀ p ∈ serParts e vs, p.1 = e.isFixed := by
  intro p hp
  obtain ⟨v, _, rfl⟩ := List.mem_map.mp hp
  rfl

theorem serParts_snd_length (e : Ty) (hf : e.isFixed = true) (vs : List Val)
    (hv : allHaveType e vs = true) : ∀ p ∈ serParts e vs, p.2.length = e.fixedSize := by
  intro p hp
  obtain ⟨v, hvm, rfl⟩ := List.mem_map.mp hp
  exact serialize_fixed_length v e hf (allHaveType_mem e vs hv v hvm)

theorem DecAll.cons_ty {t : Ty} {v : Val} {d : Des} {ds ps vs} (hw : t.wf = true)
    (hv : hasType t v = true) (hd : DComplete t d.run) (hfl : d.fixedLength = flatFixedLength t)
    (hlt : (serialize t v).length < 2 ^ 32) (h : DecAll ds ps vs) :
    DecAll (d :: ds) ((t.isFixed, serialize t v) :: ps) (v :: vs) :=
  .cons (hd v hv hlt) (hfl.trans (flatFixedLength_part hw hv).1) (flatFixedLength_part hw hv).2 h

theorem decAll_series (e : Ty) (hw : e.wf = true) : ∀ (ds : List Des) (vs : List Val),
    ds.length = vs.length →
    (∀ d ∈ ds, d.fixedLength = flatFixedLength e ∧ DComplete e d.run) → allHaveType e vs = true →
    (∀ v ∈ vs, (serialize e v).length < 2 ^ 32) → DecAll ds (serParts e vs) vs := by
  intro ds
  induction ds with
  | nil =>
    intro vs hl _ _ _
    cases vs with
    | nil => exact .nil
    | cons v vs => cases hl
  | cons d ds ih =>
    intro vs hl hd hv hlt
    cases vs with
    | nil => cases hl
    | cons v vs =>
      rw [allHaveType, Bool.and_eq_true] at hv
      obtain ⟨⟨hfl, hdc⟩, hd⟩ := List.forall_mem_cons.mp hd
      obtain ⟨hlt1, hlt⟩ := List.forall_mem_cons.mp hlt
      exact .cons_ty hw hv.1 hdc hfl hlt1 (ih vs (Nat.succ.inj hl) hd hv.2 hlt)

theorem decAll_fields : ∀ (fs : List Ty) (vs : List Val) (p : Val) (k : Nat), Ty.wfAll fs = true →
    (∀ t ∈ fs, ∀ prior, DComplete t (flatDecode t prior)) → fieldsHaveType fs vs = true →
    (∀ x ∈ serFields fs vs, x.2.length < 2 ^ 32) →
    DecAll (flatFieldDes fs p k) (serFields fs vs) vs := by
  intro fs
  induction fs with
  | nil =>
    intro vs p k _ _ hv _
    cases vs with
    | nil => rw [flatFieldDes]; exact .nil
    | cons v vs => simp [fieldsHaveType] at hv
  | cons t ts ih =>
    intro vs p k hw hd hv hlt
    cases vs with
    | nil => simp [fieldsHaveType] at hv
    | cons v vs =>
      rw [fieldsHaveType, Bool.and_eq_true] at hv
      rw [Ty.wfAll, Bool.and_eq_true] at hw
      rw [serFields] at hlt ⊢
      obtain ⟨hd1, hd⟩ := List.forall_mem_cons.mp hd
      obtain ⟨hlt1, hlt⟩ := List.forall_mem_cons.mp hlt
      rw [flatFieldDes]
      exact .cons_ty hw.1 hv.1 (hd1 _) rfl hlt1 (ih vs p (k + 1) hw.2 hd hv.2 hlt)

theorem serContainerParts_allFixed {ps : List (Bool × Bytes)} (h : ∀ p ∈ ps, p.1 = true) :
    serContainerParts ps = (encs ps).flatten := by
  have aux : ∀ (ps : List (Bool × Bytes)), (∀ p ∈ ps, p.1 = true) → ∀ off,
      serFixedPart off ps = (encs ps).flatten ∧ serVarPart ps = [] := by
    intro ps
    induction ps with
    | nil => intro _ _; exact ⟨rfl, rfl⟩
    | cons q qs ih =>
      intro h off
      obtain ⟨fx, e⟩ := q
      obtain ⟨rfl, h'⟩ := List.forall_mem_cons.mp h
      obtain ⟨h1, h2⟩ := ih h' off
      simp only [serFixedPart, serVarPart, encs_cons, List.flatten_cons, h1, h2, and_self]
  rw [serContainerParts, (aux ps h (fixedPartLen ps)).1, (aux ps h 0).2, List.append_nil]

theorem uint_case (b : Nat) (p : Val) : DComplete (.uint b) (flatDecode (.uint b) p) := by
  intro v hv hlt
  cases v <;> simp [hasType] at hv
  have hf : flatDecode (.uint b) p = decUint b := by funext dr; rw [flatDecode]
  rw [hf]
  exact decUint_dec b _ hv

theorem bool_case (p : Val) : DComplete .bool (flatDecode .bool p) := by
  intro v hv hlt
  cases v <;> simp [hasType] at hv
  have hf : flatDecode .bool p = decBool := by funext dr; rw [flatDecode]
  rw [hf]
  exact decBool_dec _

theorem bytesN_case (n : Nat) (p : Val) : DComplete (.bytesN n) (flatDecode (.bytesN n) p) := by
  intro v hv hlt
  cases v <;> simp [hasType] at hv
  rename_i bs
  subst hv
  intro dr rest hav hle hsc
  by_cases h32 : bs.length = 32
  · rw [flatDecode, if_pos h32]
    exact decRoot_dec bs h32 dr rest hav hle hsc
  · obtain ⟨s, hb, hd⟩ := decByteVector_dec (priorSlice (.bytesN bs.length) p) bs
    have := hd.map fun s => Val.bytes s.bytes
    rw [hb] at this
    rw [flatDecode, if_neg h32]
    exact this dr rest hav hle hsc

theorem bitvector_case (n : Nat) (p : Val) :
    DComplete (.bitvector n) (flatDecode (.bitvector n) p) := by
  intro v hv hlt
  cases v <;> simp [hasType] at hv
  rename_i bits
  subst hv
  obtain ⟨s, hb, hd⟩ := decBitVector_dec (priorSlice (.bitvector bits.length) p) bits
  have := hd.map fun s => Val.bits (unpackBits s.bytes bits.length)
  rw [hb, unpackBits_packBits bits bits.length (Nat.le_refl _), List.take_length] at this
  intro dr rest hav hle hsc
  rw [flatDecode]
  exact this dr rest hav hle hsc

theorem bitlist_case (lim : Nat) (p : Val) :
    DComplete (.bitlist lim) (flatDecode (.bitlist lim) p) := by
  intro v hv hlt
  cases v <;> simp [hasType] at hv
  rename_i bits
  obtain ⟨s, hb, hd⟩ := decBitList_dec (priorSlice (.bitlist lim) p) bits hv
  have := hd.map fun s => Val.bits (unpackBitlist s.bytes)
  rw [hb, unpackBitlist_packBits] at this
  intro dr rest hav hle hsc
  rw [flatDecode]
  exact this dr rest hav hle hsc

theorem vector_case (e : Ty) (n : Nat) (hw : (Ty.vector e n).wf = true)
    (ih : ∀ prior, DComplete e (flatDecode e prior)) (p : Val) :
    DComplete (.vector e n) (flatDecode (.vector e n) p) := by
  intro v hv hlt
  simp only [Ty.wf, Bool.and_eq_true, decide_eq_true_eq] at hw
  cases v <;> simp [hasType] at hv
  rename_i vs
  obtain ⟨rfl, hall⟩ := hv
  simp only [serialize, Ty.isFixed] at hlt ⊢
  by_cases hu : isU8 e = true
  · obtain rfl := isU8_iff.mp hu
    obtain ⟨h1, h2⟩ := enc_u8_series vs hall
    obtain ⟨s, hb, hd⟩ := decByteVector_dec (priorSlice (.vector (.uint 1) vs.length) p) (vs.map byteOfVal)
    have := hd.map fun s => Val.seq (s.bytes.map numOfByte)
    rw [hb, h2, List.length_map] at this
    simp only [Ty.isFixed, if_true, h1]
    intro dr rest hav hle hsc
    rw [flatDecode, if_pos hu]
    exact this dr rest hav hle hsc
  by_cases hr : isRootTy e = true
  · obtain rfl := isRootTy_iff.mp hr
    obtain ⟨rs, rfl, h2, h3, _⟩ := enc_root_series vs hall
    obtain ⟨s, hb, hd⟩ := readRoots_dec (priorRoots p) rs h2
    have := hd.map fun s => Val.seq (s.roots.map Val.bytes)
    rw [hb] at this
    simp only [Ty.isFixed, if_true, h3]
    intro dr rest hav hle hsc
    rw [flatDecode, if_neg hu, if_pos hr, List.length_map]
    exact this dr rest hav hle hsc
  have hda : DecAll ((List.range vs.length).map fun i =>
      (⟨flatFixedLength e, fun d => flatDecode e (priorElem p i) d⟩ : Des)) (serParts e vs) vs :=
    decAll_series e hw.2 _ vs (by simp)
      (fun d hd => by obtain ⟨i, _, rfl⟩ := List.mem_map.mp hd; exact ⟨rfl, ih _⟩) hall
      (enc_series_lt hlt)
  rw [← encs_serParts] at hlt ⊢
  cases hf : e.isFixed with
  | true =>
    rw [if_pos rfl]
    rw [flatFixedLength_fixed hw.2 hf] at hda
    intro dr rest hav hle hsc
    rw [flatDecode, if_neg hu, if_neg hr, flatFixedLength_fixed hw.2 hf]
    exact ((decVector_fixed_ok (Nat.pos_iff_ne_zero.mp (fixedSize_pos _ hw.2 hf)) hda
      (serParts_snd_length e hf vs hall)).map Val.seq) dr rest hav hle hsc
  | false =>
    rw [hf, if_neg Bool.false_ne_true] at hlt
    rw [if_neg Bool.false_ne_true]
    rw [flatFixedLength_var hw.2 hf] at hda
    have hne : serParts e vs ≠ [] := by
      cases vs with
      | nil => exact absurd hw.1 (Nat.lt_irrefl 0)
      | cons _ _ => exact List.cons_ne_nil _ _
    intro dr rest hav hle hsc
    rw [flatDecode, if_neg hu, if_neg hr, flatFixedLength_var hw.2 hf]
    exact ((decVector_var_ok hda (fun q hq => by rw [serParts_fst e vs q hq, hf]) hne hlt).map Val.seq)
      dr rest hav hle hsc

theorem list_case (e : Ty) (lim : Nat) (hw : (Ty.list e lim).wf = true)
    (ih : ∀ prior, DComplete e (flatDecode e prior)) (p : Val) :
    DComplete (.list e lim) (flatDecode (.list e lim) p) := by
  intro v hv hlt
  rw [Ty.wf] at hw
  cases v <;> simp [hasType] at hv
  rename_i vs
  obtain ⟨hn, hall⟩ := hv
  simp only [serialize, Ty.isFixed] at hlt ⊢
  by_cases hu : isU8 e = true
  · obtain rfl := isU8_iff.mp hu
    obtain ⟨h1, h2⟩ := enc_u8_series vs hall
    obtain ⟨s, hb, hd⟩ := decByteList_dec (priorSlice (.list (.uint 1) lim) p) (lim := lim)
      (bs := vs.map byteOfVal) (by rw [List.length_map]; exact hn)
    have := hd.map fun s => Val.seq (s.bytes.map numOfByte)
    rw [hb, h2] at this
    simp only [Ty.isFixed, if_true, h1]
    intro dr rest hav hle hsc
    rw [flatDecode, if_pos hu]
    exact this dr rest hav hle hsc
  by_cases hr : isRootTy e = true
  · obtain rfl := isRootTy_iff.mp hr
    obtain ⟨rs, rfl, h2, h3, _⟩ := enc_root_series vs hall
    obtain ⟨s, hb, hd⟩ := readRootsLimited_dec (priorRoots p) (lim := lim) rs h2
      (by rw [List.length_map] at hn; exact hn)
    have := hd.map fun s => Val.seq (s.roots.map Val.bytes)
    rw [hb] at this
    simp only [Ty.isFixed, if_true, h3]
    intro dr rest hav hle hsc
    rw [flatDecode, if_neg hu, if_pos hr]
    exact this dr rest hav hle hsc
  have hpl : (serParts e vs).length = vs.length := List.length_map _
  have hda : DecAll (List.replicate (serParts e vs).length
      (⟨flatFixedLength e, fun d => flatDecode e Val.none d⟩ : Des)) (serParts e vs) vs :=
    decAll_series e hw _ vs (by rw [List.length_replicate, hpl])
      (fun d hd => by obtain ⟨_, rfl⟩ := List.mem_replicate.mp hd; exact ⟨rfl, ih _⟩) hall
      (enc_series_lt hlt)
  rw [← encs_serParts] at hlt ⊢
  cases hf : e.isFixed with
  | true =>
    rw [if_pos rfl]
    rw [flatFixedLength_fixed hw hf] at hda
    intro dr rest hav hle hsc
    rw [flatDecode, if_neg hu, if_neg hr, flatFixedLength_fixed hw hf]
    exact ((decList_fixed_ok _ lim (Nat.pos_iff_ne_zero.mp (fixedSize_pos _ hw hf)) hda
      (serParts_snd_length e hf vs hall) (Nat.le_trans (Nat.le_of_eq hpl) hn)).map Val.seq) dr rest hav hle hsc
  | false =>
    rw [hf, if_neg Bool.false_ne_true] at hlt
    rw [if_neg Bool.false_ne_true]
    rw [flatFixedLength_var hw hf] at hda
    intro dr rest hav hle hsc
    rw [flatDecode, if_neg hu, if_neg hr, flatFixedLength_var hw hf]
    exact ((decList_var_ok _ lim hda (fun q hq => by rw [serParts_fst e vs q hq, hf]) (Nat.le_trans (Nat.le_of_eq hpl) hn)
      hlt).map Val.seq) dr rest hav hle hsc

theorem container_case (fs : List Ty) (hw : (Ty.container fs).wf = true)
    (ih : ∀ t ∈ fs, ∀ prior, DComplete t (flatDecode t prior)) (p : Val) :
    DComplete (.container fs) (flatDecode (.container fs) p) := by
  intro v hv hlt
  simp only [Ty.wf, Bool.and_eq_true] at hw
  cases v <;> simp [hasType] at hv
  rename_i vs
  simp only [serialize, Ty.isFixed] at hlt ⊢
  have hda := decAll_fields fs vs p 0 hw.2 ih hv (enc_fields_lt hlt)
  cases hf : Ty.allFixed fs with
  | true =>
    have hfx := enc_serFields_flags fs vs hf
    rw [serContainerParts_allFixed hfx]
    intro dr rest hav hle hsc
    rw [flatDecode, if_pos hf]
    exact ((decFixedLenContainer_ok hda hfx).map Val.seq) dr rest hav hle hsc
  | false =>
    intro dr rest hav hle hsc
    rw [flatDecode, if_neg (by rw [hf]; exact Bool.false_ne_true)]
    exact ((decContainer_ok hda hlt).map Val.seq) dr rest hav hle hsc

theorem union_case (hasNone : Bool) (opts : List Ty) (hw : (Ty.union hasNone opts).wf = true)
    (ih : ∀ t ∈ opts, ∀ prior, DComplete t (flatDecode t prior)) (p : Val) :
    DComplete (.union hasNone opts) (flatDecode (.union hasNone opts) p) := by
  intro v hv hlt
  simp only [Ty.wf, Bool.and_eq_true, decide_eq_true_eq] at hw
  obtain ⟨⟨_, hwf⟩, h128⟩ := hw
  cases v <;> try cases hv
  rename_i sel w
  simp only [hasType] at hv
  simp only [serialize, Ty.isFixed] at hlt ⊢
  cases ho : unionOpt hasNone opts sel with
  | none =>
    simp only [ho, Bool.and_eq_true, beq_iff_eq] at hv
    obtain ⟨⟨hN, rfl⟩, hwn⟩ := hv
    obtain rfl : w = Val.none := by cases w <;> simp at hwn ⊢
    dsimp only
    intro dr rest hav hle hsc
    rw [flatDecode]
    refine (decUnion_none ?_).bind ?_ dr rest hav hle hsc
    · show unionSelect hasNone opts 0 = _
      rw [unionSelect_eq, ho, if_pos ⟨hN, rfl⟩]
    · exact fun _ => rfl
  | some t =>
    simp only [ho, List.length_cons] at hv hlt
    dsimp only
    have hs1 := (unionOpt_some ho).1
    have htm : t ∈ opts := unionOpt_mem ho
    have h256 : sel < 256 := by
      have : (if hasNone = true then 1 else 0) ≤ 1 := by split <;> omega
      omega
    intro dr rest hav hle hsc
    rw [flatDecode]
    refine (decUnion_some (d := ⟨flatFixedLength t, fun d => flatDecode t Val.none d⟩) h256 ?_
      (ih t htm Val.none w hv (by omega))
      (flatFixedLength_part (wfAll_mem opts hwf t htm) hv).1).bind ?_ dr rest hav hle hsc
    · show unionSelect hasNone opts sel = _
      rw [unionSelect_eq, ho]
    · exact fun _ => rfl

theorem flatDecode_DComplete (t : Ty) : t.wf = true → ∀ prior, DComplete t (flatDecode t prior) := by
  induction t using Ty.induct with
  | uint b => exact fun _ => uint_case b
  | bool => exact fun _ => bool_case
  | bytesN n => exact fun _ => bytesN_case n
  | bitvector n => exact fun _ => bitvector_case n
  | bitlist lim => exact fun _ => bitlist_case lim
  | vector e n ih =>
    intro hw
    exact vector_case e n hw (ih (by simp only [Ty.wf, Bool.and_eq_true] at hw; exact hw.2))
  | list e lim ih => exact fun hw => list_case e lim hw (ih (by simpa [Ty.wf] using hw))
  | container fs ih =>
    intro hw
    exact container_case fs hw fun t ht => ih t ht (by
      simp only [Ty.wf, Bool.and_eq_true] at hw; exact wfAll_mem fs hw.2 t ht)
  | union hasNone opts ih =>
    intro hw
    exact union_case hasNone opts hw fun t ht => ih t ht (by
      simp only [Ty.wf, Bool.and_eq_true] at hw; exact wfAll_mem opts hw.1.2 t ht)

end Dec

/-- C09, decoder completeness.  Decoding the spec encoding of a well-typed value `v` of a
    well-formed type into a destination that held ANY prior content succeeds and the destination
    then holds exactly `v`.  (`2^32`: offsets are 4-byte words.) -/
theorem flatDecode_complete (t : Ty) (v : Val) (hw : t.wf = true) (hv : hasType t v = true)
    (hlen : (serialize t v).length < 2 ^ 32) (prior : Val) :
    ∃ dr', flatDecode t prior (DR.new (serialize t v) (serialize t v).length) = .ok (v, dr') := by
  obtain ⟨dr', h1, _⟩ := Dec.flatDecode_DComplete t hw prior v hv hlen
    (DR.new (serialize t v) (serialize t v).length) []
    (by rw [List.append_nil, DR.new, List.take_length]) (Nat.le_refl _) (fun _ => rfl)
  exact ⟨dr', h1⟩

theorem flatDecodeTop_complete (t : Ty) (v : Val) (hw : t.wf = true) (hv : hasType t v = true)
    (hlen : (serialize t v).length < 2 ^ 32) (prior : Val) :
    flatDecodeTop t prior (serialize t v) = .ok v := by
  obtain ⟨dr', h⟩ := flatDecode_complete t v hw hv hlen prior
  unfold flatDecodeTop
  rw [h]
  rfl

#print axioms ZtypV.FlatProofs.flatDecode_complete
#print axioms ZtypV.FlatProofs.flatDecodeTop_complete

end ZtypV.FlatProofs
