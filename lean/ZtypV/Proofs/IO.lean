/-
Helper lemmas for C13 (model: ZtypV/Model/IO.lean).

Reader side: one legal `Read` call delivers a prefix of what can still arrive, non-empty unless it
comes with an error, and an error only at the end of the stream (`readCall_spec`, `Rd.read_spec`),
leaving the stack advanced by that prefix (`Rd.Adv`); the fill loop therefore returns exactly the
next `need` bytes or an error (`fill_spec`, induction on the fuel = outstanding bytes); a decoder
step on a scheduled reader stack is the step of the flat specification on the abstraction
(`Dec.step_spec`).
Writer side: what a run of the `Write` loop establishes is `LoopPost`; runs compose
(`LoopPost.append`, `LoopPost.append_err`), one call of the underlying writer is a run
(`writeCall_post`), hence `ewLoop_spec`, `ewWrites_spec`.
-/
import ZtypV.Model.IO
namespace ZtypV.CodecIO

/-! ## one call of the scheduled reader and of the limiter stack -/

theorem nextChunk_spec (st : ReaderState) (want : Nat) (hl : st.legal) (hw : 1 ≤ want) :
    1 ≤ (nextChunk st want).1 ∧ (∀ c ∈ (nextChunk st want).2, 1 ≤ c) := by
  unfold nextChunk
  obtain ⟨h1, h2⟩ := hl
  split
  · rename_i c r hc
    rw [hc] at h1
    exact ⟨h1 c (by simp), fun x hx => h1 x (by simp [hx])⟩
  · split
    · rename_i c r hc
      rw [hc] at h2
      exact ⟨h2 c (by simp), fun x hx => h2 x (by simp [hx])⟩
    · exact ⟨hw, by simp⟩

/-- one call on a legal reader delivers a prefix `d` of the bytes still to come: without error
    and with progress, or with an error at the very end of the stream, which is EOF whenever it
    comes together with data -/
theorem readCall_spec (st : ReaderState) (want : Nat) (hl : st.legal) (hw : 1 ≤ want) :
    ∃ d err st', readCall st want = (st.data.take d, err, st') ∧ st'.data = st.data.drop d ∧ st'.legal ∧
      d ≤ want ∧ d ≤ st.data.length ∧
      ((err = none ∧ 1 ≤ d) ∨ ∃ e, err = some e ∧ d = st.data.length ∧ (1 ≤ d → e = .eof)) := by
  rw [readCall, if_neg (by omega)]
  by_cases he : st.data = []
  · rw [if_pos (by simp [he])]
    exact ⟨0, _, st, rfl, rfl, hl, by omega, by omega, .inr ⟨_, rfl, by rw [he]; rfl, by omega⟩⟩
  · have hlen : 1 ≤ st.data.length := List.length_pos_iff.mpr he
    obtain ⟨hc1, hc2⟩ := nextChunk_spec st want hl hw
    rw [if_neg (by simpa using he)]
    have hd : min (nextChunk st want).1 (min want st.data.length) ≤ st.data.length :=
      Nat.le_trans (Nat.min_le_right ..) (Nat.min_le_right ..)
    refine ⟨_, _, _, rfl, rfl, ⟨hc2, hl.2⟩, Nat.le_trans (Nat.min_le_right ..) (Nat.min_le_left ..), hd, ?_⟩
    split
    · next hr => exact .inr ⟨_, rfl, Nat.le_antisymm hd (List.drop_eq_nil_iff.mp hr.1), fun _ => rfl⟩
    · exact .inl ⟨rfl, Nat.le_min.mpr ⟨hc1, Nat.le_min.mpr ⟨hw, hlen⟩⟩⟩

/-- the reader stack `r'` is `r` after `d` more bytes have come through every limiter -/
structure Rd.Adv (r : Rd) (d : Nat) (r' : Rd) : Prop where
  avail : r'.avail = r.avail.drop d
  avails : r'.avails = r.avails.map (List.drop d)
  legal : r'.legal

theorem Rd.Adv.refl {r : Rd} (hl : r.legal) : r.Adv 0 r :=
  ⟨rfl, by rw [show (List.drop 0 : Bytes → Bytes) = id from rfl, List.map_id], hl⟩

theorem Rd.Adv.trans {r r1 r2 : Rd} {d1 d2 : Nat} (h1 : r.Adv d1 r1) (h2 : r1.Adv d2 r2) :
    r.Adv (d1 + d2) r2 := by
  refine ⟨by rw [h2.avail, h1.avail, List.drop_drop], ?_, h2.legal⟩
  rw [h2.avails, h1.avails, List.map_map]
  exact List.map_congr_left fun x _ => List.drop_drop ..

theorem Rd.Adv.limit {r r' : Rd} {d : Nat} (h : r.Adv d r') (n : Int) :
    (Rd.limit n r).Adv d (.limit (n - (d : Int)) r') := by
  have e : (Rd.limit (n - (d : Int)) r').avail = (Rd.limit n r).avail.drop d := by
    simp only [Rd.avail]
    rw [h.avail, List.drop_take, Int.toNat_sub']
  exact ⟨e, by rw [Rd.avails, e, h.avails]; rfl, h.legal⟩

/-- the request a limiter with `n > 0` bytes left passes down -/
theorem limitWant (n : Int) (want : Nat) (hn : ¬ n ≤ 0) (hw : 1 ≤ want) :
    1 ≤ (if n < (want : Int) then n.toNat else want) ∧
      (if n < (want : Int) then n.toNat else want) ≤ n.toNat ∧
      (if n < (want : Int) then n.toNat else want) ≤ want := by
  have hpos : 1 ≤ n.toNat := Int.lt_toNat.mpr (Int.not_le.mp hn)
  split
  · next h => exact ⟨hpos, Nat.le_refl _, Int.toNat_le.mpr (Int.le_of_lt h)⟩
  · next h =>
    exact ⟨hw, (Int.le_toNat (Int.le_of_lt (Int.not_le.mp hn))).mpr (Int.not_lt.mp h), Nat.le_refl _⟩

/-- `readCall_spec` through any stack of limiters, in terms of the bytes that can still arrive -/
theorem Rd.read_spec (r : Rd) (want : Nat) (hl : r.legal) (hw : 1 ≤ want) :
    ∃ d err r', r.read want = (r.avail.take d, err, r') ∧ r.Adv d r' ∧ d ≤ want ∧ d ≤ r.avail.length ∧
      ((err = none ∧ 1 ≤ d) ∨ ∃ e, err = some e ∧ d = r.avail.length ∧ (1 ≤ d → e = .eof)) := by
  induction r generalizing want with
  | base st =>
    obtain ⟨d, err, st', e, h1, h2, h3⟩ := readCall_spec st want hl hw
    exact ⟨d, err, .base st', by rw [Rd.read, e]; rfl, ⟨h1, rfl, h2⟩, h3⟩
  | limit n inner ih =>
    have hav : (Rd.limit n inner).avail = inner.avail.take n.toNat := rfl
    rw [Rd.read, hav]
    by_cases hn : n ≤ 0
    · rw [if_pos hn, Int.toNat_of_nonpos hn]
      exact ⟨0, _, _, rfl, .refl hl, by omega, by omega, .inr ⟨_, rfl, rfl, by omega⟩⟩
    · obtain ⟨hw1, hw2, hw3⟩ := limitWant n want hn hw
      obtain ⟨d, err, r1, e, adv, h1, h2, h3⟩ := ih _ hl hw1
      have hd : d ≤ n.toNat := Nat.le_trans h1 hw2
      have hlen : (inner.avail.take n.toNat).length = min n.toNat inner.avail.length := List.length_take
      rw [if_neg hn]
      dsimp only
      rw [e]
      dsimp only
      rw [List.length_take_of_le h2]
      refine ⟨d, err, _, by rw [List.take_take, Nat.min_eq_left hd], adv.limit n,
        Nat.le_trans h1 hw3, hlen ▸ Nat.le_min.mpr ⟨hd, h2⟩, ?_⟩
      exact h3.imp id fun ⟨e, h, h', h''⟩ => ⟨e, h, by rw [hlen, Nat.min_eq_right (h' ▸ hd)]; exact h', h''⟩

/-- the fill loop on a legal stack: exactly the next `need` bytes if that many can arrive, an error
    otherwise; the fuel (= outstanding bytes) never runs out -/
theorem fill_spec (fuel : Nat) (r : Rd) (need : Nat) (acc : Bytes) (hl : r.legal) (hf : need ≤ fuel) :
    (need ≤ r.avail.length →
      ∃ r', fill fuel r need acc = (.ok (acc ++ r.avail.take need), r') ∧ r.Adv need r') ∧
    (r.avail.length < need → ∃ e g r', fill fuel r need acc = (.err e g, r')) := by
  induction fuel generalizing r need acc with
  | zero =>
    obtain rfl : need = 0 := Nat.le_zero.mp hf
    exact ⟨fun _ => ⟨r, by simp [fill], .refl hl⟩, fun h => absurd h (Nat.not_lt_zero _)⟩
  | succ fuel ih =>
    by_cases h0 : need = 0
    · subst h0
      exact ⟨fun _ => ⟨r, by simp [fill], .refl hl⟩, fun h => absurd h (Nat.not_lt_zero _)⟩
    obtain ⟨d, err, r1, e, adv, h1, h2, h3⟩ := Rd.read_spec r need hl (Nat.pos_of_ne_zero h0)
    rw [fill, if_neg h0, e]
    dsimp only
    rw [List.length_take_of_le h2]
    rcases h3 with ⟨rfl, hd⟩ | ⟨e', rfl, rfl, he⟩
    · obtain ⟨rest, rfl⟩ := Nat.exists_eq_add_of_le h1
      have hlen : r.avail.length = d + r1.avail.length := by
        rw [adv.avail, List.length_drop, Nat.add_sub_cancel' h2]
      dsimp only
      rw [Nat.add_sub_cancel_left, hlen]
      obtain ⟨ih1, ih2⟩ := ih r1 rest (acc ++ r.avail.take d) adv.legal (by omega)
      refine ⟨fun ha => ?_, fun ha => ih2 (Nat.lt_of_add_lt_add_left ha)⟩
      obtain ⟨r', e1, e2⟩ := ih1 (Nat.le_of_add_le_add_left ha)
      refine ⟨r', ?_, adv.trans e2⟩
      rw [e1, adv.avail, List.append_assoc, ← List.take_add]
    · dsimp only
      refine ⟨fun ha => ?_, fun ha => ⟨_, _, _, by rw [if_neg fun h => Nat.ne_of_lt ha h.2]⟩⟩
      obtain rfl : need = r.avail.length := Nat.le_antisymm ha h1
      rw [if_pos ⟨he (Nat.pos_of_ne_zero h0), rfl⟩]
      exact ⟨_, rfl, adv⟩

/-! ## scope arithmetic -/

theorem allOnes_toNat : (~~~(0 : UInt64)).toNat = 2 ^ 64 - 1 := by decide

/-- the three outcomes of the scope check, under the two tests of the Go code -/
theorem scopeUpdate_cases (i max x : UInt64) :
    (~~~(0 : UInt64) - i < x ∧ scopeUpdate i max x = none) ∨
    (¬ ~~~(0 : UInt64) - i < x ∧ i + x > max ∧ scopeUpdate i max x = none) ∨
    (¬ ~~~(0 : UInt64) - i < x ∧ ¬ i + x > max ∧ scopeUpdate i max x = some (i + x)) := by
  unfold scopeUpdate
  by_cases h1 : ~~~(0 : UInt64) - i < x
  · exact .inl ⟨h1, if_pos h1⟩
  · by_cases h2 : i + x > max
    · exact .inr (.inl ⟨h1, h2, by rw [if_neg h1, if_pos h2]⟩)
    · exact .inr (.inr ⟨h1, h2, by rw [if_neg h1, if_neg h2]⟩)

theorem DR.checkedIndexUpdate_eq (dr : DR) (x : UInt64) :
    dr.checkedIndexUpdate x = match scopeUpdate dr.i dr.max x with
      | none => .error .scope
      | some v => .ok { dr with i := v } := by
  unfold DR.checkedIndexUpdate
  rcases scopeUpdate_cases dr.i dr.max x with ⟨h1, hs⟩ | ⟨h1, h2, hs⟩ | ⟨h1, h2, hs⟩
  · rw [hs, if_pos h1]
  · rw [hs, if_neg h1, if_pos h2]
  · rw [hs, if_neg h1, if_neg h2]

/-- `^uint64(0) - i` does not wrap -/
theorem allOnes_sub_toNat (i : UInt64) : (~~~(0 : UInt64) - i).toNat = 2 ^ 64 - 1 - i.toNat := by
  have hle : i ≤ ~~~(0 : UInt64) :=
    UInt64.le_iff_toNat_le.mpr (allOnes_toNat ▸ Nat.le_pred_of_lt i.toNat_lt)
  rw [UInt64.toNat_sub_of_le _ _ hle, allOnes_toNat]

theorem toNat_add_ofNat (i : UInt64) (n : Nat) (h : i.toNat + n < 2 ^ 64) :
    (i + UInt64.ofNat n).toNat = i.toNat + n := by
  rw [UInt64.toNat_add, UInt64.toNat_ofNat_of_lt' (Nat.lt_of_le_of_lt (Nat.le_add_left ..) h),
    Nat.mod_eq_of_lt h]

theorem scopeUpdate_ofNat (i max : UInt64) (n : Nat) (hn : n < 2 ^ 64) :
    scopeUpdate i max (UInt64.ofNat n) =
      if i.toNat + n ≤ max.toNat then some (i + UInt64.ofNat n) else none := by
  have hm := max.toNat_lt
  unfold scopeUpdate
  by_cases h1 : ~~~(0 : UInt64) - i < UInt64.ofNat n
  · rw [if_pos h1]
    rw [UInt64.lt_iff_toNat_lt, allOnes_sub_toNat, UInt64.toNat_ofNat_of_lt' hn] at h1
    rw [if_neg (by omega)]
  · rw [if_neg h1]
    rw [UInt64.lt_iff_toNat_lt, allOnes_sub_toNat, UInt64.toNat_ofNat_of_lt' hn] at h1
    have hi := i.toNat_lt
    have hadd := toNat_add_ofNat i n (by omega)
    by_cases h2 : i + UInt64.ofNat n > max
    · rw [if_pos h2]
      rw [GT.gt, UInt64.lt_iff_toNat_lt, hadd] at h2
      rw [if_neg (Nat.not_le.mpr h2)]
    · rw [if_neg h2]
      rw [GT.gt, UInt64.lt_iff_toNat_lt, hadd] at h2
      rw [if_pos (Nat.not_lt.mp h2)]

theorem scopeUpdate_ok (i max : UInt64) (n : Nat) (h : i.toNat + n ≤ max.toNat) :
    scopeUpdate i max (UInt64.ofNat n) = some (i + UInt64.ofNat n) ∧
      (i + UInt64.ofNat n).toNat = i.toNat + n := by
  have hlt : i.toNat + n < 2 ^ 64 := Nat.lt_of_le_of_lt h max.toNat_lt
  exact ⟨by rw [scopeUpdate_ofNat i max n (Nat.lt_of_le_of_lt (Nat.le_add_left ..) hlt), if_pos h],
    toNat_add_ofNat i n hlt⟩

/-! ## `DecodingReader.Read` -/

-- from here on `scopeUpdate` is used through the lemmas above only; keeping `simp`/`whnf`
-- from unfolding it inside `match` discriminants avoids normalising 64-bit arithmetic
attribute [local irreducible] scopeUpdate

theorem DR.read_zero (dr : DR) : dr.read 0 = (.ok [], dr) := by simp [DR.read]

theorem DR.read_scope_err (dr : DR) (n : Nat) (h0 : n ≠ 0) (h : scopeUpdate dr.i dr.max (UInt64.ofNat n) = none) :
    dr.read n = (.err .scope [], dr) := by
  unfold DR.read
  rw [if_neg h0, DR.checkedIndexUpdate_eq, h]

theorem DR.read_ok (dr : DR) (n : Nat) (v : UInt64) (h0 : n ≠ 0) (hl : dr.input.legal)
    (h : scopeUpdate dr.i dr.max (UInt64.ofNat n) = some v) (ha : n ≤ dr.input.avail.length) :
    ∃ r', dr.read n = (.ok (dr.input.avail.take n), { input := r', i := v, max := dr.max }) ∧
      dr.input.Adv n r' := by
  obtain ⟨r', e1, e2⟩ := (fill_spec n dr.input n [] hl (Nat.le_refl _)).1 ha
  refine ⟨r', ?_, e2⟩
  unfold DR.read
  rw [if_neg h0, DR.checkedIndexUpdate_eq, h]
  simp only [e1, List.nil_append]

theorem DR.read_short (dr : DR) (n : Nat) (v : UInt64) (hl : dr.input.legal)
    (h : scopeUpdate dr.i dr.max (UInt64.ofNat n) = some v) (ha : dr.input.avail.length < n) :
    ∃ e g dr', dr.read n = (.err e g, dr') := by
  obtain ⟨e, g, r', e1⟩ := (fill_spec n dr.input n [] hl (Nat.le_refl _)).2 ha
  refine ⟨e, g, { input := r', i := v, max := dr.max }, ?_⟩
  unfold DR.read
  rw [if_neg (by omega), DR.checkedIndexUpdate_eq, h]
  simp only [e1]

theorem DR.read_val (dr : DR) (n : Nat) (hl : dr.input.legal) :
    (dr.read n).1.val? =
      (if n = 0 then some []
       else if (scopeUpdate dr.i dr.max (UInt64.ofNat n)).isSome ∧ n ≤ dr.input.avail.length
         then some (dr.input.avail.take n) else none) ∧
    (dr.read n).1 ≠ .spin := by
  by_cases h0 : n = 0
  · subst h0; simp [DR.read_zero, FillRes.val?]
  · rw [if_neg h0]
    cases hs : scopeUpdate dr.i dr.max (UInt64.ofNat n) with
    | none =>
      rw [DR.read_scope_err dr n h0 hs]
      simp [FillRes.val?]
    | some v =>
      by_cases ha : n ≤ dr.input.avail.length
      · obtain ⟨r', e1, _⟩ := DR.read_ok dr n v h0 hl hs ha
        rw [e1]; simp [FillRes.val?, ha]
      · obtain ⟨e, g, dr', e1⟩ := DR.read_short dr n v hl hs (by omega)
        rw [e1]; simp [FillRes.val?, ha]

/-! ## decoder steps against the flat specification -/

theorem zipFrames_map (ps : List (UInt64 × UInt64)) (as : List Bytes) (d : Nat) :
    zipFrames ps (as.map (List.drop d)) = (zipFrames ps as).map (SFrame.adv d) := by
  induction ps generalizing as with
  | nil => simp [zipFrames]
  | cons p ps ih =>
    cases as with
    | nil => simp [zipFrames]
    | cons a as => simp [zipFrames, ih, SFrame.adv]

theorem Dec.wf_shape (d : Dec) (hwf : d.wf) :
    ∃ n inner, d.cur.input = .limit n inner ∧ inner.avails.length = d.parents.length := by
  obtain ⟨h1, _⟩ := hwf
  cases hi : d.cur.input with
  | base st => rw [hi] at h1; simp [Rd.avails] at h1
  | limit n inner =>
    rw [hi] at h1
    simp only [Rd.avails, List.length_cons] at h1
    exact ⟨n, inner, rfl, by omega⟩

theorem specRead_zero (f : SFrame) (ps : List SFrame) : specRead (f :: ps) 0 = some ([], f :: ps) := by
  unfold specRead
  simp only [if_true]

theorem specRead_scope (f : SFrame) (ps : List SFrame) (n : Nat) (h0 : n ≠ 0)
    (hs : scopeUpdate f.i f.max (UInt64.ofNat n) = none) : specRead (f :: ps) n = none := by
  unfold specRead
  simp only [h0, if_false]
  rw [hs]

theorem specRead_ok (f : SFrame) (ps : List SFrame) (n : Nat) (v : UInt64) (h0 : n ≠ 0)
    (hs : scopeUpdate f.i f.max (UInt64.ofNat n) = some v) (ha : n ≤ f.avail.length) :
    specRead (f :: ps) n = some (f.avail.take n, ({ f with i := v } :: ps).map (SFrame.adv n)) := by
  unfold specRead
  simp only [h0, if_false]
  rw [hs]
  simp only [ha, if_true]

theorem specRead_short (f : SFrame) (ps : List SFrame) (n : Nat) (v : UInt64) (h0 : n ≠ 0)
    (hs : scopeUpdate f.i f.max (UInt64.ofNat n) = some v) (ha : ¬ n ≤ f.avail.length) :
    specRead (f :: ps) n = none := by
  unfold specRead
  simp only [h0, if_false]
  rw [hs]
  simp only [ha, if_false]

theorem Dec.abs_cons (d : Dec) (hwf : d.wf) :
    d.abs = ⟨d.cur.i, d.cur.max, d.cur.input.avail⟩ :: d.abs.tail := by
  obtain ⟨m, inner, hi, -⟩ := Dec.wf_shape d hwf
  simp only [Dec.abs, hi, Rd.avails, zipFrames, List.tail_cons]

/-- `k` bytes consumed in the current scope (index set to `v`): every frame advances by `k` -/
theorem Dec.adv_spec (d : Dec) (hwf : d.wf) {k : Nat} {r' : Rd}
    (ha : r'.avails = d.cur.input.avails.map (List.drop k)) (hl : r'.legal) (v : UInt64) :
    Dec.abs { d with cur := ⟨r', v, d.cur.max⟩ } =
      (⟨v, d.cur.max, d.cur.input.avail⟩ :: d.abs.tail).map (SFrame.adv k) ∧
    Dec.wf { d with cur := ⟨r', v, d.cur.max⟩ } := by
  obtain ⟨m, inner, hi, -⟩ := Dec.wf_shape d hwf
  refine ⟨?_, by simpa only [Dec.wf, ha, List.length_map] using hwf.1, hl⟩
  simp only [Dec.abs, ha, zipFrames_map, hi, Rd.avails, zipFrames, List.tail_cons]

theorem Dec.read_spec (d : Dec) (hwf : d.wf) (n : Nat) :
    (∃ bs r', d.cur.read n = (.ok bs, r') ∧ specRead d.abs n = some (bs, Dec.abs { d with cur := r' }) ∧
        Dec.wf { d with cur := r' }) ∨
    (∃ e g r', d.cur.read n = (.err e g, r') ∧ specRead d.abs n = none) := by
  have habs := Dec.abs_cons d hwf
  by_cases h0 : n = 0
  · subst h0
    exact .inl ⟨[], d.cur, DR.read_zero _, by rw [habs, specRead_zero], hwf⟩
  · cases hs : scopeUpdate d.cur.i d.cur.max (UInt64.ofNat n) with
    | none =>
      exact .inr ⟨.scope, [], d.cur, DR.read_scope_err _ n h0 hs, by rw [habs, specRead_scope _ _ n h0 hs]⟩
    | some v =>
      by_cases ha : n ≤ d.cur.input.avail.length
      · obtain ⟨r', e1, e2⟩ := DR.read_ok d.cur n v h0 hwf.2 hs ha
        obtain ⟨a1, a2⟩ := Dec.adv_spec d hwf e2.avails e2.legal v
        exact .inl ⟨_, _, e1, by rw [habs, specRead_ok _ _ n v h0 hs ha, a1], a2⟩
      · obtain ⟨e, g, dr', e1⟩ := DR.read_short d.cur n v hwf.2 hs (by omega)
        exact .inr ⟨e, g, dr', e1, by rw [habs, specRead_short _ _ n v h0 hs ha]⟩

theorem Dec.step_spec (d : Dec) (hwf : d.wf) (q : Req) :
    (∃ o d', d.step q = .ok (o, d') ∧ specStep d.abs q = some (o, d'.abs) ∧ d'.wf) ∨
    (∃ e, d.step q = .error (.err e) ∧ specStep d.abs q = none) := by
  obtain ⟨m, inner, hi, hlen⟩ := Dec.wf_shape d hwf
  obtain ⟨⟨input, i, max⟩, parents⟩ := d
  subst hi
  cases q with
  | read n =>
    rcases Dec.read_spec _ hwf n with ⟨bs, r', e1, e2, e3⟩ | ⟨e, g, r', e1, e2⟩
    · exact .inl ⟨.bytes bs, _, by simp only [Dec.step, e1, FillRes.toExcept],
        by simp only [specStep, e2, Option.map_some], e3⟩
    · exact .inr ⟨e, by simp only [Dec.step, e1, FillRes.toExcept],
        by simp only [specStep, e2, Option.map_none]⟩
  | uintN k =>
    rcases Dec.read_spec _ hwf k with ⟨bs, r', e1, e2, e3⟩ | ⟨e, g, r', e1, e2⟩
    · exact .inl ⟨.num (leNat bs), _,
        by simp only [Dec.step, DR.readUintN, e1, FillRes.toExcept, Except.map],
        by simp only [specStep, e2, Option.map_some], e3⟩
    · exact .inr ⟨e, by simp only [Dec.step, DR.readUintN, e1, FillRes.toExcept, Except.map],
        by simp only [specStep, e2, Option.map_none]⟩
  | sub count =>
    by_cases hc : max - i < count
    · exact .inr ⟨.scope, by simp only [Dec.step, DR.subScope, DR.scope, hc, if_true],
        if_pos hc⟩
    · exact .inl ⟨.sub, ⟨⟨.limit (toInt64 count) (.limit m inner), 0, count⟩, (i, max) :: parents⟩,
        by simp only [Dec.step, DR.subScope, DR.scope, hc, if_false],
        if_neg hc,
        congrArg (· + 1) hwf.1, hwf.2⟩
  | up | upUpdate =>
    cases parents with
    | nil => exact .inl ⟨.up, _, rfl, rfl, hwf⟩
    | cons p ps =>
      cases hia : inner.avails with
      | nil => rw [hia] at hlen; cases hlen
      | cons a as =>
        refine .inl ⟨.up, _, rfl, ?_, by simpa [hia, DR.updateIndexFromScoped] using hlen, hwf.2⟩
        simp only [Dec.abs, Rd.avails, hia, zipFrames, specStep, DR.updateIndexFromScoped]
  | index => exact .inl ⟨.index i max, _, rfl, rfl, hwf⟩

theorem Dec.run_spec (d : Dec) (hwf : d.wf) (qs : List Req) :
    (d.run qs).1 = (specRun d.abs qs).1 ∧
    ((d.run qs).2.isSome = (specRun d.abs qs).2) ∧
    (d.run qs).2 ≠ some .spin := by
  induction qs generalizing d with
  | nil => simp [Dec.run, specRun]
  | cons q qs ih =>
    rcases Dec.step_spec d hwf q with ⟨o, d', e1, e2, e3⟩ | ⟨e, e1, e2⟩
    · obtain ⟨i1, i2, i3⟩ := ih d' e3
      simp only [Dec.run, e1, specRun, e2]
      exact ⟨by rw [i1], i2, i3⟩
    · simp [Dec.run, e1, specRun, e2]

theorem Dec.runAdaptive_spec (next : List Obs → Option Req) (fuel : Nat) (d : Dec) (hwf : d.wf) (os : List Obs) :
    (Dec.runAdaptive next fuel d os).1 = (specRunAdaptive next fuel d.abs os).1 ∧
    ((Dec.runAdaptive next fuel d os).2.isSome = (specRunAdaptive next fuel d.abs os).2) ∧
    (Dec.runAdaptive next fuel d os).2 ≠ some .spin := by
  induction fuel generalizing d os with
  | zero => simp [Dec.runAdaptive, specRunAdaptive]
  | succ fuel ih =>
    cases hn : next os with
    | none => simp [Dec.runAdaptive, specRunAdaptive, hn]
    | some q =>
      rcases Dec.step_spec d hwf q with ⟨o, d', e1, e2, e3⟩ | ⟨e, e1, e2⟩
      · simp only [Dec.runAdaptive, specRunAdaptive, hn, e1, e2]
        exact ih d' e3 (os ++ [o])
      · simp [Dec.runAdaptive, specRunAdaptive, hn, e1, e2]

theorem Dec.new_wf (st : ReaderState) (scope : UInt64) (hl : st.legal) : (Dec.new st scope).wf := by
  exact ⟨by simp [Dec.new, newDecodingReader, Rd.avails], by simpa [Dec.new, newDecodingReader, Rd.legal] using hl⟩

theorem Dec.new_abs (st : ReaderState) (scope : UInt64) : (Dec.new st scope).abs = specNew st.data scope := by
  simp [Dec.new, newDecodingReader, Dec.abs, Rd.avails, Rd.avail, zipFrames, specNew]

/-! ## writer -/

theorem writeCall_fst (w : WriterState) (p : Bytes) :
    (writeCall w p).1 =
      if w.cap = 0 then min p.length (w.room p.length) else min (min p.length (w.room p.length)) w.cap := rfl

theorem writeCall_err (w : WriterState) (p : Bytes) :
    (writeCall w p).2.1 =
      if (writeCall w p).1 = p.length then none
      else if (writeCall w p).1 = min p.length (w.room p.length) then some .fault
      else if w.lenient then none else some .short := rfl

theorem writeCall_state (w : WriterState) (p : Bytes) :
    (writeCall w p).2.2 = { w with acc := w.acc ++ p.take (writeCall w p).1 } := rfl

theorem writeCall_fst_le (w : WriterState) (p : Bytes) :
    (writeCall w p).1 ≤ min p.length (w.room p.length) := by
  rw [writeCall_fst]
  split
  · exact Nat.le_refl _
  · exact Nat.min_le_left ..

/-- a call accepts all that the failure position allows, or else a full per-call limit -/
theorem writeCall_fst_cases (w : WriterState) (p : Bytes) :
    (writeCall w p).1 = min p.length (w.room p.length) ∨ ((writeCall w p).1 = w.cap ∧ w.cap ≠ 0) := by
  rw [writeCall_fst]
  split
  · exact .inl rfl
  · next hc =>
    rcases Nat.le_total (min p.length (w.room p.length)) w.cap with h | h
    · exact .inl (Nat.min_eq_left h)
    · exact .inr ⟨Nat.min_eq_right h, hc⟩

theorem writeCall_le (w : WriterState) (p : Bytes) :
    (writeCall w p).1 ≤ p.length ∧ (writeCall w p).1 ≤ w.room p.length :=
  ⟨Nat.le_trans (writeCall_fst_le w p) (Nat.min_le_left ..),
    Nat.le_trans (writeCall_fst_le w p) (Nat.min_le_right ..)⟩

theorem writeCall_progress (w : WriterState) (p : Bytes) (he : (writeCall w p).2.1 = none) (hp : 1 ≤ p.length) :
    1 ≤ (writeCall w p).1 := by
  rw [writeCall_err] at he
  by_cases h1 : (writeCall w p).1 = p.length
  · rw [h1]; exact hp
  · rw [if_neg h1] at he
    rcases writeCall_fst_cases w p with h2 | ⟨h2, hc⟩
    · rw [if_pos h2] at he; cases he
    · rw [h2]; exact Nat.pos_of_ne_zero hc

theorem room_some (w : WriterState) (len k : Nat) (h : w.failAt = some k) : w.room len = k - w.acc.length := by
  simp [WriterState.room, h]

theorem room_none (w : WriterState) (len : Nat) (h : w.failAt = none) : w.room len = len := by
  simp [WriterState.room, h]

/-- an error means that not everything offered was accepted; writers without per-call limit, or
    lenient ones, report one only at the failure position -/
theorem writeCall_err_lt (w : WriterState) (p : Bytes) (he : (writeCall w p).2.1 ≠ none) :
    (writeCall w p).1 < p.length ∧
    ((w.cap = 0 ∨ w.lenient = true) → (writeCall w p).1 = w.room p.length) := by
  rw [writeCall_err] at he
  by_cases h1 : (writeCall w p).1 = p.length
  · rw [if_pos h1] at he; exact absurd rfl he
  · rw [if_neg h1] at he
    refine ⟨Nat.lt_of_le_of_ne (writeCall_le w p).1 h1, fun hx => ?_⟩
    by_cases h2 : (writeCall w p).1 = min p.length (w.room p.length)
    · rcases Nat.le_total p.length (w.room p.length) with hr | hr
      · exact absurd (h2.trans (Nat.min_eq_left hr)) h1
      · exact h2.trans (Nat.min_eq_right hr)
    · rw [if_neg h2] at he
      rcases hx with hx | hx
      · exact absurd hx ((writeCall_fst_cases w p).resolve_left h2).2
      · rw [hx] at he; exact absurd rfl he

/-- what a `Write` loop run establishes: `m` bytes of `p` were accepted and counted -/
structure LoopPost (ew : EW) (p : Bytes) (r : Option Stop × EW) (m : Nat) : Prop where
  le : m ≤ p.length
  acc : r.2.w.acc = ew.w.acc ++ p.take m
  cnt : r.2.n = ew.n + m
  failAt : r.2.w.failAt = ew.w.failAt
  cap : r.2.w.cap = ew.w.cap
  lenient : r.2.w.lenient = ew.w.lenient
  status : (r.1 = none ∧ m = p.length) ∨ (∃ e, r.1 = some (.err e) ∧ m < p.length)
  exactSome : (ew.w.cap = 0 ∨ ew.w.lenient = true) → ∀ k, ew.w.failAt = some k → m = min p.length (k - ew.w.acc.length)
  exactNone : (ew.w.cap = 0 ∨ ew.w.lenient = true) → ew.w.failAt = none → m = p.length

theorem LoopPost.nil (ew : EW) : LoopPost ew [] (none, ew) 0 :=
  ⟨Nat.le_refl _, by simp, rfl, rfl, rfl, rfl, .inl ⟨rfl, rfl⟩, fun _ _ _ => by simp, fun _ _ => rfl⟩

theorem min_add_of_lt {m a b : Nat} (c : Nat) (h : m = min a b) (hlt : m < a) : m = min (a + c) b := by
  have hba : b ≤ a := Nat.le_of_not_le fun hab => Nat.ne_of_lt hlt (h.trans (Nat.min_eq_left hab))
  rw [h, Nat.min_eq_right hba, Nat.min_eq_right (Nat.le_trans hba (Nat.le_add_right ..))]

/-- an error inside `p` is the outcome for `p ++ q` as well -/
theorem LoopPost.append_err {ew : EW} {p : Bytes} {r : Option Stop × EW} {m : Nat} (q : Bytes)
    (h : LoopPost ew p r m) (hs : r.1 ≠ none) : LoopPost ew (p ++ q) r m := by
  obtain ⟨e, he, hlt⟩ : ∃ e, r.1 = some (.err e) ∧ m < p.length := by
    rcases h.status with ⟨h1, _⟩ | h1
    · exact absurd h1 hs
    · exact h1
  have hl : (p ++ q).length = p.length + q.length := List.length_append
  refine ⟨?_, by rw [h.acc, List.take_append_of_le_length h.le], h.cnt, h.failAt, h.cap, h.lenient,
    .inr ⟨e, he, ?_⟩, fun hx k hk => ?_, fun hx hk => absurd (h.exactNone hx hk) (Nat.ne_of_lt hlt)⟩
  · rw [hl]; exact Nat.le_trans h.le (Nat.le_add_right ..)
  · rw [hl]; exact Nat.lt_of_lt_of_le hlt (Nat.le_add_right ..)
  · rw [hl]; exact min_add_of_lt _ (h.exactSome hx k hk) hlt

/-- all of `p` written, then the run on `q` from the state reached -/
theorem LoopPost.append {ew : EW} {p q : Bytes} {r1 r2 : Option Stop × EW} {m1 m2 : Nat}
    (h1 : LoopPost ew p r1 m1) (hs : r1.1 = none) (h2 : LoopPost r1.2 q r2 m2) :
    LoopPost ew (p ++ q) r2 (m1 + m2) := by
  have hm1 : m1 = p.length := by
    rcases h1.status with ⟨_, h⟩ | ⟨e, h, _⟩
    · exact h
    · rw [hs] at h; cases h
  subst hm1
  have hl : (p ++ q).length = p.length + q.length := List.length_append
  have hacc : r1.2.w.acc = ew.w.acc ++ p := by rw [h1.acc, List.take_length]
  have hal : r1.2.w.acc.length = ew.w.acc.length + p.length := by rw [hacc, List.length_append]
  have hx1 : (ew.w.cap = 0 ∨ ew.w.lenient = true) → (r1.2.w.cap = 0 ∨ r1.2.w.lenient = true) := by
    rw [h1.cap, h1.lenient]; exact id
  refine ⟨by rw [hl]; exact Nat.add_le_add_left h2.le _, ?_, ?_, ?_, ?_, ?_, ?_, ?_, ?_⟩
  · rw [h2.acc, hacc, List.append_assoc, List.take_length_add_append]
  · rw [h2.cnt, h1.cnt, Nat.add_assoc]
  · rw [h2.failAt, h1.failAt]
  · rw [h2.cap, h1.cap]
  · rw [h2.lenient, h1.lenient]
  · rcases h2.status with ⟨h, h'⟩ | ⟨e, h, h'⟩
    · exact .inl ⟨h, by rw [hl, h']⟩
    · exact .inr ⟨e, h, by rw [hl]; exact Nat.add_lt_add_left h' _⟩
  · intro hx k hk
    have a : p.length ≤ k - ew.w.acc.length := by
      rw [h1.exactSome hx k hk]; exact Nat.min_le_right ..
    rw [h2.exactSome (hx1 hx) k (by rw [h1.failAt]; exact hk), hal, hl, Nat.sub_add_eq,
      ← Nat.add_min_add_left, Nat.add_sub_cancel' a]
  · intro hx hk
    rw [hl, h2.exactNone (hx1 hx) (by rw [h1.failAt]; exact hk)]

/-- one `Write` call of the underlying writer, as a run over the bytes it accepted or, with an error, over all of `p` -/
theorem writeCall_post (ew : EW) (p : Bytes) :
    LoopPost ew (if (writeCall ew.w p).2.1 = none then p.take (writeCall ew.w p).1 else p)
      ((writeCall ew.w p).2.1.map .err, ⟨(writeCall ew.w p).2.2, ew.n + (writeCall ew.w p).1⟩)
      (writeCall ew.w p).1 := by
  have hle := writeCall_le ew.w p
  cases he : (writeCall ew.w p).2.1 with
  | none =>
    have hl : (p.take (writeCall ew.w p).1).length = (writeCall ew.w p).1 := List.length_take_of_le hle.1
    rw [if_pos rfl]
    refine ⟨Nat.le_of_eq hl.symm, ?_, rfl, rfl, rfl, rfl, .inl ⟨rfl, hl.symm⟩, ?_, fun _ _ => hl.symm⟩
    · rw [writeCall_state, List.take_take, Nat.min_self]
    · intro _ k hk
      rw [hl, Nat.min_eq_left (room_some _ _ k hk ▸ hle.2)]
  | some e =>
    have hlt := writeCall_err_lt ew.w p (by rw [he]; simp)
    rw [if_neg (by simp)]
    refine ⟨hle.1, by rw [writeCall_state], rfl, rfl, rfl, rfl, .inr ⟨e, rfl, hlt.1⟩, ?_, ?_⟩
    · intro hx k hk
      rw [← room_some _ p.length k hk, ← hlt.2 hx, Nat.min_eq_right hle.1]
    · intro hx hk
      exact (hlt.2 hx).trans (room_none _ _ hk)

theorem ewLoop_spec (fuel : Nat) (ew : EW) (p : Bytes) (hf : p.length ≤ fuel) :
    ∃ m, LoopPost ew p (ewLoop fuel ew p) m := by
  induction fuel generalizing ew p with
  | zero =>
    have hp : p = [] := List.eq_nil_of_length_eq_zero (by omega)
    subst hp
    exact ⟨0, LoopPost.nil ew⟩
  | succ fuel ih =>
    by_cases hp : p = []
    · subst hp
      exact ⟨0, LoopPost.nil ew⟩
    · have hlen : 1 ≤ p.length := List.length_pos_iff.mpr hp
      have post := writeCall_post ew p
      rw [ewLoop]
      simp only [List.isEmpty_iff, hp, if_false]
      cases he : (writeCall ew.w p).2.1 with
      | some e =>
        rw [he, if_neg (by simp)] at post
        exact ⟨_, post⟩
      | none =>
        rw [he, if_pos rfl] at post
        have hprog := writeCall_progress ew.w p he hlen
        obtain ⟨m', post'⟩ := ih ⟨(writeCall ew.w p).2.2, ew.n + (writeCall ew.w p).1⟩
          (p.drop (writeCall ew.w p).1) (by rw [List.length_drop]; omega)
        have := post.append rfl post'
        rw [List.take_append_drop] at this
        exact ⟨_, this⟩

theorem ewWrites_spec (ew : EW) (ps : List Bytes) :
    ∃ m, LoopPost ew ps.flatten (ewWrites ew ps) m := by
  induction ps generalizing ew with
  | nil => exact ⟨0, LoopPost.nil ew⟩
  | cons p ps ih =>
    obtain ⟨m1, post1⟩ := ewLoop_spec p.length ew p (Nat.le_refl _)
    rw [List.flatten_cons, ewWrites, EW.write]
    generalize ewLoop p.length ew p = r at post1
    obtain ⟨s, ew'⟩ := r
    cases s with
    | some s => exact ⟨m1, post1.append_err _ (by simp)⟩
    | none =>
      obtain ⟨m2, post2⟩ := ih ew'
      exact ⟨_, post1.append rfl post2⟩

/-- on a fresh `EncodingWriter` over a writer that has accepted nothing yet, the accepted bytes and
    `Written()` are the prefix of the bytes offered and its length -/
theorem ewWrites_new (w : WriterState) (ps : List Bytes) (h0 : w.acc = []) :
    ∃ m, LoopPost (newEncodingWriter w) ps.flatten (ewWrites (newEncodingWriter w) ps) m ∧
      (ewWrites (newEncodingWriter w) ps).2.w.acc = ps.flatten.take m ∧
      (ewWrites (newEncodingWriter w) ps).2.written = m := by
  obtain ⟨m, post⟩ := ewWrites_spec (newEncodingWriter w) ps
  refine ⟨m, post, ?_, ?_⟩
  · rw [post.acc, newEncodingWriter, h0, List.nil_append]
  · rw [EW.written, post.cnt, newEncodingWriter, Nat.zero_add]

/-- typed calls are `Write` of their little-endian bytes -/
theorem EW.op_bytes (ew : EW) (o : WOp) : ew.op o = o.bytes.map ew.write := by
  cases o <;> simp [EW.op, WOp.bytes, EW.writeByte, EW.writeUint16, EW.writeUint32, EW.writeUint64, Option.map]
  cases offsetBytes _ _ <;> rfl

def stopOutcome : Option Stop → WOutcome
  | none => .ok
  | some (.err _) => .err
  | some .spin => .spin

/-! ## concrete inputs for the non-vacuity examples of Props/C13.lean -/
namespace Ex

/-- six bytes delivered in chunks of 2,3,2,3,… with the last chunk arriving together with EOF; scope 6 -/
def rdWith : ReaderState := mkReader [1, 2, 3, 4, 5, 6] [2, 3] .eofWithData 6
/-- the six bytes of `rdWith`, delivered byte by byte, the stream failing after 4 bytes -/
def rdFail : ReaderState := mkReader [1, 2, 3, 4, 5, 6] [1] .fail 4
/-- a decoder-like program: a byte, a sub-scope of 4 with an offset read inside, back, one more byte, index -/
def prog : List Req := [.uintN 1, .sub 4, .uintN 4, .up, .uintN 1, .index]
/-- writer failing at byte 5 -/
def wFail : WriterState := { acc := [], failAt := some 5, cap := 0, lenient := false }
/-- writer failing at byte 9 and accepting at most 2 bytes per call, short writes with an error -/
def wShort : WriterState := { acc := [], failAt := some 9, cap := 2, lenient := false }
/-- writer that never fails but takes one byte per call and reports that without error -/
def wLenient : WriterState := { acc := [], failAt := none, cap := 1, lenient := true }
def slices : List Bytes := [[1, 2], [], [3], [4, 5, 6, 7]]
/-- an adaptive decoder: read a length byte, then that many bytes, then stop -/
def lenPrefixed : List Obs → Option Req
  | [] => some (.uintN 1)
  | [.num n] => some (.read n)
  | _ => none

end Ex

end ZtypV.CodecIO
