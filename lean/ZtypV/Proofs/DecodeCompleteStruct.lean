/-
C02 round trip, decoder completeness for unions and containers: selector range, the `None`
option (scope 1), fixed-size options (exact remaining scope); the container scope check
(`minFields ≤ len ≤ maxFields`, by the C15 bounds) and both container loops
(`decodeFixedPart`, `decodeDynPart`) on the layout `serContainerParts` writes.
-/
import ZtypV.Proofs.DecodeCompleteSeq
namespace ZtypV.DecodeProofs
open ZtypV ZtypV.View

/-! ### union -/

theorem decodeOpt_complete {h : HashFn} {P : Node × DR → Prop} {opts : List Ty} {k rem : Nat}
    {dr : DR} {t : Ty} (hk : opts[k]? = some t) (hfix : t.isFixed = true → t.fixedSize = rem)
    (hd : Ok (decode h t dr) P) : Ok (decodeOpt h opts k rem dr) P := by
  rw [decodeOpt_eq, hk]
  refine Ok.ite_err (fun hc => ?_) hd
  rw [Bool.and_eq_true, bne_iff_ne] at hc
  exact hc.2 (hfix hc.1)

theorem union_complete {h : HashFn} {hasNone : Bool} {opts : List Ty}
    (hopts : ∀ t ∈ opts, Complete h t)
    (hcnt : opts.length + (if hasNone then 1 else 0) ≤ 128) :
    Complete h (.union hasNone opts) := by
  intro v dr rest hv hlt hsc hi hav
  cases v with
  | union sel w =>
    unfold hasType at hv
    rw [serialize, List.length_cons] at hlt hsc
    rw [serialize] at hav
    have hr := read_complete (bs := [UInt8.ofNat sel]) hav (by rw [hsc]; exact Nat.le_add_left 1 _)
    unfold decode
    apply Ok.ite_err (fun h0 => Nat.succ_ne_zero _ (hsc.symm.trans h0))
    apply Ok.bind hr
    rintro ⟨sb, d1⟩ ⟨h1, h2, hs1, hi1⟩
    obtain rfl : sb = [UInt8.ofNat sel] := h1
    dsimp only
    rw [List.getD_cons_zero]
    cases hu : unionOpt hasNone opts sel with
    | none =>
      rw [hu] at hv hsc h2
      rw [Bool.and_eq_true, Bool.and_eq_true, beq_iff_eq] at hv
      obtain ⟨⟨rfl, rfl⟩, _⟩ := hv
      apply Ok.ite_err (Nat.not_le.mpr (Nat.succ_pos _))
      rw [if_pos rfl]
      apply Ok.ite_err (fun hne => hne hsc)
      exact Ok.pure h2
    | some t =>
      rw [hu] at hv hlt hsc h2
      obtain ⟨hrange, hnn, hget⟩ := unionOpt_some hu
      have hselnat : (UInt8.ofNat sel).toNat = sel :=
        Nat.mod_eq_of_lt (Nat.lt_of_lt_of_le hrange (Nat.le_trans hcnt (by decide)))
      rw [hselnat]
      apply Ok.ite_err (Nat.not_le.mpr hrange)
      rw [if_neg (Bool.eq_false_iff.mp hnn)]
      have hsc1 : d1.scope = (serialize t w).length := Nat.add_right_cancel (hs1.trans hsc)
      have hd := hopts t (List.mem_of_getElem? hget) w d1 rest hv
        (Nat.lt_of_succ_lt hlt) hsc1 (hi1 hi) h2
      have hfix : t.isFixed = true → t.fixedSize = dr.scope - 1 := fun hf => by
        rw [hsc, Nat.add_sub_cancel]
        exact (serialize_fixed_length w t hf hv).symm
      apply Ok.bind (decodeOpt_complete hget hfix hd)
      rintro ⟨c, d2⟩ ha
      exact Ok.pure ha
  | _ => cases hv

/-! ### container layout -/

/-- the offsets `serFixedPart` writes for the variable-size fields, as numbers -/
def dynOffsets (off : Nat) : List (Bool × Bytes) → List Nat
  | [] => []
  | (true, _) :: ps => dynOffsets off ps
  | (false, p) :: ps => off :: dynOffsets (off + p.length) ps

theorem dynOffsets_headD : ∀ (ps : List (Bool × Bytes)) (off scope : Nat),
    off + (serVarPart ps).length = scope → (dynOffsets off ps).headD scope = off := by
  intro ps
  induction ps with
  | nil => intro off scope hs; exact hs.symm
  | cons x ps ih =>
    intro off scope hs
    obtain ⟨fx, p⟩ := x
    cases fx with
    | true => exact ih off scope hs
    | false => rfl

/-- the first loop on the fixed part written with `off` as the next offset: it accepts, collects
    the offsets `dynOffsets off …`, and its reader loses at most the fixed part's length of scope
    (only the offset reads shrink it) -/
theorem fixedPart_complete {h : HashFn} : ∀ (fs : List Ty), (∀ t ∈ fs, Complete h t) →
    ∀ (vs : List Val) (prev : Nat) (first : Bool) (off scope : Nat) (dr : DR) (rest : Bytes),
    fieldsHaveType fs vs = true → scope < 2 ^ 32 → Ty.fixedPart fs ≤ scope →
    prev ≤ off → (first = true → off = prev) →
    off + (serVarPart (serFields fs vs)).length ≤ scope →
    Ty.fixedPart fs ≤ dr.scope →
    dr.avail = serFixedPart off (serFields fs vs) ++ rest →
    Ok (decodeFixedPart h fs prev first scope dr) (fun r =>
      r.1.length = fs.length ∧ r.2.1 = dynOffsets off (serFields fs vs) ∧ r.2.2.avail = rest ∧
      dr.scope - Ty.fixedPart fs ≤ r.2.2.scope) := by
  intro fs
  induction fs with
  | nil =>
    intro _ vs prev first off scope dr rest hv _ _ _ _ _ _ hav
    obtain rfl := fieldsHaveType_nil hv
    rw [decodeFixedPart]
    exact Ok.pure ⟨rfl, rfl, hav, Nat.le_refl _⟩
  | cons t ts ih =>
    intro hall vs prev first off scope dr rest hv hs32 hfp hprev hfirst hoff hi hav
    have ht : Complete h t := hall t List.mem_cons_self
    have hts : ∀ t' ∈ ts, Complete h t' := fun t' ht' => hall t' (List.mem_cons_of_mem _ ht')
    obtain ⟨v, vs, rfl, hv1, hv2⟩ := fieldsHaveType_cons hv
    rw [decodeFixedPart]
    by_cases hf : t.isFixed = true
    · rw [if_pos hf]
      rw [fixedPart_cons_fixed hf] at hfp hi
      rw [serFields_cons_fixed hf, serVarPart] at hoff
      rw [serFields_cons_fixed hf, serFixedPart, List.append_assoc] at hav
      have hl := serialize_fixed_length v t hf hv1
      have h1 := inSub_decode_complete ht hv1
        (hl ▸ Nat.lt_of_le_of_lt (Nat.le_trans (Nat.le_add_right _ _) hfp) hs32) hav
        (hl ▸ Nat.le_trans (Nat.le_add_right _ _) hi)
      rw [hl] at h1
      apply Ok.bind h1
      rintro ⟨x, d1⟩ ⟨ha, hs1⟩
      apply Ok.bind (ih hts vs prev first off scope d1 rest hv2 hs32
        (Nat.le_trans (Nat.le_add_left _ _) hfp) hprev hfirst hoff
        (Nat.le_trans (Nat.le_trans (Nat.le_add_left _ _) hi) (Nat.le_of_eq hs1.symm)) ha)
      rintro ⟨slots, offs, d2⟩ ⟨hl2, ho2, ha2, hs2⟩
      refine Ok.pure ⟨congrArg (· + 1) hl2, ?_, ha2, Nat.le_trans ?_ hs2⟩
      · rw [serFields_cons_fixed hf]; exact ho2
      · rw [fixedPart_cons_fixed hf, show d1.scope = dr.scope from hs1]
        exact Nat.sub_le_sub_left (Nat.le_add_left _ _) _
    · rw [if_neg hf]
      rw [fixedPart_cons_var hf] at hfp hi
      rw [serFields_cons_var hf, serVarPart, List.length_append, ← Nat.add_assoc] at hoff
      rw [serFields_cons_var hf, serFixedPart, List.append_assoc] at hav
      have hoff' : off ≤ scope :=
        Nat.le_trans (Nat.le_trans (Nat.le_add_right _ _) (Nat.le_add_right _ _)) hoff
      apply Ok.bind (readOffset_complete hav (Nat.lt_of_le_of_lt hoff' hs32)
        (Nat.le_trans (Nat.le_add_right _ _) hi))
      rintro ⟨o, d1⟩ ⟨ho, ha, hs1⟩
      obtain rfl : o = off := ho
      have hd1 : d1.scope = dr.scope - 4 := Nat.eq_sub_of_add_eq hs1
      apply Ok.ite_err (Nat.not_lt.mpr hprev)
      apply Ok.ite_err (fun hc => by
        rw [Bool.and_eq_true, decide_eq_true_eq] at hc
        exact hc.2 (hfirst hc.1))
      apply Ok.ite_err (Nat.not_lt.mpr hoff')
      apply Ok.bind (ih hts vs o false (o + (serialize t v).length) scope d1 rest hv2 hs32
        (Nat.le_trans (Nat.le_add_left _ _) hfp) (Nat.le_add_right _ _) (fun hc => by cases hc)
        hoff (hd1 ▸ Nat.le_sub_of_add_le' hi) ha)
      rintro ⟨slots, offs, d2⟩ ⟨hl2, ho2, ha2, hs2⟩
      refine Ok.pure ⟨congrArg (· + 1) hl2, ?_, ha2, ?_⟩
      · rw [serFields_cons_var hf]; exact congrArg (o :: ·) ho2
      · rw [fixedPart_cons_var hf, Nat.sub_add_eq, ← hd1]; exact hs2

/-- the second loop, handed `dynOffsets off …`, takes the variable part, which ends at `scope` -/
theorem dynPart_complete {h : HashFn} : ∀ (fs : List Ty), (∀ t ∈ fs, Complete h t) →
    ∀ (vs : List Val) (off scope : Nat) (dr : DR) (rest : Bytes),
    fieldsHaveType fs vs = true → scope < 2 ^ 32 →
    off + (serVarPart (serFields fs vs)).length = scope →
    (serVarPart (serFields fs vs)).length ≤ dr.scope →
    dr.avail = serVarPart (serFields fs vs) ++ rest →
    Ok (decodeDynPart h fs scope (dynOffsets off (serFields fs vs)) dr)
      (fun r => r.2.avail = rest) := by
  intro fs
  induction fs with
  | nil =>
    intro _ vs off scope dr rest hv _ _ _ hav
    obtain rfl := fieldsHaveType_nil hv
    rw [decodeDynPart]
    exact Ok.pure hav
  | cons t ts ih =>
    intro hall vs off scope dr rest hv hs32 hoff hsc hav
    have ht : Complete h t := hall t List.mem_cons_self
    have hts : ∀ t' ∈ ts, Complete h t' := fun t' ht' => hall t' (List.mem_cons_of_mem _ ht')
    obtain ⟨v, vs, rfl, hv1, hv2⟩ := fieldsHaveType_cons hv
    rw [decodeDynPart_cons]
    by_cases hf : t.isFixed = true
    · rw [if_pos hf, serFields_cons_fixed hf]
      rw [serFields_cons_fixed hf] at hav hoff hsc
      exact ih hts vs off scope dr rest hv2 hs32 hoff hsc hav
    · rw [if_neg hf, serFields_cons_var hf, dynOffsets]
      rw [serFields_cons_var hf, serVarPart, List.length_append] at hoff hsc
      rw [serFields_cons_var hf, serVarPart, List.append_assoc] at hav
      have hoff' := (Nat.add_assoc _ _ _).trans hoff
      dsimp only
      rw [dynOffsets_headD _ _ scope hoff', Nat.add_sub_cancel_left]
      apply Ok.bind (inSub_decode_complete ht hv1
        (Nat.lt_of_le_of_lt (Nat.le_trans (Nat.le_add_left _ off)
          (Nat.le_trans (Nat.le_add_right _ _) (Nat.le_of_eq hoff'))) hs32)
        hav (Nat.le_trans (Nat.le_add_right _ _) hsc))
      rintro ⟨x, d1⟩ ⟨ha, hs1⟩
      apply Ok.bind (ih hts vs (off + (serialize t v).length) scope d1 rest hv2 hs32 hoff'
        (Nat.le_trans (Nat.le_trans (Nat.le_add_left _ _) hsc) (Nat.le_of_eq hs1.symm)) ha)
      rintro ⟨xs, d2⟩ ha2
      exact Ok.pure ha2

/-! ### container -/

theorem container_complete {h : HashFn} {fs : List Ty} (hfs : ∀ t ∈ fs, Complete h t) :
    Complete h (.container fs) := by
  intro v dr rest hv hlt hsc hi hav
  have hb := ZtypV.Sizes.ser_bounds (.container fs) v hv
  cases v with
  | seq vs =>
    rw [hasType] at hv
    rw [Ty.minSize, Ty.maxSize, ← hsc] at hb
    have hfpl : fixedPartLen (serFields fs vs) = Ty.fixedPart fs :=
      fixedPartLen_serFields fs vs (fun w _ t hf hw => serialize_fixed_length w t hf hw) hv
    rw [← hsc] at hlt
    rw [serialize, serContainerParts_length, hfpl] at hsc
    rw [serialize, serContainerParts, hfpl, List.append_assoc] at hav
    have hF : Ty.fixedPart fs ≤ dr.scope :=
      Nat.le_trans (Nat.le_add_right _ _) (Nat.le_of_eq hsc.symm)
    unfold decode
    apply Ok.ite_err (fun hc => hc.elim (Nat.not_lt.mpr hb.1) (Nat.not_lt.mpr hb.2))
    apply Ok.bind (fixedPart_complete fs hfs vs (Ty.fixedPart fs) true (Ty.fixedPart fs) dr.scope
      dr _ hv hlt hF (Nat.le_refl _) (fun _ => rfl) (Nat.le_of_eq hsc.symm) hF hav)
    rintro ⟨slots, offs, d1⟩ ⟨hl1, ho1, ha1, hs1⟩
    obtain rfl : offs = _ := ho1
    rw [hsc, Nat.add_sub_cancel_left] at hs1
    apply Ok.bind (dynPart_complete fs hfs vs (Ty.fixedPart fs) dr.scope d1 rest hv hlt hsc.symm
      hs1 ha1)
    rintro ⟨dyn, d2⟩ ha2
    obtain ⟨n, hn⟩ := fill_nodes_ok h (mergeFields slots dyn) fs.length
      (Nat.le_of_eq ((mergeFields_length _ _).trans hl1))
    dsimp only
    rw [hn]
    exact Ok.pure ha2
  | _ => cases hv

end ZtypV.DecodeProofs
