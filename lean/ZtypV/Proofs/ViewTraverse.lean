/-
What the read-side inductions need about the three traversals `viewVal`, `serializeView`,
`valueByteLength`: their recursion over union options and container fields.
-/
import ZtypV.Proofs.ViewSer
namespace ZtypV.View

/-! ### union options -/

/-- a traversal `g` of the option list that runs `f` on option `k` -/
theorem opt_get {β : Type} (f : Ty → Node → R β) (g : List Ty → Nat → Node → R β)
    (h0 : ∀ t ts c, g (t :: ts) 0 c = f t c) (hs : ∀ t ts k c, g (t :: ts) (k + 1) c = g ts k c) :
    ∀ (opts : List Ty) (k : Nat) (t : Ty) (c : Node), opts[k]? = some t → g opts k c = f t c
  | [], _, _, _, h => by simp at h
  | a :: opts, 0, t, c, h => by
    obtain rfl : a = t := by simpa using h
    exact h0 a opts c
  | a :: opts, k + 1, t, c, h => by
    rw [hs]; exact opt_get f g h0 hs opts k t c (by simpa using h)

theorem viewOpt_get : ∀ (opts : List Ty) (k : Nat) (t : Ty) (c : Node), opts[k]? = some t →
    viewOpt opts k c = viewVal t c :=
  opt_get viewVal viewOpt (fun _ _ _ => rfl) (fun _ _ _ _ => rfl)

theorem serOptView_get : ∀ (opts : List Ty) (k : Nat) (t : Ty) (c : Node), opts[k]? = some t →
    serOptView opts k c = serializeView t c :=
  opt_get serializeView serOptView (fun _ _ _ => rfl) (fun _ _ _ _ => rfl)

theorem lenOptView_get : ∀ (opts : List Ty) (k : Nat) (t : Ty) (c : Node), opts[k]? = some t →
    lenOptView opts k c = valueByteLength t c :=
  opt_get valueByteLength lenOptView (fun _ _ _ => rfl) (fun _ _ _ _ => rfl)

/-! ### union views: `Selector()` decoded once for each traversal -/

theorem selector_toNat {sel : Nat} (hs : sel < 256) : (UInt8.ofNat sel).toNat = sel := by
  rw [UInt8.toNat_ofNat']; exact Nat.mod_eq_of_lt hs

/-- `Selector()` and `Value()` on a union view `pair value selector-chunk` -/
theorem viewVal_union (hasNone : Bool) (opts : List Ty) (c : Node) {sel : Nat} (hs : sel < 256) :
    viewVal (.union hasNone opts) (.pair c (.leaf (chunkOf [UInt8.ofNat sel]))) =
      if sel ≥ opts.length + (if hasNone then 1 else 0) then .error .other
      else if hasNone && sel == 0 then .ok (.union 0 .none)
      else (do let v ← viewOpt opts (if hasNone then sel - 1 else sel) c; .ok (.union sel v)) := by
  simp only [viewVal, getNode_pair_true, getNode_pair_false, getNode_nil, R.bind_ok, asLeaf_leaf,
    chunkOf_single_drop, Bool.false_eq_true, if_false, chunkOf_single_getD, selector_toNat hs]

theorem serializeView_union (hasNone : Bool) (opts : List Ty) (c : Node) {sel : Nat}
    (hs : sel < 256) :
    serializeView (.union hasNone opts) (.pair c (.leaf (chunkOf [UInt8.ofNat sel]))) =
      if sel ≥ opts.length + (if hasNone then 1 else 0) then .error .other
      else if hasNone && sel == 0 then .ok [UInt8.ofNat sel]
      else (do let bs ← serOptView opts (if hasNone then sel - 1 else sel) c
               .ok (UInt8.ofNat sel :: bs)) := by
  simp only [serializeView, getNode_pair_true, getNode_pair_false, getNode_nil, R.bind_ok,
    asLeaf_leaf, chunkOf_single_drop, Bool.false_eq_true, if_false, chunkOf_single_getD,
    selector_toNat hs]

theorem valueByteLength_union (hasNone : Bool) (opts : List Ty) (c : Node) {sel : Nat}
    (hs : sel < 256) :
    valueByteLength (.union hasNone opts) (.pair c (.leaf (chunkOf [UInt8.ofNat sel]))) =
      if sel ≥ opts.length + (if hasNone then 1 else 0) then .error .other
      else if hasNone && sel == 0 then .ok 1
      else (do let k ← lenOptView opts (if hasNone then sel - 1 else sel) c; .ok (k + 1)) := by
  simp only [valueByteLength, getNode_pair_true, getNode_pair_false, getNode_nil, R.bind_ok,
    asLeaf_leaf, chunkOf_single_drop, Bool.false_eq_true, if_false, chunkOf_single_getD,
    selector_toNat hs]

/-! ### container fields: navigation to field `i + j`, then the per-field result -/

theorem viewFields_ok (n : Node) (d : Nat) : ∀ (ts : List Ty) (vs : List Val) (i : Nat),
    ts.length = vs.length →
    (∀ j (h1 : j < ts.length) (h2 : j < vs.length), ∃ c, subtreeGet n d (i + j) = .ok c ∧
      viewVal ts[j] c = .ok vs[j]) →
    viewFields ts n d i = .ok vs := by
  intro ts
  induction ts with
  | nil =>
    intro vs i hl _
    cases vs with
    | nil => simp only [viewFields]
    | cons _ _ => simp at hl
  | cons t ts ih =>
    intro vs i hl hj
    cases vs with
    | nil => simp at hl
    | cons v vs =>
      obtain ⟨c, hc1, hc2⟩ := hj 0 (by simp) (by simp)
      simp only [Nat.add_zero, List.getElem_cons_zero] at hc1 hc2
      have hrest := ih vs (i + 1) (by simpa using hl) (fun j h1 h2 => by
        obtain ⟨c, h3, h4⟩ := hj (j + 1) (by simp; omega) (by simp; omega)
        refine ⟨c, ?_, by simpa using h4⟩
        rw [← h3]; congr 1; omega)
      simp only [viewFields, hc1, hc2, hrest, R.bind_ok]

theorem serFieldsView_ok (n : Node) (d : Nat) : ∀ (ts : List Ty) (vs : List Val) (i : Nat),
    ts.length = vs.length →
    (∀ j (h1 : j < ts.length) (h2 : j < vs.length), ∃ c, subtreeGet n d (i + j) = .ok c ∧
      serializeView ts[j] c = .ok (serialize ts[j] vs[j])) →
    serFieldsView ts n d i = .ok (serFields ts vs) := by
  intro ts
  induction ts with
  | nil =>
    intro vs i hl _
    cases vs with
    | nil => simp only [serFieldsView, serFields]
    | cons _ _ => simp at hl
  | cons t ts ih =>
    intro vs i hl hj
    cases vs with
    | nil => simp at hl
    | cons v vs =>
      obtain ⟨c, hc1, hc2⟩ := hj 0 (by simp) (by simp)
      simp only [Nat.add_zero, List.getElem_cons_zero] at hc1 hc2
      have hrest := ih vs (i + 1) (by simpa using hl) (fun j h1 h2 => by
        obtain ⟨c, h3, h4⟩ := hj (j + 1) (by simp; omega) (by simp; omega)
        refine ⟨c, ?_, by simpa using h4⟩
        rw [← h3]; congr 1; omega)
      simp only [serFieldsView, hc1, hc2, hrest, R.bind_ok, serFields]

theorem lenFieldsView_ok (n : Node) (d : Nat) : ∀ (ts : List Ty) (vs : List Val) (i : Nat),
    ts.length = vs.length →
    (∀ j (h1 : j < ts.length) (h2 : j < vs.length),
      (ts[j].isFixed = true → (serialize ts[j] vs[j]).length = ts[j].fixedSize) ∧
      (ts[j].isFixed = false → ∃ c, subtreeGet n d (i + j) = .ok c ∧
        valueByteLength ts[j] c = .ok (serialize ts[j] vs[j]).length)) →
    lenFieldsView ts n d i
      = .ok (fixedPartLen (serFields ts vs) + (serVarPart (serFields ts vs)).length) := by
  intro ts
  induction ts with
  | nil =>
    intro vs i hl _
    cases vs with
    | nil => simp only [lenFieldsView, serFields]; rfl
    | cons _ _ => simp at hl
  | cons t ts ih =>
    intro vs i hl hj
    cases vs with
    | nil => simp at hl
    | cons v vs =>
      obtain ⟨hfix, hvar⟩ := hj 0 (by simp) (by simp)
      simp only [Nat.add_zero, List.getElem_cons_zero] at hfix hvar
      have hrest := ih vs (i + 1) (by simpa using hl) (fun j h1 h2 => by
        obtain ⟨h3, h4⟩ := hj (j + 1) (by simp; omega) (by simp; omega)
        refine ⟨by simpa using h3, ?_⟩
        intro hnf
        obtain ⟨c, h5, h6⟩ := h4 (by simpa using hnf)
        refine ⟨c, ?_, by simpa using h6⟩
        rw [← h5]; congr 1; omega)
      simp only [lenFieldsView, hrest, serFields]
      cases hfx : t.isFixed
      · obtain ⟨c, hc1, hc2⟩ := hvar hfx
        simp only [Bool.false_eq_true, if_false, hc1, hc2, R.bind_ok, pure, Except.pure, fixedPartLen,
          serVarPart, List.length_append]
        congr 1; omega
      · simp only [if_true, pure, Except.pure, R.bind_ok, fixedPartLen, serVarPart, hfix hfx]
        congr 1; omega

end ZtypV.View
