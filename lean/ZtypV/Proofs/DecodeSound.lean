/-
C03, by induction over the type:
* `decode_sound`: every successful `decode` consumed exactly its scope, the bytes are the
  encoding of a well-typed value and the backing is what the constructor route builds;
* `decode_noPanic`: for well-formed types no panic outcome of the model is reachable;
and their top-level forms for `decodeTop`.  At the end the data of the examples in Props/C03.lean.
-/
import ZtypV.Proofs.DecodeLeaf
import ZtypV.Proofs.DecodeStruct
namespace ZtypV.DecodeProofs
open ZtypV ZtypV.View

theorem decode_sound (h : HashFn) : (t : Ty) → Sound h t := by
  intro t
  induction t using Ty.induct with
  | uint b => exact uint_sound h b
  | bool => exact bool_sound h
  | bytesN k => exact bytesN_sound h k
  | bitvector k => exact bitvector_sound h k
  | bitlist lim => exact bitlist_sound h lim
  | vector e k ih => exact vector_sound ih k
  | list e lim ih => exact list_sound ih lim
  | container fs ih => exact container_sound ih
  | union hasNone opts ih => exact union_sound ih

theorem decode_noPanic (h : HashFn) : (t : Ty) → t.wf = true → NoPanic h t := by
  intro t
  induction t using Ty.induct with
  | uint b => exact fun _ => uint_noPanic h b
  | bool => exact fun _ => bool_noPanic h
  | bytesN k => exact fun _ => bytesN_noPanic h k
  | bitvector k => exact fun _ => bitvector_noPanic h k
  | bitlist lim => exact fun _ => bitlist_noPanic h lim
  | vector e k ih =>
    intro hw
    exact vector_noPanic (ih (wf_vector hw).2) k (wf_vector hw).1
      (fun b hb => wf_uint (hb ▸ (wf_vector hw).2))
  | list e lim ih =>
    intro hw
    exact list_noPanic (ih (wf_list hw)) lim
      (fun hf => Nat.pos_iff_ne_zero.mp (fixedSize_pos e (wf_list hw) hf))
      (fun b hb => wf_uint (hb ▸ wf_list hw))
  | container fs ih =>
    exact fun hw => container_noPanic (fun t ht => ih t ht (wf_container hw t ht))
  | union hasNone opts ih =>
    exact fun hw => union_noPanic (fun t ht => ih t ht ((wf_union hw).1 t ht))

/-! ### top level -/

theorem decodeTop_noPanic (h : HashFn) (t : Ty) (hw : t.wf = true) (bs : Bytes) :
    decodeTop h t bs ≠ .error .panic := by
  unfold decodeTop
  apply bind_ne_panic (decode_noPanic h t hw _)
  rintro ⟨n, d⟩ _
  exact ok_ne_panic _

theorem new_scope (bs : Bytes) : (DR.new bs bs.length).scope = bs.length := by
  simp [DR.new, DR.scope]

theorem new_avail (bs : Bytes) : (DR.new bs bs.length).avail = bs := by
  simp [DR.new]

/-- composite and variable-size types, and leaf types handed exactly their size -/
theorem decodeTop_sound (h : HashFn) (t : Ty) (bs : Bytes) (n : Node)
    (hleaf : isLeafTy t = true → bs.length = t.fixedSize)
    (hd : decodeTop h t bs = .ok n) :
    ∃ v, hasType t v = true ∧ serialize t v = bs ∧ construct h t v = .ok n := by
  unfold decodeTop at hd
  obtain ⟨⟨n', d⟩, h1, hd⟩ := bind_eq_ok hd
  cases hd
  obtain ⟨v, hv, hser, _, _, hcon⟩ := decode_sound h t _ _ _ h1 (by
    intro hl; rw [new_scope]; exact hleaf hl)
  rw [new_scope, new_avail, List.take_length] at hser
  exact ⟨v, hv, hser, hcon⟩

theorem leafSound_of_isLeafTy (h : HashFn) : (t : Ty) → isLeafTy t = true → LeafSound h t
  | .uint b, _ => uint_leafSound h b
  | .bool, _ => bool_leafSound h
  | .bytesN k, _ => bytesN_leafSound h k
  | .bitvector _, hl | .bitlist _, hl | .vector _ _, hl | .list _ _, hl | .container _, hl
  | .union _ _, hl => by simp [isLeafTy] at hl

/-- leaf types handed more than their size: the decoder is a plain read of the prefix -/
theorem decodeTop_leaf_sound (h : HashFn) (t : Ty) (bs : Bytes) (n : Node)
    (hleaf : isLeafTy t = true) (hd : decodeTop h t bs = .ok n) :
    ∃ v, hasType t v = true ∧ serialize t v = bs.take t.fixedSize ∧ t.fixedSize ≤ bs.length ∧
      construct h t v = .ok n := by
  unfold decodeTop at hd
  obtain ⟨⟨n', d⟩, h1, hd⟩ := bind_eq_ok hd
  cases hd
  obtain ⟨v, hv, hser, hle, _, hcon⟩ := leafSound_of_isLeafTy h t hleaf _ _ _ h1
  rw [new_avail] at hser hle
  exact ⟨v, hv, hser, hle, hcon⟩

/-! ### concrete data for the non-vacuity examples of Props/C03 -/

namespace C03Ex
/-- a simple computable pair hash -/
def h0 : HashFn := fun a b => (a ++ b).take 32
/-- container { uint16, List[uint8, 5], Union[None, uint8], Vector[List[uint16,4], 2], Bitlist[10] } -/
def T : Ty := .container [.uint 2, .list (.uint 1) 5, .union true [.uint 1],
  .vector (.list (.uint 2) 4) 2, .bitlist 10]
/-- fixed part 2+4+4+4+4 = 18; list at 18 (3 bytes), union at 21 (2 bytes), vector at 23
    (offsets 8, 10; items 2 and 4 bytes = 14 bytes), bitlist at 37 (2 bytes: 9 bits) -/
def enc : Bytes := [2, 1, 18, 0, 0, 0, 21, 0, 0, 0, 23, 0, 0, 0, 37, 0, 0, 0,
  7, 8, 9, 1, 5, 8, 0, 0, 0, 10, 0, 0, 0, 1, 0, 2, 0, 3, 0, 255, 3]
end C03Ex

end ZtypV.DecodeProofs
