/-
Concrete objects for the non-vacuity examples of Props/C12.lean: a non-commutative toy pair
hash with pairwise different zero hashes at the heights used, a constant (maximally unfaithful)
hash, and two hand-built `Rep` backings of `List[uint256, 8]` with MATERIALISED zero padding
(as `Pop` leaves it), together with their partial versions.
-/
import ZtypV.Proofs.SummIter
import ZtypV.Proofs.SummView
namespace ZtypV.Partial.Ex
open ZtypV ZtypV.View ZtypV.Partial

/-- toy hash, bytewise `3a + 5b + 1` (non-commutative; `zh` = 0,1,9,73,… bytewise) -/
def exH : HashFn := fun a b => (List.range 32).map fun i => 3 * a.getD i 0 + 5 * b.getD i 0 + 1

/-- the constant hash: every subtree hashes to the zero hash of every height -/
def constH : HashFn := fun _ _ => z0

def exT : Ty := .list (.uint 32) 8

/-- the leaf of the `uint256` value `k` -/
def el (k : Nat) : Node := .leaf (chunkOf (leBytes 32 k))

/-- a materialised zero subtree of height 2 -/
def zmat : Node := .pair (.pair (.leaf z0) (.leaf z0)) (.pair (.leaf z0) (.leaf z0))

def exV3 : Val := .seq [.num 1, .num 2, .num 3]
def exN3 : Node :=
  .pair (.pair (.pair (.pair (el 1) (el 2)) (.pair (el 3) (.leaf z0))) zmat) (lengthNode 3)
/-- `exN3` with the subtree holding element 2 (view path `[false,false,true]`) summarised -/
def exP3 : Node :=
  .pair (.pair (.pair (.pair (el 1) (el 2)) (.leaf (exH (chunkOf (leBytes 32 3)) z0))) zmat)
    (lengthNode 3)

def exV4 : Val := .seq [.num 1, .num 2, .num 3, .num 4]
def exN4 : Node :=
  .pair (.pair (.pair (.pair (el 1) (el 2)) (.pair (el 3) (el 4))) zmat) (lengthNode 4)
/-- `exN4` with the materialised zero subtree (view path `[false,true]`) summarised -/
def exP4 : Node :=
  .pair (.pair (.pair (.pair (el 1) (el 2)) (.pair (el 3) (el 4))) (.leaf (zh exH 2))) (lengthNode 4)

theorem zmat_zero (h : HashFn) : ZeroTree h 2 zmat :=
  ZeroTree.pair (ZeroTree.pair (ZeroTree.leaf 0) (ZeroTree.leaf 0))
    (ZeroTree.pair (ZeroTree.leaf 0) (ZeroTree.leaf 0))

theorem exT_depth : seriesDepth (.uint 32) 8 = 3 := by decide

theorem exRep3 (h : HashFn) : Rep h exT exV3 exN3 := by
  simp only [exT, exV3, exN3, Rep, isBasicElem, if_true]
  refine ⟨by decide, _, rfl, ?_⟩
  have hp : packedNodes (serList (.uint 32) [.num 1, .num 2, .num 3]).flatten = [el 1, el 2, el 3] :=
    rfl
  rw [exT_depth, hp]
  refine (ShapeAux.seqShape_succ_pair ..).mpr ⟨?_, ?_⟩
  · refine (ShapeAux.seqShape_succ_pair ..).mpr ⟨?_, ?_⟩
    · refine (ShapeAux.seqShape_succ_pair ..).mpr ⟨?_, ?_⟩ <;>
        simp only [SeqShape, Nat.pow_zero, List.take_succ_cons, List.take_zero, List.drop_succ_cons,
          List.drop_zero]
    · refine (ShapeAux.seqShape_succ_pair ..).mpr ⟨?_, ?_⟩
      · simp only [SeqShape, Nat.pow_zero, List.take_succ_cons, List.take_nil, List.drop_succ_cons,
          List.drop_zero]
      · exact (ShapeAux.seqShape_nil ..).mpr (ZeroTree.leaf 0)
  · exact (ShapeAux.seqShape_nil ..).mpr (zmat_zero h)

/-- `exN4` is what `Append(4)` makes of `exN3` -/
theorem exRep4 (h : HashFn) : Rep h exT exV4 exN4 := by
  obtain ⟨n', hn', hrep, _⟩ := append_rep h exT exV3 exN3 (.num 4) (.leaf z0) (by decide)
    (depthOk_of_inRange exT (by decide)) (by decide) (exRep3 h) (by decide)
    (fun hc => absurd hc (by decide))
  cases (show Mut.append h exT exN3 (.num 4) (.leaf z0) = .ok exN4 from rfl).symm.trans hn'
  exact hrep

theorem exSumm3 : Summ exH exN3 exP3 :=
  Summ.pair (Summ.pair (Summ.pair (Summ.refl _) (Summ.collapse _)) (Summ.refl _)) (Summ.refl _)

theorem exSumm4 : Summ exH exN4 exP4 :=
  Summ.pair (Summ.pair (Summ.refl _) (Summ.of_root_eq (zeroTree_root exH (zmat_zero exH)))) (Summ.refl _)

theorem exFaithful4' : ZeroFaithful exH 4 exN4 := by
  refine ⟨fun hr => absurd hr (by decide), ⟨fun hr => absurd hr (by decide), ?_, ?_⟩, True.intro⟩
  · refine ⟨fun hr => absurd hr (by decide), ?_, ?_⟩
    · exact ⟨fun hr => absurd hr (by decide), True.intro, True.intro⟩
    · exact ⟨fun hr => absurd hr (by decide), True.intro, True.intro⟩
  · refine ⟨fun _ => zmat_zero exH, ?_, ?_⟩
    · exact ⟨fun _ => ZeroTree.pair (ZeroTree.leaf 0) (ZeroTree.leaf 0), True.intro, True.intro⟩
    · exact ⟨fun _ => ZeroTree.pair (ZeroTree.leaf 0) (ZeroTree.leaf 0), True.intro, True.intro⟩

theorem exFaithful4 : ZeroFaithful exH (viewDepth exT) exN4 := by
  have hd : viewDepth exT = 4 := by decide
  rw [hd]; exact exFaithful4'

theorem exFaithful3 : ZeroFaithful exH (viewDepth exT) exN3 := by
  have hd : viewDepth exT = 4 := by decide
  rw [hd]
  refine ⟨fun hr => absurd hr (by decide), ⟨fun hr => absurd hr (by decide), ?_, ?_⟩, True.intro⟩
  · refine ⟨fun hr => absurd hr (by decide), ?_, ?_⟩
    · exact ⟨fun hr => absurd hr (by decide), True.intro, True.intro⟩
    · exact ⟨fun hr => absurd hr (by decide), True.intro, True.intro⟩
  · refine ⟨fun _ => zmat_zero exH, ?_, ?_⟩
    · exact ⟨fun _ => ZeroTree.pair (ZeroTree.leaf 0) (ZeroTree.leaf 0), True.intro, True.intro⟩
    · exact ⟨fun _ => ZeroTree.pair (ZeroTree.leaf 0) (ZeroTree.leaf 0), True.intro, True.intro⟩

/-- `Append` through the summarised zero subtree of `exP4`: the setter expands it, and the
    untouched half of the expanded subtree stays a summary `leaf (zh exH 1)` -/
theorem exAppendP4 : Mut.append exH exT exP4 (.num 9) (.leaf z0) =
    .ok (.pair (.pair (.pair (.pair (el 1) (el 2)) (.pair (el 3) (el 4)))
      (.pair (.pair (el 9) (.leaf z0)) (.leaf (zh exH 1)))) (lengthNode 5)) := by rfl

/-- a container holding the list: `Container{uint64, List[uint256,8]}` = `(7, [1,2,3])` -/
def exTC : Ty := .container [.uint 8, exT]
def exVC : Val := .seq [.num 7, exV3]
def exNC : Node := .pair (.leaf (chunkOf (leBytes 8 7))) exN3
def exPC : Node := .pair (.leaf (chunkOf (leBytes 8 7))) exP3

theorem exRepC (h : HashFn) : Rep h exTC exVC exNC := by
  simp only [exTC, exVC, exNC, Rep]
  refine ⟨[.leaf (chunkOf (leBytes 8 7)), exN3], ⟨rfl, exRep3 h, True.intro⟩, ?_⟩
  have hd : coverDepth [Ty.uint 8, exT].length = 1 := by decide
  rw [hd]
  refine (ShapeAux.seqShape_succ_pair ..).mpr ⟨?_, ?_⟩ <;>
    simp only [SeqShape, Nat.pow_zero, List.take_succ_cons, List.take_zero, List.drop_succ_cons,
      List.drop_zero]

theorem exSummC : Summ exH exNC exPC := Summ.pair (Summ.refl _) exSumm3

/-- the contents subtrees (iterator anchors) of `exN3` / `exP3` -/
def exC3 : Node := .pair (.pair (.pair (el 1) (el 2)) (.pair (el 3) (.leaf z0))) zmat
def exCP3 : Node :=
  .pair (.pair (.pair (el 1) (el 2)) (.leaf (exH (chunkOf (leBytes 32 3)) z0))) zmat

theorem exSummC3 : Summ exH exC3 exCP3 :=
  Summ.pair (Summ.pair (Summ.refl _) (Summ.collapse _)) (Summ.refl _)

theorem exLeavesC3 : BottomLeaves exC3 3 := by
  have h1 := (rep_readLeaves exH (exRep3 exH)).2 rfl
  have hd : viewDepth exT = 3 + 1 := by decide
  rw [hd] at h1
  exact h1.left

end ZtypV.Partial.Ex
