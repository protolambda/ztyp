/-
Lemmas on the type-definition accessors of Model/Api.lean in `UInt64` arithmetic (stated for an
arbitrary `perNode` and for every element size up to 32; Props/C02c.lean puts in the five uint
sizes), `ByteBitIndex`, the panics of `typeString`, and the cast table.
-/
import ZtypV.Model.Api
import ZtypV.Proofs.BasicApi
import ZtypV.Proofs.Bitfields
import ZtypV.Proofs.Sizes
namespace ZtypV.Api
open ZtypV ZtypV.View

/-- the element sizes of `UintMeta`: uint8/16/32/64/256 -/
abbrev uintSize (s : Nat) : Prop := BasicApi.uintSize s

theorem elementsPerBottomNode_zero : elementsPerBottomNode 0 = none := by decide

theorem uintSize_bounds {s : Nat} (h : uintSize s) : 0 < s ∧ s ≤ 32 := by
  rcases h with rfl | rfl | rfl | rfl | rfl <;> decide

theorem toNat_perNode (s : Nat) : (UInt64.ofNat (32 / s)).toNat = 32 / s :=
  UInt64.toNat_ofNat_of_lt' (Nat.lt_of_le_of_lt (Nat.div_le_self 32 s) (by decide))

theorem ne_zero_of_toNat_pos {p : UInt64} (h : 0 < p.toNat) : p ≠ 0 :=
  fun h' => Nat.lt_irrefl 0 (by rwa [h'] at h)

theorem elementsPerBottomNode_ofNat (s : Nat) (h0 : 0 < s) (h : s < 2 ^ 64) :
    elementsPerBottomNode (UInt64.ofNat s) = some (UInt64.ofNat (32 / s)) := by
  have hs : (UInt64.ofNat s).toNat = s := UInt64.toNat_ofNat_of_lt' h
  rw [elementsPerBottomNode, if_neg (ne_zero_of_toNat_pos (hs.symm ▸ h0))]
  congr 1
  apply UInt64.toNat_inj.mp
  rw [UInt64.toNat_div, hs, toNat_perNode]
  rfl

theorem toNat_pred {p : UInt64} (hp : 0 < p.toNat) : (p - 1).toNat = p.toNat - 1 :=
  UInt64.toNat_sub_of_le _ _ (UInt64.le_iff_toNat_le.mpr hp)

/-- Go's `(limit + perNode - 1) / perNode` in `uint64`: only the rounding addition can wrap -/
theorem toNat_roundUpDiv (limit p : UInt64) (hp : 0 < p.toNat) :
    ((limit + p - 1) / p).toNat = ((limit.toNat + p.toNat - 1) % 2 ^ 64) / p.toNat := by
  rw [UInt64.sub_eq_add_neg, UInt64.add_assoc, ← UInt64.sub_eq_add_neg, UInt64.toNat_div,
    UInt64.toNat_add, toNat_pred hp, Nat.add_sub_assoc hp]

theorem bottomNodeLimit_val {elemSize p : UInt64} (he : elementsPerBottomNode elemSize = some p)
    (hp : 0 < p.toNat) (limit : UInt64) :
    ∃ v, bottomNodeLimit limit elemSize = some v ∧
      v.toNat = ((limit.toNat + p.toNat - 1) % 2 ^ 64) / p.toNat :=
  ⟨_, by simp only [bottomNodeLimit, he, ne_zero_of_toNat_pos hp, if_false], toNat_roundUpDiv limit p hp⟩

theorem bottomNodeLimit_ofNat (s : Nat) (h0 : 0 < s) (h : s ≤ 32) (limit : UInt64) :
    ∃ v, bottomNodeLimit limit (UInt64.ofNat s) = some v ∧
      v.toNat = ((limit.toNat + 32 / s - 1) % 2 ^ 64) / (32 / s) := by
  simpa only [toNat_perNode] using bottomNodeLimit_val
    (elementsPerBottomNode_ofNat s h0 (Nat.lt_of_le_of_lt h (by decide)))
    (by rw [toNat_perNode]; exact Nat.div_pos h h0) limit

theorem perNode_pow (s : Nat) (h : uintSize s) : ∃ k, k ≤ 5 ∧ 32 / s = 2 ^ k := by
  rcases h with rfl | rfl | rfl | rfl | rfl
  · exact ⟨5, by decide⟩
  · exact ⟨4, by decide⟩
  · exact ⟨3, by decide⟩
  · exact ⟨2, by decide⟩
  · exact ⟨0, by decide⟩

/-- `index & (perNode - 1)` is `index % perNode` because `perNode` is a power of two, and fits
    the `uint8` because that power is at most 32 -/
theorem translateIndex_val {elemSize p : UInt64} (he : elementsPerBottomNode elemSize = some p)
    {k : Nat} (hk : k ≤ 5) (hp : p.toNat = 2 ^ k) (index : UInt64) :
    ∃ a b, translateIndex elemSize index = some (a, b) ∧
      a.toNat = index.toNat / 2 ^ k ∧ b.toNat = index.toNat % 2 ^ k := by
  have h0 : 0 < p.toNat := hp ▸ Nat.two_pow_pos k
  refine ⟨index / p, (index &&& (p - 1)).toUInt8,
    by simp only [translateIndex, he, ne_zero_of_toNat_pos h0, if_false],
    by rw [UInt64.toNat_div, hp], ?_⟩
  rw [UInt64.toNat_toUInt8, UInt64.toNat_and, toNat_pred h0, hp, Nat.and_two_pow_sub_one_eq_mod]
  exact Nat.mod_eq_of_lt (Nat.lt_of_lt_of_le (Nat.mod_lt _ (Nat.two_pow_pos k))
    (Nat.le_trans (Nat.pow_le_pow_right (by decide) hk) (by decide)))

/-- the same three halving steps as `bitfields.BitIndex` -/
theorem byteBitIndex_eq_bitIndex (v : UInt8) : byteBitIndex v = Bitfields.bitIndex v := by
  simp only [byteBitIndex, Bitfields.bitIndex, bne_iff_ne, UInt64.zero_or]

/-- `ByteBitIndex` is the function Model/Decode.lean uses for the delimiter bit -/
theorem byteBitIndex_eq_decode (v : UInt8) : (byteBitIndex v).toNat = View.byteBitIndex v := by
  rw [byteBitIndex_eq_bitIndex]; exact Bitfields.bitIndex_eq_log2 v

mutual
/-- `String()` of the type definition reaches the nil option of a `Union[None, …]`: through
    series element types and union options, not through container fields (a container's
    `String()` is its name) -/
def strPanics : Ty → Bool
  | .vector e _ | .list e _ => strPanics e
  | .union hasNone opts => hasNone || anyStrPanics opts
  | _ => false
def anyStrPanics : List Ty → Bool
  | [] => false
  | t :: ts => strPanics t || anyStrPanics ts
end

theorem anyStrPanics_iff (ts : List Ty) : anyStrPanics ts = true ↔ ∃ t, t ∈ ts ∧ strPanics t = true := by
  induction ts with
  | nil => simp [anyStrPanics]
  | cons t ts ih => simp [anyStrPanics, ih]

/-- both `TypeRepr` loops panic exactly when `String()` of some member does -/
theorem optionStrings_none_iff (ts : List Ty) :
    optionStrings ts = none ↔ ∃ t, t ∈ ts ∧ typeString t = none := by
  induction ts with
  | nil => simp [optionStrings]
  | cons t ts ih => rw [optionStrings]; cases hs : typeString t <;> simp [hs, ih]

theorem fieldLines_none_iff (ts : List Ty) (i : Nat) :
    fieldLines ts i = none ↔ ∃ t, t ∈ ts ∧ typeString t = none := by
  induction ts generalizing i with
  | nil => simp [fieldLines]
  | cons t ts ih => rw [fieldLines]; cases hs : typeString t <;> simp [hs, ih]

theorem typeString_none_iff : ∀ t : Ty, typeString t = none ↔ strPanics t = true := by
  apply Ty.induct
  · intro b; exact ⟨nofun, nofun⟩
  · exact ⟨nofun, nofun⟩
  · intro n; rw [typeString]; split <;> exact ⟨nofun, nofun⟩
  · intro n; exact ⟨nofun, nofun⟩
  · intro n; exact ⟨nofun, nofun⟩
  · intro e n ih; rw [typeString, strPanics, Option.map_eq_none_iff, ih]
  · intro e n ih; rw [typeString, strPanics, Option.map_eq_none_iff, ih]
  · intro fs _; exact ⟨nofun, nofun⟩
  · intro hn fs ih
    rw [typeString, strPanics]
    cases hn
    · rw [if_neg nofun, Option.map_eq_none_iff, optionStrings_none_iff, Bool.false_or, anyStrPanics_iff]
      exact exists_congr fun t => and_congr_right (ih t)
    · exact ⟨fun _ => rfl, fun _ => rfl⟩

/-- series of booleans: basic in the SSZ sense, complex in the library (known finding D3) -/
def boolSeries : Ty → Bool
  | .vector .bool _ | .list .bool _ => true
  | _ => false

/-- `IsBasic` of the library and of the SSZ spec differ on `bool` only -/
theorem isBasicElem_eq_isBasic {e : Ty} (he : e ≠ .bool) : isBasicElem e = e.isBasic := by
  cases e <;> first | rfl | exact absurd rfl he

/-- `UintMeta` of any other size has no view -/
theorem uintSize_of_kindOf {b : Nat} {k : Kind} (hk : kindOf (.uint b) = some k) : uintSize b := by
  show b = 1 ∨ b = 2 ∨ b = 4 ∨ b = 8 ∨ b = 32
  apply Decidable.byContradiction
  intro hn
  simp only [not_or] at hn
  simp only [kindOf, hn, if_false] at hk
  cases hk

/-- on every type but boolean series the Go type assertion succeeds exactly for the SSZ type
    the cast is for -/
theorem accepts_eq_isFor (c : Cast) (t : Ty) (k : Kind) (hk : kindOf t = some k)
    (hb : boolSeries t = false) : c.accepts k = c.isFor t := by
  -- a table of 20 casts by 16 view types; `eq_refl` rather than `rfl`: the cells are closed by
  -- `Eq.refl` alone
  cases t with
  | uint b =>
    rcases uintSize_of_kindOf hk with rfl | rfl | rfl | rfl | rfl <;> cases hk <;> cases c <;> eq_refl
  | bytesN n =>
    by_cases hn : n = 32
    · subst hn; cases hk; cases c <;> eq_refl
    · rw [kindOf, if_neg hn] at hk
      cases hk
      cases c <;> first | eq_refl | simp [Cast.accepts, Cast.isFor, hn]
  | vector e n | list e n =>
    -- all casts but the two for this series are `false = false`
    have he : e ≠ .bool := by rintro rfl; cases hb
    rw [kindOf, isBasicElem_eq_isBasic he] at hk
    cases hi : e.isBasic <;> rw [hi] at hk <;> cases hk <;> cases c <;>
      first | eq_refl | simp [Cast.accepts, Cast.isFor, hi]
  | _ => cases hk; cases c <;> eq_refl

theorem apply_err (c : Cast) : c.apply .err = none := rfl
theorem apply_nil (c : Cast) : c.apply .nil = none := rfl

theorem kindOf_isSome_of_wf (t : Ty) (hw : t.wf = true) : (kindOf t).isSome = true := by
  cases t with
  | uint b => rcases wf_uint hw with rfl | rfl | rfl | rfl | rfl <;> rfl
  | bytesN n | vector e n | list e n => simp only [kindOf]; split <;> rfl
  | _ => rfl

theorem asIncoming_view (t : Ty) (n : Node) (hw : t.wf = true) :
    asIncoming (.ok (some (t, n))) = .ok (.view t n) := by
  simp only [asIncoming, kindOf_isSome_of_wf t hw, if_true]

theorem asIncoming_error {e : Err} (he : e ≠ .panic) : asIncoming (.error e) = .ok .err := by
  cases e <;> first | rfl | exact absurd rfl he

end ZtypV.Api
