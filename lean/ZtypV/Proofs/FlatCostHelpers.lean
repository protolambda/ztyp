/-
C20, flat side: amortised allocation bounds of the codec helpers, generic in the item / field
deserializers.  Every helper is one `Pays` statement (Proofs/CostLogic.lean) that covers both the
accepted and the rejected runs; the slack `E` of failing runs is `rate · scope + F`.
-/
import ZtypV.Proofs.FlatCostRes
import ZtypV.Proofs.FlatCostMono
namespace ZtypV.FlatCostProofs
open ZtypV ZtypV.View ZtypV.Flat ZtypV.DecodeProofs ZtypV.CostProofs ZtypV.FlatProofs

variable {α β : Type}

/-! ### the invariants of a decoder -/

/-- `f` is a cost-instrumented decoder of type `t`: its result is a sound decoder of `t` (`DSound`:
    consumes exactly `need t dr` bytes) that does not enlarge the remaining scope; a successful run
    costs at most `r` units per consumed byte, every run at most
    `r · (bytes available) + r · scope + F` -/
structure Good (t : Ty) (r F : Nat) (f : DR → CR (Val × DR)) : Prop where
  sound : DSound t (fun d => (f d).res)
  mono : Mono (fun d => (f d).res)
  ok : ∀ (dr : DR) (v : Val) (dr' : DR), (f dr).res = .ok (v, dr') → (f dr).cost ≤ r * need t dr
  any : ∀ dr : DR, (f dr).cost ≤ r * dr.avail.length + r * dr.scope + F

theorem Good.weaken {t : Ty} {r r' F F' : Nat} {f : DR → CR (Val × DR)} (g : Good t r F f)
    (hr : r ≤ r') (hF : F ≤ F') : Good t r' F' f where
  sound := g.sound
  mono := g.mono
  ok := fun dr v dr' h => Nat.le_trans (g.ok dr v dr' h) (Nat.mul_le_mul_right _ hr)
  any := fun dr => Nat.le_trans (g.any dr) (Nat.add_le_add
    (Nat.add_le_add (Nat.mul_le_mul_right _ hr) (Nat.mul_le_mul_right _ hr)) hF)

/-- a `Good` decoder on the reader it is given (`FixedLenContainer`, `Union`): the consumed
    bytes pay -/
theorem Good.pays {t : Ty} {r F : Nat} {f : DR → CR (Val × DR)} (g : Good t r F f) (dr : DR) :
    Pays (f dr) (r * dr.avail.length) (fun p => r * p.2.avail.length) (fun p => p.2.scope ≤ dr.scope)
      (r * dr.scope + F) := by
  unfold Pays Spec
  cases h : (f dr).res with
  | error e => have := g.any dr; omega
  | ok p =>
    obtain ⟨_, _, s1, s2⟩ := g.sound _ _ _ h
    have e1 := mul_split r _ _ s1
    rw [← List.length_drop, ← s2] at e1
    have := g.ok _ _ _ h
    exact ⟨g.mono _ _ _ h, by dsimp only; omega⟩

theorem need_subDR {t : Ty} {dr : DR} {count : Nat} (hc : t.isFixed = true → count = t.fixedSize) :
    need t (subDR dr count) = count := by
  cases hf : t.isFixed with
  | true => rw [need_fixed hf, hc hf]
  | false => rw [need_var hf, subDR_scope]

/-- one item of type `t` in its own sub-scope of `count` bytes, accounted at a rate `ρ ≥ r`: the
    `SubScope` and the item's `r` per byte come out of `k` and of `ρ` per byte of the item -/
theorem Good.inSub {t : Ty} {r F ρ k : Nat} {f : DR → CR (Val × DR)} (g : Good t r F f) {count : Nat}
    (hc : t.isFixed = true → count = t.fixedSize) (hρ : r ≤ ρ) (hk : 96 + r * count ≤ k + ρ * count)
    (dr : DR) :
    Pays (dr.inSubC count f) (k + ρ * dr.avail.length) (fun p => ρ * p.2.avail.length)
      (fun p => p.2.scope = dr.scope) (ρ * dr.scope + F) := by
  refine inSub_pays (c := 0) ?_ hρ (by omega)
  unfold Spec
  cases hd : (f (subDR dr count)).res with
  | error e => exact Nat.le_trans (Nat.le_of_eq (Nat.zero_add _)) (g.any (subDR dr count))
  | ok p =>
    obtain ⟨_, _, h1, h2⟩ := g.sound _ _ _ hd
    have hk' := g.ok _ _ _ hd
    rw [need_subDR hc] at h1 h2 hk'
    exact ⟨h1, h2, by omega⟩

/-! ### destination slices: every run -/

theorem resizeC_cost_le (s : Slice) (n : Nat) : (s.resizeC n).cost ≤ n := by
  unfold Slice.resizeC
  dsimp only
  split
  · exact Nat.le_refl _
  · exact Nat.zero_le _

theorem decByteVectorC_all (dst : Slice) (n : Nat) (dr : DR) :
    Spec 0 (decByteVectorC dst n dr) (fun _ c => c ≤ n) n := by
  unfold decByteVectorC
  exact spec_le (resizeC_cost_le dst n) (fun _ _ hc => spec_lift (fun _ _ => by omega) (by omega))
    (by omega)

theorem decByteListC_all (dst : Slice) (lim : Nat) (dr : DR) :
    Spec 0 (decByteListC dst lim dr) (fun _ c => c ≤ dr.scope) dr.scope := by
  unfold decByteListC
  exact spec_guard (Nat.zero_le _) fun _ => spec_le (resizeC_cost_le dst _)
    (fun _ _ hc => spec_lift (fun _ _ => by omega) (by omega)) (by omega)

/-- the destination resized to `n` bytes, the read, a check of what was read -/
theorem resize_read_check {dst : Slice} {n : Nat} {dr : DR} {chk : Slice → Bool} :
    Spec 0 (do
      let d ← dst.resizeC n
      let (s, dr') ← CR.lift (d.readFull dr)
      if chk s = true then (pure (s, dr') : CR (Slice × DR)) else CR.fail .other)
      (fun _ c => c ≤ n) n :=
  spec_le (resizeC_cost_le dst n) (fun _ _ hc => spec_bind (spec_lift
    (fun _ _ => spec_ite (fun _ => spec_pure (by omega)) fun _ => spec_fail (by omega)) (by omega)))
    (by omega)

theorem decBitVectorC_all (dst : Slice) (n : Nat) (dr : DR) :
    Spec 0 (decBitVectorC dst n dr) (fun _ c => c ≤ (n + 7) / 8) ((n + 7) / 8) :=
  resize_read_check (chk := fun s => bitvectorCheck s.bytes n)

theorem decBitListC_all (dst : Slice) (lim : Nat) (dr : DR) :
    Spec 0 (decBitListC dst lim dr) (fun _ c => c ≤ dr.scope) dr.scope := by
  unfold decBitListC
  exact spec_guard (Nat.zero_le _) fun _ => resize_read_check (chk := fun s => bitlistCheck s.bytes lim)

theorem readRootsC_all (dst : RSlice) (n : Nat) (dr : DR) :
    Spec 0 (readRootsC dst n dr) (fun _ c => c ≤ 32 * n) (32 * n) := by
  unfold readRootsC
  have : 0 + (if dst.len ≠ n ∧ dst.cap < n then 32 * n else 0) ≤ 32 * n := by split <;> omega
  exact spec_tick (spec_lift (fun _ _ => this) this)

theorem readRootsLimitedC_all (dst : RSlice) (lim : Nat) (dr : DR) :
    Spec 0 (readRootsLimitedC dst lim dr) (fun _ c => c ≤ dr.scope) dr.scope := by
  unfold readRootsLimitedC
  have := Nat.mul_div_le dr.scope 32
  exact spec_guard (Nat.zero_le _) fun _ => spec_guard (Nat.zero_le _) fun _ =>
    (readRootsC_all dst (dr.scope / 32) dr).mono (fun _ _ hc => by omega) this

/-! ### items of one fixed size (`Vector`, `List`, fixed-size branch) -/

/-- `pre`, the `SubScope` and the item out of the budget of one more item -/
theorem item_budget (pre n x : Nat) : pre + (96 + x + (pre + 96) * n) ≤ (pre + 96) * (n + 1) + x := by
  rw [Nat.mul_succ]; omega

/-- each item costs `pre`, one `SubScope` and `r` per byte of its own -/
theorem fixedItems_pays {e : Ty} {r F : Nat} (pre size : Nat)
    (hc : e.isFixed = true → size = e.fixedSize) :
    ∀ (items : List DesC) (dr : DR), (∀ it ∈ items, Good e r F it.run) →
    Pays (decFixedItemsC pre size items dr) ((pre + 96) * items.length + r * dr.avail.length)
      (fun p => r * p.2.avail.length) (fun p => p.1.length ≤ items.length ∧ p.2.scope = dr.scope)
      (r * dr.scope + F)
  | [], dr, _ => by
    rw [decFixedItemsC]
    exact Pays.pure ⟨Nat.le_refl _, rfl⟩ (Nat.le_add_left _ _)
  | it :: its, dr, hg => by
    rw [decFixedItemsC]
    exact (Pays.tick (item_cons_pays ((hg it (by simp)).inSub hc (Nat.le_refl r) (Nat.le_refl _) dr)
      fun d1 => fixedItems_pays pre size hc its d1 fun j hj => hg j (by simp [hj]))).weaken
      (item_budget _ _ _) (Nat.le_refl _)

/-! ### offset-delimited items (`Vector`, `List`, variable-size branch) -/

theorem not_fixed_elim {e : Ty} {count : Nat} (hv : e.isFixed = false) :
    e.isFixed = true → count = e.fixedSize := by
  intro h; rw [hv] at h; cases h

theorem offsetItems_pays {e : Ty} {r F : Nat} (hv : e.isFixed = false) (pre : Nat) (vec : Bool)
    (S : Nat) : ∀ (offs : List Nat) (items : List DesC) (prev : Nat) (dr : DR),
    (∀ it ∈ items, Good e r F it.run) →
    Pays (decOffsetItemsC pre vec S prev offs items dr) ((pre + 96) * offs.length + r * dr.avail.length)
      (fun p => r * p.2.avail.length) (fun p => p.1.length ≤ offs.length ∧ p.2.scope = dr.scope)
      (r * dr.scope + F)
  | [], items, prev, dr, _ => by
    rw [decOffsetItemsC]
    exact Pays.pure ⟨Nat.le_refl _, rfl⟩ (Nat.le_add_left _ _)
  | _ :: _, [], prev, dr, _ => by
    rw [decOffsetItemsC]
    exact Pays.fail
  | off :: rest, it :: its, prev, dr, hg => by
    rw [decOffsetItemsC]
    exact Pays.guard fun _ => (Pays.tick (Pays.guard fun _ => item_cons_pays ((hg it (by simp)).inSub
      (not_fixed_elim hv) (Nat.le_refl r) (Nat.le_refl _) dr) fun d1 =>
        offsetItems_pays hv pre vec S rest its _ d1 fun j hj => hg j (by simp [hj]))).weaken
      (item_budget _ _ _) (Nat.le_refl _)

/-! ### reads -/

theorem readOffsetsN_pays (ρ E n : Nat) (dr : DR) :
    Pays (readOffsetsNC n dr) (ρ * dr.avail.length) (fun p => ρ * (4 * n) + ρ * p.2.avail.length)
      (fun p => p.1.length = n ∧ p.2.scope + 4 * n = dr.scope) E :=
  Pays.lift fun _ hp => by
    obtain ⟨ol, s1, v1⟩ := readOffsetsN_ok_len _ _ _ _ hp
    exact ⟨⟨ol, s1⟩, read_release v1⟩

/-! ### `Vector` -/

/-- the offset table (8 per slot, allocated before any check) and the `SubScope`s: 104 per item -/
theorem decVectorC_pays {e : Ty} {r F : Nat} (hwe : e.wf = true) (items : List DesC)
    (hg : ∀ it ∈ items, Good e r F it.run) (dr : DR) :
    Pays (decVectorC items (flatFixedLength e) dr) (104 * items.length + r * dr.avail.length)
      (fun p => r * p.2.avail.length) (fun _ => e.isFixed = false → 4 * items.length ≤ dr.scope)
      (r * dr.scope + F) := by
  unfold decVectorC
  cases hf : e.isFixed with
  | true =>
    rw [if_pos ((flatFixedLength_ne_zero_iff hwe).mpr hf)]
    exact ((fixedItems_pays 0 _ (fun _ => flatFixedLength_fixed hwe hf) items dr hg).weaken
      (Nat.add_le_add_right (Nat.mul_le_mul_right _ (by decide)) _) (Nat.le_refl _)).post
      fun _ _ => ⟨fun h => (nomatch h), Nat.le_refl _⟩
  | false =>
    rw [if_neg (not_not_intro (flatFixedLength_var hwe hf))]
    refine (Pays.tick (Pays.bind ((readOffsetsN_pays r _ _ dr).frame (96 * items.length)) ?_)).weaken
      (by omega) (Nat.le_refl _)
    rintro ⟨offs, d1⟩ ⟨ol, s1⟩
    dsimp only at ol s1 ⊢
    refine Pays.guard fun _ => ?_
    exact ((offsetItems_pays hf 0 true dr.scope offs items 0 d1 hg).weaken (by rw [ol]; omega)
      (slack_le F (Nat.le.intro s1))).post
      fun _ _ => ⟨fun _ => Nat.le.intro (Nat.add_comm _ _ ▸ s1), Nat.le_refl _⟩

/-! ### `List` -/

theorem mem_replicate_good {e : Ty} {r F : Nat} {add : DR → CR (Val × DR)} (ha : Good e r F add)
    (k fl : Nat) : ∀ it ∈ List.replicate k (⟨fl, add⟩ : DesC), Good e r F it.run := by
  intro it hit
  rw [(List.mem_replicate.mp hit).2]; exact ha

/-- the offset table and the items out of `A + 104` per byte of scope -/
theorem list_budget {A L S : Nat} (x y : Nat) (h : 4 * L ≤ S) :
    8 * L + (x + (A + 96) * L) ≤ y + x + (A + 104) * S := by
  have : 8 * L + (A + 96) * L ≤ (A + 104) * S := by
    rw [← Nat.add_mul]
    exact Nat.mul_le_mul (by omega) (by omega)
  omega

/-- `A` for each `add()`, the offset table (8 per item, allocated after the check
    `firstOffset ≤ scope`) and the `SubScope`s: at most `A + 104` per byte of scope, because an
    item takes at least one byte (fixed size) or the four bytes of its offset -/
theorem decListC_pays {e : Ty} {r F : Nat} (hwe : e.wf = true) (A : Nat) {add : DR → CR (Val × DR)}
    (ha : Good e r F add) (lim : Nat) (dr : DR) :
    Pays (decListC A add (flatFixedLength e) lim dr) ((A + 104) * dr.scope + r * dr.avail.length)
      (fun p => r * p.2.avail.length) (fun _ => True) (r * dr.scope + F) := by
  unfold decListC
  dsimp only
  refine Pays.ite (fun _ => Pays.pure trivial (Nat.le_add_left _ _)) fun hs0 => ?_
  cases hf : e.isFixed with
  | true =>
    rw [if_pos ((flatFixedLength_ne_zero_iff hwe).mpr hf)]
    refine Pays.guard fun _ => Pays.guard fun _ => ?_
    refine ((fixedItems_pays A _ (fun _ => flatFixedLength_fixed hwe hf) _ dr
      (mem_replicate_good ha _ _)).weaken ?_ (Nat.le_refl _)).post fun _ _ => ⟨trivial, Nat.le_refl _⟩
    rw [List.length_replicate]
    exact Nat.add_le_add_right
      (Nat.mul_le_mul (Nat.add_le_add_left (by decide) A) (Nat.div_le_self _ _)) _
  | false =>
    rw [if_neg (not_not_intro (flatFixedLength_var hwe hf))]
    refine (Pays.bind ((readOffset_pays r _ dr).frame ((A + 104) * dr.scope)) ?_).weaken
      (Nat.le_of_eq (Nat.add_comm _ _)) (Nat.le_refl _)
    rintro ⟨first, d1⟩ s1
    dsimp only at s1 ⊢
    refine Pays.guard fun c1 => Pays.guard fun c2 => Pays.guard fun c3 => ?_
    generalize hL : first / 4 = L
    obtain ⟨hL4, hL1⟩ := first_offset c1 c2 hL
    replace hL1 := Nat.sub_add_cancel hL1
    refine (Pays.tick (Pays.bind ((readOffsetsN_pays r _ _ d1).frame ((A + 96) * L)) ?_)).weaken
      (list_budget _ _ hL4) (Nat.le_refl _)
    rintro ⟨os, d2⟩ ⟨ol, s2⟩
    dsimp only at ol s2 ⊢
    exact ((offsetItems_pays hf A false dr.scope (first :: os) _ 0 d2 (mem_replicate_good ha _ _)).weaken
      (by rw [List.length_cons, ol, hL1, Nat.add_comm]
          exact Nat.add_le_add_right (Nat.le_add_left _ _) _)
      (slack_le F (Nat.le_trans (Nat.le.intro s2) (Nat.le.intro s1)))).post
      fun _ _ => ⟨trivial, Nat.le_refl _⟩

/-! ### `FixedLenContainer`: the fields on the container's own reader -/

/-- the field deserializers report the fixed length of their type and satisfy the invariants -/
def FieldsGood (r F : Nat) : List Ty → List DesC → Prop
  | [], [] => True
  | t :: ts, f :: fs => f.fixedLength = flatFixedLength t ∧ Good t r F f.run ∧ FieldsGood r F ts fs
  | _, _ => False

theorem FieldsGood.length {r F : Nat} : ∀ {ts : List Ty} {fs : List DesC}, FieldsGood r F ts fs →
    fs.length = ts.length
  | [], [], _ => rfl
  | [], _ :: _, h => by cases h
  | _ :: _, [], h => by cases h
  | t :: ts, f :: fs, h => by simp [FieldsGood.length h.2.2]

theorem fixedLen_pays {r F : Nat} : ∀ (ts : List Ty) (fields : List DesC) (dr : DR),
    FieldsGood r F ts fields →
    Pays (decFixedLenContainerC fields dr) (r * dr.avail.length) (fun p => r * p.2.avail.length)
      (fun p => p.2.scope ≤ dr.scope) (r * dr.scope + F)
  | [], [], dr, _ => by
    rw [decFixedLenContainerC]
    exact Pays.pure (Nat.le_refl _) (Nat.le_refl _)
  | [], _ :: _, _, hs => by cases hs
  | _ :: _, [], _, hs => by cases hs
  | t :: ts, f :: fs, dr, ⟨_, hg, hss⟩ => by
    rw [decFixedLenContainerC]
    refine Pays.bind (hg.pays dr) ?_
    rintro ⟨x, d1⟩ a2
    refine Pays.bind ((fixedLen_pays ts fs d1 hss).weaken (Nat.le_refl _) (slack_le F a2)) ?_
    rintro ⟨xs, d2⟩ b2
    exact Pays.pure (Nat.le_trans b2 a2) (Nat.le_refl _)

/-! ### `Container` -/

theorem rate_step {r ρ s : Nat} (h : 96 + r ≤ ρ) (hs : 1 ≤ s) : 96 + r * s ≤ 0 + ρ * s := by
  have h1 : (96 + r) * s ≤ ρ * s := Nat.mul_le_mul_right s h
  have h2 : (96 + r) * s = 96 * s + r * s := Nat.add_mul _ _ _
  omega

/-- the 4 bytes of an offset pay the two appends and leave the 96 of the later `SubScope` -/
theorem offset_credit {ρ a : Nat} (h : 96 ≤ ρ) : 16 + (16 + (ρ * a + 96)) ≤ ρ * 4 + ρ * a := by omega

theorem credit_succ (n x : Nat) : 96 * (n + 1) + x ≤ 96 * n + x + 96 := by omega

/-- first loop: a fixed-size field pays its `SubScope` with its own bytes; a dynamic field pays
    its two appends AND the `SubScope` of the second loop (the 96 left per dynamic field) with
    the 4 bytes of its offset -/
theorem containerFixed_pays {r F ρ : Nat} (hρ : 96 + r ≤ ρ) : ∀ (ts : List Ty) (fields : List DesC)
    (dr : DR), Ty.wfAll ts = true → FieldsGood r F ts fields →
    Pays (decContainerFixedC fields dr) (ρ * dr.avail.length)
      (fun p => 96 * p.2.2.1.length + ρ * p.2.2.2.avail.length)
      (fun p => p.2.2.2.scope ≤ dr.scope ∧ FieldsGood r F (varTys ts) p.2.2.1) (ρ * dr.scope + F)
  | [], [], dr, _, _ => by
    rw [decContainerFixedC]
    exact Pays.pure ⟨Nat.le_refl _, trivial⟩ (by simp)
  | [], _ :: _, _, _, hs => by cases hs
  | _ :: _, [], _, _, hs => by cases hs
  | t :: ts, f :: fs, dr, hw, ⟨hfl, hg, hss⟩ => by
    simp only [Ty.wfAll, Bool.and_eq_true] at hw
    have ih := containerFixed_pays (F := F) hρ ts fs
    have hvt : varTys (t :: ts) = if t.isFixed = true then varTys ts else t :: varTys ts := rfl
    rw [decContainerFixedC, hvt, hfl]
    cases hf : t.isFixed with
    | true =>
      have hfix := flatFixedLength_fixed hw.1 hf
      rw [if_pos ((flatFixedLength_ne_zero_iff hw.1).mpr hf), if_pos rfl]
      refine Pays.bind ((hg.inSub (fun _ => hfix) (Nat.le_trans (Nat.le_add_left _ _) hρ)
        (rate_step hρ (by rw [hfix]; exact fixedSize_pos _ hw.1 hf)) dr).weaken
        (Nat.le_of_eq (Nat.zero_add _)) (Nat.le_refl _)) ?_
      rintro ⟨x, d1⟩ a2
      refine Pays.bind ((ih d1 hw.2 hss).weaken (Nat.le_refl _) (slack_le F (Nat.le_of_eq a2))) ?_
      rintro ⟨sl, os, dy, d2⟩ ⟨b1, b2⟩
      exact Pays.pure ⟨Nat.le_trans b1 (Nat.le_of_eq a2), b2⟩ (Nat.le_refl _)
    | false =>
      rw [if_neg (not_not_intro (flatFixedLength_var hw.1 hf)), if_neg Bool.false_ne_true]
      refine Pays.bind (readOffset_pays ρ _ dr) ?_
      rintro ⟨o, d1⟩ a1
      refine (Pays.tick (Pays.tick (Pays.bind (((ih d1 hw.2 hss).weaken (Nat.le_refl _)
        (slack_le F (Nat.le.intro a1))).frame 96) ?_))).weaken
        (offset_credit (Nat.le_trans (Nat.le_add_right _ _) hρ)) (Nat.le_refl _)
      rintro ⟨sl, os, dy, d2⟩ ⟨b1, b2⟩
      exact Pays.pure ⟨Nat.le_trans b1 (Nat.le.intro a1), hfl, hg, b2⟩
        (credit_succ _ _)

theorem dyn_budget (n x : Nat) : 96 + x + 96 * n ≤ 96 * (n + 1) + x := by
  rw [Nat.mul_succ]; omega

/-- second loop: the `SubScope`s were paid by the offsets -/
theorem containerDyn_pays {r F ρ : Nat} (hρ : 96 + r ≤ ρ) (S : Nat) : ∀ (offs : List Nat)
    (dyn : List DesC) (ts : List Ty) (dr : DR),
    (∀ t ∈ ts, t.isFixed = false) → FieldsGood r F ts dyn →
    Pays (decContainerDynC S offs dyn dr) (96 * dyn.length + ρ * dr.avail.length)
      (fun p => ρ * p.2.avail.length) (fun p => p.1.length ≤ offs.length ∧ p.2.scope = dr.scope)
      (ρ * dr.scope + F)
  | [], dyn, ts, dr, _, _ => by
    rw [decContainerDynC]
    exact Pays.pure ⟨Nat.le_refl _, rfl⟩ (Nat.le_add_left _ _)
  | _ :: _, [], ts, dr, _, _ => by
    rw [decContainerDynC]
    exact Pays.fail
  | off :: rest, f :: fs, [], dr, _, hs => by cases hs
  | off :: rest, f :: fs, t :: ts, dr, hv, ⟨_, hg, hss⟩ => by
    have hrρ : r ≤ ρ := Nat.le_trans (Nat.le_add_left _ _) hρ
    rw [decContainerDynC]
    exact Pays.guard fun _ => (item_cons_pays (hg.inSub (not_fixed_elim (hv t (by simp))) hrρ
      (Nat.add_le_add_left (Nat.mul_le_mul_right _ hrρ) 96) dr) fun d1 =>
        containerDyn_pays hρ S rest fs ts d1 (fun t' ht' => hv t' (by simp [ht'])) hss).weaken
      (dyn_budget _ _) (Nat.le_refl _)

theorem decContainerC_pays {r F ρ : Nat} (hρ : 96 + r ≤ ρ) {ts : List Ty} {fields : List DesC}
    (hw : Ty.wfAll ts = true) (hs : FieldsGood r F ts fields) (dr : DR) :
    Pays (decContainerC fields dr) (ρ * dr.avail.length) (fun p => ρ * p.2.avail.length)
      (fun _ => True) (ρ * dr.scope + F) := by
  unfold decContainerC
  dsimp only
  refine Pays.bind (containerFixed_pays hρ ts fields dr hw hs) ?_
  rintro ⟨slots, offs, dyn, d1⟩ ⟨a1, a2⟩
  refine Pays.ite (fun _ => Pays.pure trivial (Nat.le_add_left _ _)) fun _ => Pays.guard fun _ => ?_
  refine Pays.bind ((containerDyn_pays hρ dr.scope offs dyn (varTys ts) d1 (varTys_var ts)
    a2).weaken (Nat.le_refl _) (slack_le F a1)) ?_
  rintro ⟨vs, d2⟩ _
  exact Pays.pure trivial (Nat.le_refl _)

/-! ### `Union` -/

/-- what the `selectFn` delivers: at most `Z` units; a destination is a `Good` decoder -/
def SelGood (r F Z : Nat) (select : Nat → CR (Option DesC)) : Prop :=
  ∀ s, Pays (select s) Z (fun _ => 0) (fun dest => ∀ d, dest = some d → ∃ t : Ty, Good t r F d.run) 0

theorem sel_budget (Z s x y : Nat) : Z + x ≤ y + x + Z * (s + 1) := by
  rw [Nat.mul_succ]; omega

/-- the selector byte pays for the destination, the option's own bytes for the option -/
theorem decUnionC_pays {r F Z : Nat} {select : Nat → CR (Option DesC)} (hsel : SelGood r F Z select)
    (dr : DR) :
    Pays (decUnionC select dr) (Z * dr.scope + r * dr.avail.length) (fun p => r * p.2.avail.length)
      (fun _ => True) (r * dr.scope + F) := by
  unfold decUnionC
  refine (Pays.bind ((read_pays r _ 1 dr).frame (Z * dr.scope)) ?_).weaken
    (Nat.le_of_eq (Nat.add_comm _ _)) (Nat.le_refl _)
  rintro ⟨sb, d1⟩ a1
  dsimp only at a1 ⊢
  refine (Pays.bind (((hsel _).weaken (Nat.le_refl _) (Nat.zero_le _)).frame (r * d1.avail.length))
    ?_).weaken (by rw [← a1]; exact sel_budget _ _ _ _) (Nat.le_refl _)
  rintro (_ | d) hd
  · exact Pays.guard fun _ => Pays.guard fun _ => Pays.pure trivial (Nat.le_add_left _ _)
  obtain ⟨t, hg⟩ := hd d rfl
  refine Pays.guard fun _ => Pays.bind ((hg.pays d1).weaken (Nat.le_of_eq (Nat.zero_add _).symm)
    (slack_le F (Nat.le.intro a1))) ?_
  rintro ⟨v, d2⟩ _
  exact Pays.pure trivial (Nat.le_refl _)

end ZtypV.FlatCostProofs
