/-
`Rep h t v n` (Proofs/Rep.lean) generalises "n = construct h t v": zero padding of a series may
be a summary leaf or a materialised zero tree, so it is closed under the mutators (C04 / C12).
The statements about the constructor route and the default route (`construct_root`,
`defaultNode_root`, C01, C02) are instances: `constructRep_all` / `defaultRep_all`, then the
theorem about `Rep`.
-/
import ZtypV.Proofs.RepView1
import ZtypV.Proofs.RepView2
import ZtypV.Proofs.RepView3
import ZtypV.Proofs.RepView4
namespace ZtypV
open View

/-- everything the read side says about a `Rep` backing, in one statement -/
theorem rep_all (h : HashFn) {t : Ty} {v : Val} {n : Node} (hwf : t.wf = true)
    (hr : inRange t = true) (hty : hasType t v = true) (hs : SizeOk t v) (hrep : Rep h t v n) :
    viewVal t n = .ok v ∧ serializeView t n = .ok (serialize t v) ∧
      valueByteLength t n = .ok (serialize t v).length ∧
      (noBoolSeries t = true → n.root h = htr h t v) :=
  ⟨rep_getters h hwf hr hty hrep, rep_ser_sizeOk h hwf hr hty hs hrep, rep_len h hwf hr hty hrep,
    fun hnb => rep_root h hwf hnb hty hrep⟩

/-! ### the constructor route and the default route, as instances -/

/-- the constructors succeed on every typed value and the root of what they build is the spec
    root (C01, constructor route) -/
theorem construct_root (h : HashFn) (t : Ty) (v : Val) (hwf : t.wf = true)
    (hnb : noBoolSeries t = true) (hty : hasType t v = true) :
    ∃ n, construct h t v = .ok n ∧ n.root h = htr h t v := by
  obtain ⟨n, hn, hrep⟩ := constructRep_all h t v hwf hty
  exact ⟨n, hn, rep_root h hwf hnb hty hrep⟩

theorem constructList_root (h : HashFn) (e : Ty) (vs : List Val) (hwf : e.wf = true)
    (hnb : noBoolSeries e = true) (hall : allHaveType e vs = true) :
    ∃ ns, constructList h e vs = .ok ns ∧ ns.map (Node.root h) = htrList h e vs := by
  obtain ⟨ns, hns, hrl⟩ := constructList_rep h e vs
    (fun v hv => constructRep_all h e v hwf (allHaveType_mem e vs hall v hv))
  exact ⟨ns, hns, repList_roots h e vs ns
    (fun v hv _ hr => rep_root h hwf hnb (allHaveType_mem e vs hall v hv) hr) hrl⟩

theorem fields_roots (h : HashFn) {fs : List Ty} {vs : List Val} {xs : List Node}
    (hwf : Ty.wfAll fs = true) (hnb : noBoolSeriesAll fs = true)
    (hall : fieldsHaveType fs vs = true) (hrf : RepFields h fs vs xs) :
    xs.map (Node.root h) = htrFields h fs vs :=
  repFields_roots h fs vs xs (fun j h0 h1 _ hr =>
    rep_root h (wfAll_get fs j _ hwf (List.getElem?_eq_getElem h0))
      (ViewRoot.noBoolSeriesAll_mem fs _ hnb (List.getElem_mem h0))
      (fieldsHaveType_getElem fs vs hall j h0 h1) hr) hrf

theorem constructFields_root (h : HashFn) (fs : List Ty) (vs : List Val)
    (hwf : Ty.wfAll fs = true) (hnb : noBoolSeriesAll fs = true)
    (hall : fieldsHaveType fs vs = true) :
    ∃ ns, constructFields h fs vs = .ok ns ∧ ns.map (Node.root h) = htrFields h fs vs := by
  obtain ⟨ns, hns, hrf⟩ := constructFields_rep h fs vs (fieldsHaveType_length fs vs hall)
    (fun j h1 h2 => constructRep_all h _ _ (wfAll_get fs j _ hwf (List.getElem?_eq_getElem h1))
      (fieldsHaveType_getElem fs vs hall j h1 h2))
  exact ⟨ns, hns, fields_roots h hwf hnb hall hrf⟩

/-- `DefaultNode` succeeds on every well-formed type and the root of the default backing is the
    spec root of the default value (C01, default route) -/
theorem defaultNode_root (h : HashFn) (t : Ty) (hwf : t.wf = true) (hnb : noBoolSeries t = true) :
    ∃ n, defaultNode h t = .ok n ∧ n.root h = htr h t (defaultVal t) := by
  obtain ⟨n, hn, hrep⟩ := defaultRep_all h t hwf
  exact ⟨n, hn, rep_root h hwf hnb (defaultVal_hasType t hwf) hrep⟩

theorem defaultNodes_root (h : HashFn) (fs : List Ty) (hwf : Ty.wfAll fs = true)
    (hnb : noBoolSeriesAll fs = true) :
    ∃ ns, defaultNodes h fs = .ok ns ∧
      ns.map (Node.root h) = htrFields h fs (defaultVals fs) := by
  obtain ⟨ns, hns, hrf⟩ := defaultNodes_rep h fs (fun t _ => defaultRep_all h t) hwf
  exact ⟨ns, hns, fields_roots h hwf hnb (defaultVals_hasType fs hwf) hrf⟩

/-! ### non-vacuity -/

/-- a non-commutative toy hash for the examples -/
def rvExH : HashFn := fun a b => (a ++ b.reverse).take 32

-- `decide +kernel` below: closed test vectors, evaluated once, by the kernel
example : c01ExTy.wf = true := by decide
example : noBoolSeries c01ExTy = true := by decide
example : inRange c01ExTy = true := by decide +kernel
example : hasType c01ExTy c01ExVal = true := by decide +kernel
theorem rvEx_size : (serialize c01ExTy c01ExVal).length < 2 ^ 32 := by decide +kernel

/-- the constructed backing of a nested value using every type constructor is a `Rep` backing,
    and all read-side conclusions apply to it -/
example : ∃ n, construct rvExH c01ExTy c01ExVal = .ok n ∧ Rep rvExH c01ExTy c01ExVal n ∧
    n.root rvExH = htr rvExH c01ExTy c01ExVal ∧ viewVal c01ExTy n = .ok c01ExVal ∧
    serializeView c01ExTy n = .ok (serialize c01ExTy c01ExVal) := by
  have hty : hasType c01ExTy c01ExVal = true := by decide +kernel
  have hr : inRange c01ExTy = true := by decide +kernel
  obtain ⟨n, hn, hrep⟩ := constructRep_all rvExH c01ExTy c01ExVal (by decide) hty
  exact ⟨n, hn, hrep, rep_root rvExH (by decide) (by decide) hty hrep,
    rep_getters rvExH (by decide) hr hty hrep, rep_ser rvExH (by decide) hr hty rvEx_size hrep⟩

example : ∃ n, defaultNode rvExH c01ExTy = .ok n ∧ Rep rvExH c01ExTy (defaultVal c01ExTy) n :=
  defaultRep_all rvExH c01ExTy (by decide)

/-! `Rep` is strictly more general than "constructed": `List[uint256, 4]` holding `[1]` with the
right half of the contents *materialised* (as `Pop` leaves it) instead of summarised -/

def rvExT : Ty := .list (.uint 32) 4
def rvExV : Val := .seq [.num 1]
def rvExN : Node :=
  .pair (.pair (.pair (.leaf (chunkOf (leBytes 32 1))) (.leaf z0)) (.pair (.leaf z0) (.leaf z0)))
    (lengthNode 1)

theorem rvEx_rep : Rep rvExH rvExT rvExV rvExN := by
  simp only [rvExT, rvExV, Rep, isBasicElem, if_true]
  refine ⟨by decide, _, rfl, ?_⟩
  have hd : seriesDepth (.uint 32) 4 = 2 := by decide
  have hp : packedNodes (serList (.uint 32) [.num 1]).flatten = [.leaf (chunkOf (leBytes 32 1))] := by
    decide +kernel
  rw [hd, hp]
  refine (ShapeAux.seqShape_succ_pair ..).mpr ⟨?_, ?_⟩
  · refine (ShapeAux.seqShape_succ_pair ..).mpr ⟨?_, ?_⟩
    · simp only [SeqShape, Nat.pow_zero, Nat.pow_succ, List.take_succ_cons, List.take_zero]
    · exact (ShapeAux.seqShape_nil ..).mpr (ZeroTree.leaf 0)
  · exact (ShapeAux.seqShape_nil ..).mpr (ZeroTree.pair (ZeroTree.leaf 0) (ZeroTree.leaf 0))

example : ∃ n, construct rvExH rvExT rvExV = .ok n ∧ n ≠ rvExN := ⟨_, rfl, by decide +kernel⟩

example : rvExN.root rvExH = htr rvExH rvExT rvExV ∧ viewVal rvExT rvExN = .ok rvExV ∧
    serializeView rvExT rvExN = .ok (serialize rvExT rvExV) ∧
    valueByteLength rvExT rvExN = .ok 32 :=
  ⟨rep_root rvExH (by decide) (by decide) (by decide) rvEx_rep,
    rep_getters rvExH (by decide) (by decide) (by decide) rvEx_rep,
    rep_ser rvExH (by decide) (by decide) (by decide) (by decide) rvEx_rep,
    rep_len rvExH (by decide) (by decide) (by decide) rvEx_rep⟩

end ZtypV
