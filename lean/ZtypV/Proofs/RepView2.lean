/-
The typed getters on any `Rep` backing return the components of the value (`rep_getters`).
Series are read through `shape_get` / `listShape_get` / `listShape_length` of Proofs/Shape.lean.
-/
import ZtypV.Proofs.RepView1
import ZtypV.Proofs.ViewTraverse
namespace ZtypV
open View RepMut

/-! ### reads through an abstract getter

`get i` stands for `subtreeGet n d i` (vector-like views, via `shape_get`) or
`subtreeGet n (d + 1) i` (list-like views, via `listShape_get`). -/

theorem bits_read_get (get : Nat → R Node) (bs : List Bool)
    (hget : ∀ i (hi : i < (packedNodes (packBits bs)).length),
      get i = .ok (packedNodes (packBits bs))[i]) :
    (List.range bs.length).mapM (fun i => do
      let x ← get (i / 256)
      let r ← asLeaf x
      (Except.ok (bitFromChunk r i) : R Bool)) = .ok bs := by
  apply mapM_range_ok
  intro i hi
  have hi' : i / 256 < (packedNodes (packBits bs)).length := by
    rw [packedNodes_length, packBits_length]; omega
  rw [hget _ hi', packedNodes_getElem]
  simp only [R.bind_ok, asLeaf_leaf, bit_read bs i hi]

theorem basics_read_get (get : Nat → R Node) (b : Nat) (vs : List Val)
    (hp : b * perNode b = 32) (hall : allHaveType (.uint b) vs = true)
    (hget : ∀ i (hi : i < (packedNodes (serList (.uint b) vs).flatten).length),
      get i = .ok (packedNodes (serList (.uint b) vs).flatten)[i]) :
    (List.range vs.length).mapM (fun i => do
      let x ← get (i / perNode b)
      let r ← asLeaf x
      basicFromChunk b r (i % perNode b)) = .ok vs := by
  apply mapM_range_ok
  intro i hi
  obtain ⟨h1, h2⟩ := basic_read b vs i hi hp hall
  have hi' : i / perNode b < (packedNodes (serList (.uint b) vs).flatten).length := by
    rw [packedNodes_length]; exact h1
  rw [hget _ hi', packedNodes_getElem]
  simp only [R.bind_ok, asLeaf_leaf]
  exact h2

theorem elems_get {β : Type} (get : Nat → R Node) (f : Node → R β) (xs : List Node)
    (out : List β) (hlen : xs.length = out.length)
    (hget : ∀ i (hi : i < xs.length), get i = .ok xs[i])
    (helem : ∀ i (h1 : i < xs.length) (h2 : i < out.length), f xs[i] = .ok out[i]) :
    (List.range out.length).mapM (fun i => do let c ← get i; f c) = .ok out := by
  apply mapM_range_ok
  intro i hi
  have hi' : i < xs.length := by omega
  rw [hget i hi']
  exact helem i hi' hi

/-! ### the typed getters -/

theorem repGet_elems (h : HashFn) (e : Ty) (vs : List Val) (xs : List Node) (get : Nat → R Node)
    (ih : ∀ v ∈ vs, ∀ n, inRange e = true → Rep h e v n → viewVal e n = .ok v)
    (hre : inRange e = true) (hrl : RepList h e vs xs)
    (hget : ∀ i (hi : i < xs.length), get i = .ok xs[i]) :
    (List.range vs.length).mapM (fun i => do let c ← get i; viewVal e c) = .ok vs :=
  elems_get get (viewVal e) xs vs (repList_length _ _ _ _ hrl) hget (fun i h1 h2 =>
    ih vs[i] (List.getElem_mem h2) xs[i] hre (repList_get _ _ _ _ hrl i h2 h1))

theorem repGet_all (h : HashFn) : ∀ t v, t.wf = true → hasType t v = true →
    ∀ n, inRange t = true → Rep h t v n → viewVal t n = .ok v := by
  refine typed_induct ?uint ?bool ?bytesN ?bitvector ?bitlist ?vector ?list ?container
    ?unionNone ?unionSome
  case uint =>
    intro b k hb hk n _ hrep
    simp only [Rep] at hrep
    subst hrep
    have h1 := chunkOf_take_self (leBytes b k) (by simp; omega)
    rw [leBytes_length] at h1
    have h2 : leNat (leBytes b k) = k := by rw [leNat_leBytes]; exact Nat.mod_eq_of_lt hk
    simp only [viewVal, asLeaf_leaf, R.bind_ok, h1, h2]
  case bool =>
    intro b n _ hrep
    simp only [Rep] at hrep
    subst hrep
    simp only [viewVal, asLeaf_leaf, R.bind_ok, chunkOf_single_getD]
    cases b <;> simp
  case bytesN =>
    intro k bs _ hk ht n _ hrep
    simp only [Rep] at hrep
    subst hrep
    have := chunkOf_take_self bs (by omega)
    rw [ht] at this
    simp only [viewVal, asLeaf_leaf, R.bind_ok, this]
  case bitvector =>
    intro k bs ht n hr hrep
    simp only [inRange, decide_eq_true_eq] at hr
    simp only [Rep] at hrep
    have hm := bits_read_get (subtreeGet n (bitDepth k)) bs
      (fun i hi => shape_get h hrep.2 hi hr)
    rw [ht] at hm
    simp only [viewVal, readBits, hm, R.bind_ok]
  case bitlist =>
    intro lim bs ht n hr hrep
    simp only [inRange, Bool.and_eq_true, decide_eq_true_eq] at hr
    simp only [Rep] at hrep
    have hm := bits_read_get (subtreeGet n (bitDepth lim + 1)) bs
      (fun i hi => listShape_get h hrep.2 hi hr.2)
    simp only [viewVal]
    rw [listShape_length h hrep.2 ht (by omega), R.bind_ok, hm, R.bind_ok]
  case vector =>
    intro e k vs _ hwe hlen hall ih n hr hrep
    simp only [inRange, Bool.and_eq_true, decide_eq_true_eq] at hr
    cases hb : isBasicElem e
    · simp only [Rep, hb, Bool.false_eq_true, if_false] at hrep
      obtain ⟨_, xs, hrl, hs⟩ := hrep
      have hd : coverDepth k < 64 := by rw [← seriesDepth_complex hb k]; exact hr.1
      have hm := repGet_elems h e vs xs (subtreeGet n (coverDepth k)) ih hr.2 hrl
        (fun i hi => shape_get h hs hi hd)
      rw [hlen] at hm
      simp only [viewVal, hb, Bool.false_eq_true, if_false, hm, R.bind_ok]
    · obtain ⟨b, rfl⟩ := isBasicElem_uint hb
      simp only [Rep, isBasicElem, if_true] at hrep
      have hm := basics_read_get (subtreeGet n (seriesDepth (.uint b) k)) b vs (uint_per hwe) hall
        (fun i hi => shape_get h hrep.2 hi hr.1)
      rw [hlen] at hm
      simp only [viewVal, isBasicElem, if_true, readBasics, Ty.fixedSize, hm, R.bind_ok]
  case list =>
    intro e lim vs hwe hlen hall ih n hr hrep
    simp only [inRange, Bool.and_eq_true, decide_eq_true_eq] at hr
    cases hb : isBasicElem e
    · simp only [Rep, hb, Bool.false_eq_true, if_false] at hrep
      obtain ⟨_, xs, hrl, hs⟩ := hrep
      have hd : coverDepth lim + 1 < 64 := by rw [← seriesDepth_complex hb lim]; omega
      have hm := repGet_elems h e vs xs (subtreeGet n (coverDepth lim + 1)) ih hr.2 hrl
        (fun i hi => listShape_get h hs hi hd)
      simp only [viewVal, hb, Bool.false_eq_true, if_false]
      rw [listShape_length h hs hlen (by omega), R.bind_ok, hm, R.bind_ok]
    · obtain ⟨b, rfl⟩ := isBasicElem_uint hb
      simp only [Rep, isBasicElem, if_true] at hrep
      have hm := basics_read_get (subtreeGet n (seriesDepth (.uint b) lim + 1)) b vs
        (uint_per hwe) hall (fun i hi => listShape_get h hrep.2 hi hr.1.2)
      simp only [viewVal, isBasicElem, if_true, Ty.fixedSize]
      rw [listShape_length h hrep.2 hlen (by omega), R.bind_ok, hm, R.bind_ok]
  case container =>
    intro fs vs _ hlen _ ih n hr hrep
    simp only [inRange, Bool.and_eq_true, decide_eq_true_eq] at hr
    simp only [Rep] at hrep
    obtain ⟨xs, hrf, hs⟩ := hrep
    have hl := (repFields_length _ _ _ _ hrf).2
    have hfields : viewFields fs n (coverDepth fs.length) 0 = .ok vs := by
      apply viewFields_ok n _ fs vs 0 hlen
      intro j h1 h2
      have h3 : j < xs.length := by omega
      refine ⟨xs[j], ?_, ?_⟩
      · rw [Nat.zero_add]; exact shape_get h hs h3 hr.1
      · exact ih j h1 h2 xs[j] (inRangeAll_get fs j _ hr.2 (List.getElem?_eq_getElem h1))
          (repFields_get _ _ _ _ hrf j h1 h2 h3)
    simp only [viewVal, hfields, R.bind_ok]
  case unionNone =>
    intro opts n _ hrep
    obtain ⟨_, _, hn⟩ := rep_union_none.mp hrep
    subst hn
    rw [viewVal_union true opts _ (by omega)]
    simp
  case unionSome =>
    intro hasNone opts sel v t ho hvn hs _ _ ih n hr hrep
    simp only [inRange] at hr
    obtain ⟨hlt, hnz, hget⟩ := unionOpt_some ho
    obtain ⟨c, hrc, hn⟩ := (rep_union_some ho hvn).mp hrep
    subst hn
    rw [viewVal_union hasNone opts c hs, if_neg (by omega)]
    simp only [hnz, Bool.false_eq_true, if_false, viewOpt_get opts _ t c hget,
      ih c (inRangeAll_get opts _ t hr hget) hrc, R.bind_ok]

/-- C02, getters: reading any `Rep` backing through the typed getters returns the value -/
theorem rep_getters (h : HashFn) {t : Ty} {v : Val} {n : Node} (hwf : t.wf = true)
    (hr : inRange t = true) (hty : hasType t v = true) (hrep : Rep h t v n) :
    viewVal t n = .ok v :=
  repGet_all h t v hwf hty n hr hrep

end ZtypV
