/-
C02 round trip, decoder completeness (the converse of Proofs/DecodeSound.lean): by induction over
the type, the decoder of a well-formed type accepts every reader whose stream starts with the
encoding of a typed value (shorter than 2^32 bytes: offsets are 32-bit words) and whose scope is
exactly the encoding's length; by soundness and the injectivity of `serialize` the decoded backing
is the one the constructors build for that value.
-/
import ZtypV.Proofs.DecodeCompleteStruct
import ZtypV.Proofs.SerInj
namespace ZtypV.DecodeProofs
open ZtypV ZtypV.View

theorem decode_complete_all (h : HashFn) : (t : Ty) → t.wf = true → Complete h t := by
  intro t
  induction t using Ty.induct with
  | uint b => exact fun _ => (uint_leafComplete h b).complete rfl
  | bool => exact fun _ => (bool_leafComplete h).complete rfl
  | bytesN k => exact fun _ => (bytesN_leafComplete h k).complete rfl
  | bitvector k => exact fun _ => bitvector_complete h k
  | bitlist lim => exact fun _ => bitlist_complete h lim
  | vector e k ih =>
    exact fun hw => vector_complete (ih (wf_vector hw).2) (wf_vector hw).2 k (wf_vector hw).1
  | list e lim ih => exact fun hw => list_complete (ih (wf_list hw)) (wf_list hw) lim
  | container fs ih =>
    exact fun hw => container_complete (fun t ht => ih t ht (wf_container hw t ht))
  | union hasNone opts ih =>
    exact fun hw => union_complete (fun t ht => ih t ht ((wf_union hw).1 t ht)) (wf_union hw).2

/-- **Decoder completeness.**  For a well-formed type `t`, a typed value `v` whose encoding is
    shorter than 2^32 bytes and ANY reader whose stream starts with `serialize t v` and whose
    scope is exactly the encoding's length, `Deserialize` succeeds, consumes exactly the
    encoding, and returns the backing the constructors build for `v`. -/
theorem decode_complete (h : HashFn) (t : Ty) (v : Val) (dr : DR) (rest : Bytes)
    (hwf : t.wf = true) (hty : hasType t v = true) (hsize : (serialize t v).length < 2 ^ 32)
    (hscope : dr.scope = (serialize t v).length) (hi : dr.i ≤ dr.max)
    (hav : dr.avail = serialize t v ++ rest) :
    ∃ n dr', decode h t dr = .ok (n, dr') ∧ dr'.avail = rest ∧ construct h t v = .ok n := by
  obtain ⟨⟨n, dr'⟩, hd, ha⟩ := decode_complete_all h t hwf v dr rest hty hsize hscope hi hav
  refine ⟨n, dr', hd, ha, ?_⟩
  -- the value soundness finds behind the accepted bytes is `v`: `serialize` is injective
  obtain ⟨v', hty', hser, _, _, hcon⟩ := decode_sound h t dr n dr' hd (fun hl =>
    hscope.trans (serialize_fixed_length v t (isFixed_of_isLeafTy hl) hty))
  rw [hscope, hav, List.take_left] at hser
  rw [serialize_injective t v v' hwf hty hty' hsize hser.symm]
  exact hcon

/-- **Top-level completeness.**  `Deserialize` over `serialize t v` with scope = its length
    succeeds, and the decoded backing is exactly what the constructors build for `v`. -/
theorem decodeTop_complete (h : HashFn) (t : Ty) (v : Val) (hwf : t.wf = true)
    (hty : hasType t v = true) (hsize : (serialize t v).length < 2 ^ 32) :
    ∃ n, decodeTop h t (serialize t v) = .ok n ∧ construct h t v = .ok n := by
  obtain ⟨n, dr', hd, _, hcon⟩ := decode_complete h t v (DR.new (serialize t v) (serialize t v).length)
    [] hwf hty hsize (new_scope _) (Nat.zero_le _) (by rw [new_avail, List.append_nil])
  refine ⟨n, ?_, hcon⟩
  unfold decodeTop
  rw [hd]; rfl

end ZtypV.DecodeProofs
