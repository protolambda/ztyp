/-
Lemmas for property C19 (text/JSON number and hex conversions): the transcribed Go parsers and
formatters of Model/Conv against the specification vocabulary of its part C.

Characters first: one byte table relates every per-character function of the Go code to `charVal`.
Then each parser in two steps: its loop against `good`, `digitsVal` and `sepState` (ParseUint,
underscoreOK, nat.scan) or `hexDenotes` (hex.Decode), and the function around the loop against
`denotes`, `denotesInt`.  Last the ztyp layer (quotes, widths, narrowing casts) against `specNum`,
`specInt256` and `specHex`.
-/
import ZtypV.Model.Conv
namespace ZtypV.Conv

/-! ## characters -/

theorem u8_table (P : UInt8 → Prop) (h : ∀ n, n < 256 → P (UInt8.ofNat n)) : ∀ c, P c := by
  intro c
  have := h c.toNat c.toNat_lt
  simpa using this

/-- the digit test of `underscoreOK`'s loop -/
def usTest (hex : Bool) (c : UInt8) : Prop :=
  (0x30 ≤ c ∧ c ≤ 0x39) ∨ (hex = true ∧ 0x61 ≤ lower c ∧ lower c ≤ 0x66)

instance (hex : Bool) (c : UInt8) : Decidable (usTest hex c) := by unfold usTest; infer_instance

/-- Every per-character function of the transcribed Go code against `charVal`, the one notion of
digit value on the specification side; a table over the 256 bytes, evaluated once.  The fourth
line: a hex digit passes the digit test of `underscoreOK`, a decimal digit even without the test
for hex letters. -/
theorem char_table (c : UInt8) :
    (strconvDigit c).map UInt8.toNat = charVal c ∧
    bigDigit c = (charVal c).getD 63 ∧
    fromHex c = (if (charVal c).getD 16 < 16 then UInt8.ofNat ((charVal c).getD 16) else 0xff) ∧
    (isDig 16 c = true → usTest (!isDig 10 c) c) ∧
    (lower c = 0x62 → c = 0x62 ∨ c = 0x42) ∧ (lower c = 0x6f → c = 0x6f ∨ c = 0x4f) ∧
    (lower c = 0x78 → c = 0x78 ∨ c = 0x58) ∧
    (charVal c).getD 0 < 36 := by
  revert c; apply u8_table; decide +kernel

theorem strconvDigit_eq (c : UInt8) : (strconvDigit c).map UInt8.toNat = charVal c := (char_table c).1

theorem bigDigit_eq (c : UInt8) : bigDigit c = (charVal c).getD 63 := (char_table c).2.1

theorem fromHex_eq (c : UInt8) :
    fromHex c = (if (charVal c).getD 16 < 16 then UInt8.ofNat ((charVal c).getD 16) else 0xff) :=
  (char_table c).2.2.1

theorem usTest_of_isDig16 (c : UInt8) (h : isDig 16 c = true) : usTest (!isDig 10 c) c :=
  (char_table c).2.2.2.1 h

theorem charVal_lt (c : UInt8) : ∀ d, charVal c = some d → d < 36 := by
  intro d h
  have := (char_table c).2.2.2.2.2.2.2
  rwa [h] at this

theorem lower_b (c : UInt8) : lower c = 0x62 ↔ (c = 0x62 ∨ c = 0x42) :=
  ⟨(char_table c).2.2.2.2.1, by rintro (rfl | rfl) <;> rfl⟩

theorem lower_o (c : UInt8) : lower c = 0x6f ↔ (c = 0x6f ∨ c = 0x4f) :=
  ⟨(char_table c).2.2.2.2.2.1, by rintro (rfl | rfl) <;> rfl⟩

theorem lower_x (c : UInt8) : lower c = 0x78 ↔ (c = 0x78 ∨ c = 0x58) :=
  ⟨(char_table c).2.2.2.2.2.2.1, by rintro (rfl | rfl) <;> rfl⟩

/-! ## digit strings -/

def good (base : Nat) (body : Text) : Bool := body.all fun c => c = 0x5f || isDig base c

theorem isDig_us (base : Nat) : isDig base 0x5f = false := by
  simp [isDig, charVal]

theorem isDig_ne_us {base : Nat} {c : UInt8} (h : isDig base c = true) : c ≠ 0x5f := by
  intro hc; subst hc; rw [isDig_us] at h; cases h

theorem isDig_iff {base : Nat} {c : UInt8} : isDig base c = true ↔ ∃ d, charVal c = some d ∧ d < base := by
  unfold isDig
  cases h : charVal c with
  | none => simp
  | some d => simp

theorem isDig_mono {b b' : Nat} {c : UInt8} (h : isDig b c = true) (hb : b ≤ b') : isDig b' c = true := by
  rw [isDig_iff] at *
  obtain ⟨d, h1, h2⟩ := h
  exact ⟨d, h1, by omega⟩

@[simp] theorem good_nil (base : Nat) : good base [] = true := rfl

theorem good_cons (base : Nat) (c : UInt8) (r : Text) :
    good base (c :: r) = ((c = 0x5f || isDig base c) && good base r) := by
  simp [good]

theorem digitsVal_mono (base : Nat) (hb : 1 ≤ base) (body : Text) (acc : Nat) :
    acc ≤ digitsVal base acc body := by
  induction body generalizing acc with
  | nil => simp [digitsVal]
  | cons c r ih =>
    unfold digitsVal
    split
    · exact ih acc
    · have := ih (acc * base + (charVal c).getD 0)
      have h2 : acc ≤ acc * base := Nat.le_mul_of_pos_right acc hb
      omega

theorem digitsVal_mono_acc (base : Nat) (body : Text) (a b : Nat) (h : a ≤ b) :
    digitsVal base a body ≤ digitsVal base b body := by
  induction body generalizing a b with
  | nil => simpa [digitsVal]
  | cons c r ih =>
    unfold digitsVal
    split
    · exact ih a b h
    · apply ih
      have := Nat.mul_le_mul_right base h
      omega

theorem digitsVal_append (base : Nat) (a b : Text) (acc : Nat) :
    digitsVal base acc (a ++ b) = digitsVal base (digitsVal base acc a) b := by
  induction a generalizing acc with
  | nil => rfl
  | cons c r ih =>
    simp only [List.cons_append, digitsVal]
    split <;> exact ih _

/-! ## the ParseUint loop -/

/-- One step of the loop on a character other than the underscore.  The three overflow tests of the
Go code (`n >= cutoff`, wrap-around of `n*base + d`, `> maxVal`) together say `n*base + d > maxVal`. -/
theorem parseLoop_cons (base maxVal : Nat) (hb : 0 < base) (hm : maxVal < 2^64) (c : UInt8)
    (hc : c ≠ 0x5f) (rest : Text) (n : Nat) (us : Bool) :
    parseLoop base (maxUint64 / base + 1) maxVal (c :: rest) n us =
      if isDig base c = true then
        if n * base + (charVal c).getD 0 ≤ maxVal then
          parseLoop base (maxUint64 / base + 1) maxVal rest (n * base + (charVal c).getD 0) us
        else .error .range
      else .error .syntax := by
  have hcv := strconvDigit_eq c
  rw [parseLoop, if_neg hc, isDig, ← hcv]
  cases strconvDigit c with
  | none => rfl
  | some d' =>
    simp only [Option.map_some, Option.getD_some, ge_iff_le, decide_eq_true_eq]
    have := d'.toNat_lt
    by_cases hd : d'.toNat < base
    · rw [if_neg (by omega), if_pos hd]
      have hcut : maxUint64 / base + 1 ≤ n ↔ 2^64 - 1 < n * base :=
        Nat.succ_le_iff.trans (Nat.div_lt_iff_lt_mul hb)
      generalize n * base = p at *
      generalize maxUint64 / base + 1 = cutoff at *
      by_cases hp : 2^64 - 1 < p
      · rw [if_pos (hcut.2 hp), if_neg (by omega)]
      · rw [if_neg (fun h => hp (hcut.1 h)), Nat.mod_eq_of_lt (show p < 2^64 by omega)]
        by_cases hov : p + d'.toNat < 2^64
        · rw [Nat.mod_eq_of_lt hov]
          by_cases hle : p + d'.toNat ≤ maxVal
          · rw [if_neg (by omega), if_pos hle]
          · rw [if_pos (by omega), if_neg hle]
        · rw [if_pos (by omega), if_neg (by omega)]
    · rw [if_pos (by omega), if_neg hd]

theorem parseLoop_ok_iff (base maxVal : Nat) (hb : 0 < base) (hm : maxVal < 2^64) (body : Text) (n : Nat)
    (hn : n ≤ maxVal) (us : Bool) (r : Nat × Bool) :
    parseLoop base (maxUint64 / base + 1) maxVal body n us = .ok r ↔
      good base body = true ∧ digitsVal base n body ≤ maxVal ∧
        r = (digitsVal base n body, us || body.contains 0x5f) := by
  induction body generalizing n us with
  | nil => simp [parseLoop, digitsVal, hn, eq_comm]
  | cons c rest ih =>
    rw [good_cons, digitsVal]
    by_cases hc : c = 0x5f
    · subst hc
      rw [parseLoop, if_pos rfl, ih n hn, if_pos rfl]
      simp
    · have hcont : (c :: rest).contains 0x5f = rest.contains 0x5f := by
        simp only [List.contains_cons, Bool.or_eq_right_iff_imp, beq_iff_eq]
        intro h; exact absurd h.symm hc
      rw [parseLoop_cons base maxVal hb hm c hc, if_neg hc, hcont]
      cases hd : isDig base c with
      | false => simp [hc]
      | true =>
        by_cases hle : n * base + (charVal c).getD 0 ≤ maxVal
        · rw [if_pos rfl, if_pos hle, ih _ hle]
          simp
        · have := digitsVal_mono base hb rest (n * base + (charVal c).getD 0)
          rw [if_pos rfl, if_neg hle]
          simp only [reduceCtorEq, false_iff, not_and]
          intro _ h
          omega

/-! ## the separator grammar -/

/-- The grammar `{ [ "_" ] digit }` as an automaton over the `prev` of `nat.scan`: an underscore
must stand between two digits.  `.digit` is the state after a digit (or after a base prefix, which
counts as one), `.us` after an underscore, `.other` at the start of a decimal literal. -/
def sepState (b : Nat) : Prev → Text → Bool
  | prev, [] => prev ≠ .us
  | prev, c :: t =>
    if c = 0x5f then prev = .digit && sepState b .us t else isDig b c && sepState b .digit t

theorem sepState_digit (b : Nat) (body : Text) : sepState b .digit body = sepTail b body := by
  fun_induction sepTail b body with
  | case1 => rfl
  | case2 c => by_cases hc : c = 0x5f <;> simp [sepState, hc, isDig_us]
  | case3 d r ih => by_cases hd : d = 0x5f <;> simp [sepState, hd, isDig_us, ih]
  | case4 c d r hc ih => rw [sepState, if_neg hc, ih]

theorem sepState_other_cons (b : Nat) (c : UInt8) (t : Text) :
    sepState b .other (c :: t) = (isDig b c && sepTail b t) := by
  by_cases hc : c = 0x5f <;> simp [sepState, hc, isDig_us, sepState_digit]

theorem sepState_good (b : Nat) (prev : Prev) (body : Text) (h : sepState b prev body = true) :
    good b body = true := by
  induction body generalizing prev with
  | nil => rfl
  | cons c t ih =>
    rw [sepState] at h
    split at h <;> simp only [Bool.and_eq_true] at h
    · simp [good_cons, *, ih _ h.2]
    · simp [good_cons, h.1, ih _ h.2]

theorem sepState_of_allDig (b : Nat) (prev : Prev) (hp : prev ≠ .us) (body : Text)
    (h : ∀ c ∈ body, isDig b c = true) : sepState b prev body = true := by
  induction body generalizing prev with
  | nil => simpa [sepState] using hp
  | cons c t ih =>
    have hc := h c (List.mem_cons_self ..)
    rw [sepState, if_neg (isDig_ne_us hc), hc,
      ih .digit (by decide) fun x hx => h x (List.mem_cons_of_mem _ hx)]
    rfl

/-! ## underscoreOK -/

theorem usLoop_digit (hex : Bool) (c : UInt8) (rest : Text) (saw : Saw) (h : usTest hex c) :
    usLoop hex (c :: rest) saw = usLoop hex rest .digit := by
  rw [usLoop]; exact if_pos h

theorem usLoop_us (hex : Bool) (rest : Text) (saw : Saw) :
    usLoop hex (0x5f :: rest) saw = if saw ≠ .digit then false else usLoop hex rest .us := by
  have h : ¬ usTest hex 0x5f := by unfold usTest; cases hex <;> decide
  unfold usTest at h
  rw [usLoop, if_neg h, if_pos rfl]

/-- the digit test of `underscoreOK` recognises every digit of the base -/
def UsCompat (base : Nat) (hex : Bool) : Prop := ∀ c, isDig base c = true → usTest hex c

theorem usCompat_le10 (base : Nat) (h : base ≤ 10) : UsCompat base false := by
  intro c hc
  have h10 := isDig_mono hc h
  have := usTest_of_isDig16 c (isDig_mono h10 (by decide))
  rwa [h10] at this

theorem usCompat_16 : UsCompat 16 true := by
  intro c hc
  rcases usTest_of_isDig16 c hc with h | h
  · exact Or.inl h
  · exact Or.inr ⟨rfl, h.2⟩

/-- the `saw` of `underscoreOK` where `nat.scan` has `prev`; at the start of a literal (`.start`,
`.other`) no underscore may come next -/
abbrev sawOf : Prev → Saw
  | .digit => .digit
  | .us => .us
  | .other => .start

theorem usLoop_good (base : Nat) (hex : Bool) (hcompat : UsCompat base hex) (body : Text)
    (hg : good base body = true) (prev : Prev) :
    usLoop hex body (sawOf prev) = sepState base prev body := by
  induction body generalizing prev with
  | nil => cases prev <;> rfl
  | cons c rest ih =>
    rw [good_cons, Bool.and_eq_true] at hg
    by_cases hc : c = 0x5f
    · subst hc
      rw [usLoop_us, sepState, if_pos rfl]
      cases prev with
      | digit => exact ih hg.2 .us
      | _ => rfl
    · have hd : isDig base c = true := by simpa [hc] using hg.1
      rw [usLoop_digit hex c rest _ (hcompat c hd), sepState, if_neg hc, hd]
      exact ih hg.2 .digit

/-! ## ParseUint = denotation -/

theorem underscoreOK_two (c0 c1 : UInt8) (t : Text) (h1 : c0 ≠ 0x2d) (h2 : c0 ≠ 0x2b) :
    underscoreOK (c0 :: c1 :: t) =
      if c0 = 0x30 ∧ (lower c1 = 0x62 ∨ lower c1 = 0x6f ∨ lower c1 = 0x78) then
        usLoop (decide (lower c1 = 0x78)) t .digit
      else usLoop false (c0 :: c1 :: t) .start := by
  simp [underscoreOK, h1, h2]

theorem maxValOf_eq (w : Nat) (h1 : 1 ≤ w) (h2 : w ≤ 64) : maxValOf w = 2^w - 1 := by
  have : ∀ w, w < 65 → 1 ≤ w → maxValOf w = 2^w - 1 := by decide +kernel
  exact this w (by omega) h1

/-- `ParseUint` on a text whose base/body split is known, and on which `underscoreOK` comes down to
its loop on the body, started in state `prev`: the verdict is that of the literal grammar, `sepState`. -/
theorem parseUint_shape (s : Text) (hs : s ≠ []) (w : Nat) (h1 : 1 ≤ w) (h2 : w ≤ 64)
    (base : Nat) (body : Text) (hsplit : splitBase s = (base, body)) (hb : 0 < base)
    (hex : Bool) (hcompat : UsCompat base hex) (prev : Prev) (hne : prev ≠ .us)
    (hus : good base body = true → underscoreOK s = usLoop hex body (sawOf prev)) (n : Nat) :
    parseUint s w = .ok n ↔
      ((if sepState base prev body = true then some (digitsVal base 0 body) else none) = some n ∧
        n < 2^w) := by
  have hpos : 0 < 2^w := Nat.pow_pos (by decide)
  have hle : 2^w ≤ 2^64 := Nat.pow_le_pow_right (by decide) h2
  have hempty : s.isEmpty = false := by cases s with | nil => exact absurd rfl hs | cons _ _ => rfl
  have hiff := parseLoop_ok_iff base (2^w - 1) hb (by omega) body 0 (by omega) false
  rw [parseUint, hempty, hsplit]
  simp only [Bool.false_eq_true, if_false, if_neg (show ¬ w > 64 by omega), if_neg (show ¬ w = 0 by omega)]
  rw [maxValOf_eq w h1 h2]
  cases hl : parseLoop base (maxUint64 / base + 1) (2^w - 1) body 0 false with
  | error e =>
    simp only [reduceCtorEq, false_iff]
    rintro ⟨hv, hn⟩
    cases hgr : sepState base prev body with
    | false => rw [hgr] at hv; cases hv
    | true =>
      rw [hgr] at hv
      have := (hiff (n, false || body.contains 0x5f)).2
        ⟨sepState_good base prev body hgr, by cases hv; omega, by cases hv; rfl⟩
      rw [hl] at this; cases this
  | ok r =>
    obtain ⟨hg, hv, rfl⟩ := (hiff r).1 hl
    cases hc : (false || body.contains 0x5f) with
    | true =>
      rw [hus hg, usLoop_good base hex hcompat body hg prev]
      cases sepState base prev body with
      | true => simp; omega
      | false => simp
    | false =>
      have hall : ∀ c ∈ body, isDig base c = true := by
        intro c hm
        have hne : c ≠ 0x5f := by
          rintro rfl
          rw [List.contains_iff_mem.2 hm] at hc; cases hc
        simpa [hne] using List.all_eq_true.1 hg c hm
      rw [sepState_of_allDig base prev hne body hall]
      simp; omega

theorem good_head_ne_sign {base : Nat} {c : UInt8} (h : (c = 0x5f || isDig base c) = true) :
    c ≠ 0x2d ∧ c ≠ 0x2b := by
  constructor <;> intro hc <;> subst hc <;> simp [isDig, charVal] at h

theorem isDig8_not_prefix (c : UInt8) (h : (c = 0x5f || isDig 8 c) = true) :
    ¬ (lower c = 0x62 ∨ lower c = 0x6f ∨ lower c = 0x78) := by
  rw [lower_b, lower_o, lower_x]
  rintro ((rfl | rfl) | (rfl | rfl) | (rfl | rfl)) <;> exact absurd h (by decide)

theorem parseUint_dec (c0 : UInt8) (t : Text) (h0 : c0 ≠ 0x30) (w : Nat) (h1 : 1 ≤ w) (h2 : w ≤ 64)
    (n : Nat) : parseUint (c0 :: t) w = .ok n ↔ (denotes (c0 :: t) = some n ∧ n < 2^w) := by
  have hsplit : splitBase (c0 :: t) = (10, c0 :: t) := by simp [splitBase, h0]
  rw [show denotes (c0 :: t) = (if sepState 10 .other (c0 :: t) = true then
    some (digitsVal 10 0 (c0 :: t)) else none) by simp only [denotes, if_neg h0, sepState_other_cons]]
  apply parseUint_shape (c0 :: t) (by simp) w h1 h2 10 (c0 :: t) hsplit (by omega) false
    (usCompat_le10 10 (by omega)) .other (by decide)
  intro hg
  have hsign := good_head_ne_sign (by rw [good_cons, Bool.and_eq_true] at hg; exact hg.1)
  cases t with
  | nil => simp [underscoreOK, hsign.1, hsign.2]
  | cons c1 t' => rw [underscoreOK_two c0 c1 t' hsign.1 hsign.2, if_neg (by simp [h0])]

/-- legacy octal shape: "0" followed by something that is not a complete base prefix -/
theorem parseUint_oct (t : Text) (hsplit : splitBase (0x30 :: t) = (8, t)) (w : Nat) (h1 : 1 ≤ w) (h2 : w ≤ 64)
    (n : Nat) :
    parseUint (0x30 :: t) w = .ok n ↔
      ((if sepTail 8 t = true then some (digitsVal 8 0 t) else none) = some n ∧ n < 2^w) := by
  rw [← sepState_digit]
  apply parseUint_shape (0x30 :: t) (by simp) w h1 h2 8 t hsplit (by omega) false
    (usCompat_le10 8 (by omega)) .digit (by decide)
  intro hg
  cases t with
  | nil => rfl
  | cons c1 t' =>
    rw [underscoreOK_two 0x30 c1 t' (by decide) (by decide), if_neg,
      usLoop_digit false 0x30 _ _ (Or.inl (by decide))]
    intro h
    rw [good_cons, Bool.and_eq_true] at hg
    exact isDig8_not_prefix c1 hg.1 h.2

/-- the base announced by a prefix letter, given in lower case -/
def prefixBase (l : UInt8) : Nat := if l = 0x62 then 2 else if l = 0x6f then 8 else 16

theorem denotes_prefixed (c1 : UInt8) (b : Text)
    (hpre : lower c1 = 0x62 ∨ lower c1 = 0x6f ∨ lower c1 = 0x78) :
    denotes (0x30 :: c1 :: b) = prefixedLit (prefixBase (lower c1)) b := by
  rcases hpre with h | h | h
  · rcases (lower_b c1).1 h with rfl | rfl <;> rfl
  · rcases (lower_o c1).1 h with rfl | rfl <;> rfl
  · rcases (lower_x c1).1 h with rfl | rfl <;> rfl

/-- prefixed shape: "0b…", "0o…", "0x…"; without a digit after the prefix `ParseUint` reads the
letter as a bad octal digit -/
theorem parseUint_pre (c1 : UInt8) (b : Text)
    (hpre : lower c1 = 0x62 ∨ lower c1 = 0x6f ∨ lower c1 = 0x78)
    (w : Nat) (h1 : 1 ≤ w) (h2 : w ≤ 64) (n : Nat) :
    parseUint (0x30 :: c1 :: b) w = .ok n ↔ (denotes (0x30 :: c1 :: b) = some n ∧ n < 2^w) := by
  rw [denotes_prefixed c1 b hpre, prefixedLit]
  cases b with
  | nil =>
    have hnot : ¬ sepTail 8 [c1] = true := fun hs =>
      isDig8_not_prefix c1 (by simp [show isDig 8 c1 = true from hs]) hpre
    rw [parseUint_oct [c1] (by simp [splitBase]) w h1 h2 n, if_neg hnot, if_neg (fun h => h.1 rfl)]
  | cons x y =>
    have hsplit : splitBase (0x30 :: c1 :: x :: y) = (prefixBase (lower c1), x :: y) := by
      rcases hpre with h | h | h <;> simp [splitBase, prefixBase, h]
    have hcompat : UsCompat (prefixBase (lower c1)) (decide (lower c1 = 0x78)) := by
      rcases hpre with h | h | h <;> rw [h]
      · exact usCompat_le10 2 (by decide)
      · exact usCompat_le10 8 (by decide)
      · exact usCompat_16
    have hbase : 0 < prefixBase (lower c1) := by rcases hpre with h | h | h <;> rw [h] <;> decide
    simp only [ne_eq, reduceCtorEq, not_false_eq_true, true_and, ← sepState_digit]
    apply parseUint_shape _ (by simp) w h1 h2 _ _ hsplit hbase _ hcompat .digit (by decide)
    intro _
    rw [underscoreOK_two 0x30 c1 _ (by decide) (by decide), if_pos ⟨rfl, hpre⟩]

theorem parseUint_ok_iff (s : Text) (w : Nat) (h1 : 1 ≤ w) (h2 : w ≤ 64) (n : Nat) :
    parseUint s w = .ok n ↔ (denotes s = some n ∧ n < 2^w) := by
  cases s with
  | nil => simp [parseUint, denotes]
  | cons c0 t =>
    by_cases h0 : c0 = 0x30
    · subst h0
      cases t with
      | nil => exact parseUint_oct [] rfl w h1 h2 n
      | cons c1 b =>
        by_cases hpre : lower c1 = 0x62 ∨ lower c1 = 0x6f ∨ lower c1 = 0x78
        · exact parseUint_pre c1 b hpre w h1 h2 n
        · have hd : denotes (0x30 :: c1 :: b) =
              if sepTail 8 (c1 :: b) = true then some (digitsVal 8 0 (c1 :: b)) else none := by
            rw [lower_b, lower_o, lower_x] at hpre
            obtain ⟨hb, ho⟩ := not_or.1 hpre
            obtain ⟨ho, hx⟩ := not_or.1 ho
            simp only [denotes, if_true, if_neg hb, if_neg ho, if_neg hx]
          rw [hd]
          apply parseUint_oct (c1 :: b) _ w h1 h2 n
          simp only [not_or] at hpre
          simp [splitBase, hpre]
    · exact parseUint_dec c0 t h0 w h1 h2 n

/-! ## decimal rendering -/

theorem decDigits_ge (n : Nat) (h : ¬ n < 10) :
    decDigits n = decDigits (n / 10) ++ [UInt8.ofNat (48 + n % 10)] := by
  rw [decDigits, dif_neg h]

theorem decDigit_table : ∀ d, d < 10 →
    charVal (UInt8.ofNat (48 + d)) = some d ∧ (UInt8.ofNat (48 + d) = 0x30 → d = 0) := by decide

theorem digitsVal_single (base acc : Nat) (c : UInt8) (d : Nat) (hcv : charVal c = some d) :
    digitsVal base acc [c] = acc * base + d := by
  have hne : c ≠ 0x5f := by rintro rfl; cases hcv
  rw [digitsVal, if_neg hne, hcv, digitsVal, Option.getD_some]

theorem decDigits_spec (n : Nat) :
    (∀ c ∈ decDigits n, isDig 10 c = true) ∧ digitsVal 10 0 (decDigits n) = n ∧
      ∃ c t, decDigits n = c :: t ∧ (c = 0x30 → n = 0) := by
  fun_induction decDigits n with
  | case1 n h =>
    obtain ⟨hv, hz⟩ := decDigit_table n h
    refine ⟨fun c hc => ?_, ?_, _, [], rfl, hz⟩
    · rw [List.mem_singleton.1 hc]; exact isDig_iff.2 ⟨n, hv, h⟩
    · rw [digitsVal_single 10 0 _ n hv]; omega
  | case2 n h ih =>
    obtain ⟨hall, hval, c, t, heq, hz⟩ := ih
    have hm : n % 10 < 10 := Nat.mod_lt _ (by decide)
    obtain ⟨hv, _⟩ := decDigit_table _ hm
    refine ⟨fun x hx => ?_, ?_, c, t ++ [UInt8.ofNat (48 + n % 10)], by rw [heq]; rfl, fun hc => ?_⟩
    · rcases List.mem_append.1 hx with hx | hx
      · exact hall x hx
      · rw [List.mem_singleton.1 hx]; exact isDig_iff.2 ⟨_, hv, hm⟩
    · rw [digitsVal_append, hval, digitsVal_single 10 _ _ _ hv]; omega
    · have := hz hc; omega

theorem denotes_decDigits (n : Nat) : denotes (decDigits n) = some n := by
  by_cases hn : n = 0
  · subst hn; rw [decDigits]; rfl
  · obtain ⟨hall, hval, c, t, heq, hz⟩ := decDigits_spec n
    rw [heq] at hall hval ⊢
    simp only [denotes, if_neg fun h => hn (hz h), ← sepState_other_cons,
      sepState_of_allDig 10 .other (by decide) _ hall, if_true, hval]

/-! ## quotes -/

theorem unquote_eq_some_iff (s s' : Text) : unquote s = some s' ↔ Unquoted s s' := by
  unfold Unquoted
  cases s with
  | nil => simp [unquote]
  | cons c t =>
    by_cases hq : c = 0x22
    · subst hq
      rcases List.eq_nil_or_concat t with ht | ⟨m, q, ht⟩
      · subst ht; simp [unquote]
      · rw [List.concat_eq_append] at ht
        subst ht
        by_cases hq2 : q = 0x22
        · subst hq2
          simp [unquote]
        · simp [unquote, hq2]
    · simp [unquote, hq]
      constructor
      · intro h; exact h.symm
      · intro h; exact h.symm

theorem stripQuotes_eq_unquote (s : Text) : stripQuotes s = unquote s := by
  cases s with
  | nil => rfl
  | cons c t =>
    by_cases hq : c = 0x22
    · subst hq
      rcases List.eq_nil_or_concat t with rfl | ⟨m, q, rfl⟩
      · rfl
      · rw [List.concat_eq_append]
        have hlast : (0x22 :: (m ++ [q]) : Text).getLast? = some q := by
          rw [← List.cons_append, List.getLast?_append]; simp
        have htake : (0x22 :: (m ++ [q]) : Text).take ((0x22 :: (m ++ [q]) : Text).length - 1)
            = 0x22 :: m := by
          rw [← List.cons_append, List.take_left']; simp
        simp only [stripQuotes, unquote, if_true, hlast, htake]
        by_cases hq2 : q = 0x22 <;> simp [hq2, eq_comm]
    · simp [stripQuotes, unquote, hq]

theorem stripQuotes_eq_some_iff (b s' : Text) : stripQuotes b = some s' ↔ Unquoted b s' := by
  rw [stripQuotes_eq_unquote]; exact unquote_eq_some_iff b s'

/-! ## math/big scan -/

theorem countDigits_pos (b : Nat) (prev : Prev) (body : Text) (hne : body ≠ [])
    (h : sepState b prev body = true) : 0 < body.countP (· ≠ 0x5f) := by
  induction body generalizing prev with
  | nil => exact absurd rfl hne
  | cons c r ih =>
    by_cases hc : c = 0x5f
    · subst hc
      rw [sepState, if_pos rfl, Bool.and_eq_true] at h
      have hr : r ≠ [] := by rintro rfl; exact Bool.false_ne_true h.2
      simpa using ih .us hr h.2
    · simp [hc]

theorem bigLoop_us (b : Nat) (rest : Text) (prev : Prev) (inv : Bool) (count acc : Nat) :
    bigLoop b (0x5f :: rest) prev inv count acc =
      bigLoop b rest .us (inv || decide (prev ≠ .digit)) count acc := by
  rw [bigLoop, if_pos rfl]

theorem bigLoop_cons (b : Nat) (hb : b ≤ 36) (c : UInt8) (hc : c ≠ 0x5f) (rest : Text) (prev : Prev)
    (inv : Bool) (count acc : Nat) :
    bigLoop b (c :: rest) prev inv count acc =
      if isDig b c = true then bigLoop b rest .digit inv (count + 1) (acc * b + (charVal c).getD 0)
      else ⟨c :: rest, prev, inv, count, acc⟩ := by
  rw [bigLoop, if_neg hc, bigDigit_eq, isDig]
  cases charVal c with
  | none => exact if_pos (by simp; omega)
  | some d =>
    simp only [Option.getD_some, decide_eq_true_eq]
    by_cases hd : d < b
    · rw [if_neg (by omega), if_pos hd]
    · rw [if_pos (by omega), if_neg hd]

theorem bigLoop_good (b : Nat) (hb : b ≤ 36) (body : Text) (hg : good b body = true) (prev : Prev)
    (inv : Bool) (count acc : Nat) :
    (bigLoop b body prev inv count acc).left = [] ∧
    (bigLoop b body prev inv count acc).acc = digitsVal b acc body ∧
    (bigLoop b body prev inv count acc).count = count + body.countP (· ≠ 0x5f) ∧
    (!(bigLoop b body prev inv count acc).invalSep && decide ((bigLoop b body prev inv count acc).prev ≠ .us))
      = (!inv && sepState b prev body) := by
  induction body generalizing prev inv count acc with
  | nil => exact ⟨rfl, rfl, rfl, rfl⟩
  | cons c r ih =>
    rw [good_cons, Bool.and_eq_true] at hg
    by_cases hc : c = 0x5f
    · subst hc
      rw [bigLoop_us, digitsVal, if_pos rfl, sepState, if_pos rfl]
      obtain ⟨h1, h2, h3, h4⟩ := ih hg.2 .us (inv || decide (prev ≠ .digit)) count acc
      refine ⟨h1, h2, by simpa using h3, ?_⟩
      rw [h4]; cases inv <;> cases prev <;> rfl
    · have hd : isDig b c = true := by simpa [hc] using hg.1
      rw [bigLoop_cons b hb c hc, if_pos hd, digitsVal, if_neg hc, sepState, if_neg hc, hd]
      obtain ⟨h1, h2, h3, h4⟩ := ih hg.2 .digit inv (count + 1) (acc * b + (charVal c).getD 0)
      refine ⟨h1, h2, ?_, h4⟩
      rw [h3]; simp [hc]; omega

theorem bigLoop_not_good (b : Nat) (hb : b ≤ 36) (body : Text) (hg : good b body = false) (prev : Prev)
    (inv : Bool) (count acc : Nat) : (bigLoop b body prev inv count acc).left ≠ [] := by
  induction body generalizing prev inv count acc with
  | nil => cases hg
  | cons c r ih =>
    by_cases hc : c = 0x5f
    · subst hc
      rw [bigLoop_us]
      apply ih
      simpa [good_cons] using hg
    · rw [bigLoop_cons b hb c hc]
      cases hd : isDig b c with
      | true =>
        apply ih
        simpa [good_cons, hd] using hg
      | false => simp

/-- the checks of `setFromScanner` on what `nat.scan` returned: no error, everything consumed -/
def consumed (r : Nat × Bool × Text) : Option Nat :=
  if r.2.1 = true then none else if r.2.2 ≠ [] then none else some r.1

/-- what `nat.scan` returns from the loop's final state -/
def scanOut (prefix0 : Bool) (st : ScanState) : Nat × Bool × Text :=
  ((bigFinish prefix0 st).1, (bigFinish prefix0 st).2, st.left)

/-- `body ≠ [] ∨ prefix0`: without a digit only the bare octal prefix "0" is a number. -/
theorem scanResult_spec (b : Nat) (hb : b ≤ 36) (body : Text) (prev : Prev) (prefix0 : Bool) :
    consumed (scanOut prefix0 (bigLoop b body prev false 0 0)) =
      if (body ≠ [] ∨ prefix0 = true) ∧ sepState b prev body = true then some (digitsVal b 0 body)
      else none := by
  by_cases hne : body = []
  · subst hne; cases prefix0 <;> cases prev <;> rfl
  simp only [hne, ne_eq, not_false_eq_true, true_or, true_and]
  cases hg : good b body with
  | false =>
    have hl := bigLoop_not_good b hb body hg prev false 0 0
    rw [if_neg (fun hs => by rw [sepState_good b prev body hs] at hg; cases hg), consumed, scanOut]
    simp only [hl, ne_eq, not_false_eq_true, if_true, ite_self]
  | true =>
    obtain ⟨h1, h2, h3, h4⟩ := bigLoop_good b hb body hg prev false 0 0
    generalize bigLoop b body prev false 0 0 = st at *
    have herr : (st.invalSep || decide (st.prev = .us)) = !(sepState b prev body) := by
      rw [Bool.not_false, Bool.true_and] at h4
      rw [← h4]; cases st.invalSep <;> cases st.prev <;> rfl
    cases hs : sepState b prev body with
    | false =>
      have : (bigFinish prefix0 st).2 = true := by
        simp only [bigFinish, herr, hs]
        split
        · cases prefix0 <;> rfl
        · rfl
      simp [consumed, scanOut, this]
    | true =>
      have hcnt : ¬ st.count = 0 := by have := countDigits_pos b prev body hne hs; omega
      simp [consumed, scanOut, bigFinish, herr, hs, hcnt, h1, h2]

theorem natScan0_denotes (s : Text) : consumed (natScan0 s) = denotes s := by
  cases s with
  | nil => rfl
  | cons ch r1 =>
    by_cases h0 : ch = 0x30
    · subst h0
      cases r1 with
      | nil => rfl
      | cons c2 r2 =>
        have hscan : natScan0 (0x30 :: c2 :: r2) =
            if c2 = 0x62 ∨ c2 = 0x42 then scanOut false (bigLoop 2 r2 .digit false 0 0)
            else if c2 = 0x6f ∨ c2 = 0x4f then scanOut false (bigLoop 8 r2 .digit false 0 0)
            else if c2 = 0x78 ∨ c2 = 0x58 then scanOut false (bigLoop 16 r2 .digit false 0 0)
            else scanOut true (bigLoop 8 (c2 :: r2) .digit false 0 0) := by
          simp only [natScan0, if_true]; rfl
        rw [hscan]
        simp only [apply_ite consumed, scanResult_spec 2 (by decide), scanResult_spec 8 (by decide),
          scanResult_spec 16 (by decide), sepState_digit,
          denotes, prefixedLit, if_true, or_true, true_and, Bool.false_eq_true, or_false]
    · have : natScan0 (ch :: r1) = scanOut false (bigLoop 10 (ch :: r1) .other false 0 0) := by
        simp only [natScan0, if_neg h0]; rfl
      rw [this, scanResult_spec 10 (by decide), sepState_other_cons]
      simp [denotes, if_neg h0]

theorem bigSetString0_eq (s : Text) : bigSetString0 s = denotesInt s := by
  cases s with
  | nil => rfl
  | cons ch rest =>
    have key : bigSetString0 (ch :: rest) =
        (denotes (if ch = 0x2d ∨ ch = 0x2b then rest else ch :: rest)).map
          fun (v : Nat) => if v ≠ 0 ∧ decide (ch = 0x2d) = true then -(v : Int) else (v : Int) := by
      rw [← natScan0_denotes]
      simp only [bigSetString0, consumed]
      generalize natScan0 (if ch = 0x2d ∨ ch = 0x2b then rest else ch :: rest) = r
      obtain ⟨v, e, left⟩ := r
      cases e <;> cases left <;> rfl
    rw [key]
    by_cases hm : ch = 0x2d
    · subst hm
      simp only [denotesInt, if_true, true_or, decide_true, and_true]
      cases denotes rest with
      | none => rfl
      | some v => by_cases hv : v = 0 <;> simp [hv]
    · by_cases hp : ch = 0x2b
      · subst hp
        simp only [denotesInt, hm, if_true, if_false, or_true]
        cases denotes rest <;> simp
      · simp only [denotesInt, hm, hp, or_self, if_false]
        cases denotes (ch :: rest) <;> simp

/-! ## hex -/

theorem hexPair : ∀ a, a < 16 → ∀ b, b < 16 →
    ((UInt8.ofNat a <<< 4) ||| UInt8.ofNat b) = UInt8.ofNat (16 * a + b) := by decide +kernel

theorem hexDigit_val : ∀ n, n < 16 → charVal (hexDigit (UInt8.ofNat n)) = some n := by decide +kernel

/-- the two nibbles `hex.Encode` looks up -/
theorem nibbles (v : UInt8) :
    v >>> 4 = UInt8.ofNat (v.toNat / 16) ∧ v &&& 0x0f = UInt8.ofNat (v.toNat % 16) := by
  have := v.toNat_lt
  constructor
  · rw [← UInt8.toNat_inj, UInt8.toNat_shiftRight, UInt8.toNat_ofNat', Nat.shiftRight_eq_div_pow]
    show v.toNat / 16 = _
    omega
  · rw [← UInt8.toNat_inj, UInt8.toNat_and, UInt8.toNat_ofNat']
    exact (Nat.and_two_pow_sub_one_eq_mod v.toNat 4).trans (by omega)

theorem hexDenotes_cons2_iff (p q : UInt8) (rest : Text) (out : Bytes) :
    hexDenotes (p :: q :: rest) = some out ↔
      ∃ a b bs, charVal p = some a ∧ charVal q = some b ∧ hexDenotes rest = some bs ∧ a < 16 ∧ b < 16 ∧
        out = UInt8.ofNat (16 * a + b) :: bs := by
  rw [hexDenotes]
  constructor
  · intro h
    split at h
    · rename_i a b bs hp hq hr
      split at h
      · rename_i hab
        exact ⟨a, b, bs, hp, hq, hr, hab.1, hab.2, (Option.some.inj h).symm⟩
      · cases h
    · cases h
  · rintro ⟨a, b, bs, hp, hq, hr, ha, hb, rfl⟩
    rw [hp, hq, hr]
    exact if_pos ⟨ha, hb⟩

theorem hexDenotes_cons2_none (p q : UInt8) (rest : Text)
    (h : ¬ (charVal p).getD 16 < 16 ∨ ¬ (charVal q).getD 16 < 16) : hexDenotes (p :: q :: rest) = none := by
  cases hd : hexDenotes (p :: q :: rest) with
  | none => rfl
  | some out =>
    obtain ⟨a, b, bs, hp, hq, _, ha, hb, _⟩ := (hexDenotes_cons2_iff p q rest out).1 hd
    rw [hp, hq] at h
    exact absurd h (by simp [ha, hb])

theorem hexDecodeLoop_spec (dstLen : Nat) : ∀ (src : Text) (acc : Bytes),
    acc.length + src.length / 2 ≤ dstLen →
    hexDecodeLoop dstLen src acc = ((hexDenotes src).map fun bs => Res.ok (acc ++ bs)).getD .err
  | [], acc, _ => by simp [hexDecodeLoop, hexDenotes]
  | [p], acc, _ => rfl
  | p :: q :: rest, acc, h => by
    have h0xff : (0xff : UInt8) > 0x0f := by decide
    have hsmall : ∀ d, d < 16 → ¬ UInt8.ofNat d > 0x0f := by decide
    have hval : ∀ {o : Option Nat}, o.getD 16 < 16 → ∃ a, o = some a ∧ a < 16 := by
      intro o ho
      cases o with
      | none => exact absurd ho (by decide)
      | some a => exact ⟨a, rfl, ho⟩
    rw [hexDecodeLoop, fromHex_eq p, fromHex_eq q]
    by_cases hp : (charVal p).getD 16 < 16
    · by_cases hq : (charVal q).getD 16 < 16
      · simp only [List.length_cons] at h
        rw [if_pos hp, if_pos hq, if_neg (hsmall _ hp), if_neg (hsmall _ hq),
          if_neg (by omega), hexPair _ hp _ hq,
          hexDecodeLoop_spec dstLen rest _ (by rw [List.length_append]; simp only [List.length_cons, List.length_nil]; omega)]
        obtain ⟨a, hpv, ha⟩ := hval hp
        obtain ⟨b, hqv, hb⟩ := hval hq
        rw [hpv, hqv]
        cases hr : hexDenotes rest with
        | none =>
          cases hd : hexDenotes (p :: q :: rest) with
          | none => rfl
          | some out =>
            obtain ⟨_, _, bs, _, _, hr', _⟩ := (hexDenotes_cons2_iff p q rest out).1 hd
            rw [hr] at hr'; cases hr'
        | some bs =>
          rw [(hexDenotes_cons2_iff p q rest _).2 ⟨a, b, bs, hpv, hqv, hr, ha, hb, rfl⟩]
          simp
      · rw [if_pos hp, if_neg hq, if_neg (hsmall _ hp), if_pos h0xff,
          hexDenotes_cons2_none p q rest (Or.inr hq)]
        rfl
    · rw [if_neg hp, if_pos h0xff, hexDenotes_cons2_none p q rest (Or.inl hp)]
      rfl

theorem hexEncode_cons (v : UInt8) (r : Bytes) :
    hexEncode (v :: r) = hexDigit (v >>> 4) :: hexDigit (v &&& 0x0f) :: hexEncode r := rfl

theorem hexEncode_length (bs : Bytes) : (hexEncode bs).length = 2 * bs.length := by
  induction bs with
  | nil => rfl
  | cons v r ih => simp only [hexEncode_cons, List.length_cons, ih]; omega

theorem hexDenotes_hexEncode (bs : Bytes) : hexDenotes (hexEncode bs) = some bs := by
  induction bs with
  | nil => rfl
  | cons v r ih =>
    have := v.toNat_lt
    have ha : v.toNat / 16 < 16 := by omega
    have hb : v.toNat % 16 < 16 := by omega
    rw [hexEncode_cons, (nibbles v).1, (nibbles v).2, hexDenotes_cons2_iff]
    exact ⟨_, _, r, hexDigit_val _ ha, hexDigit_val _ hb, ih, ha, hb,
      by rw [Nat.div_add_mod, UInt8.ofNat_toNat]⟩

theorem stripHexPrefix_eq (s : Text) : stripHexPrefix s = unprefix s := by
  unfold stripHexPrefix unprefix
  split
  · rename_i c0 c1 t
    by_cases h0 : c0 = 0x30
    · subst h0
      by_cases hx : c1 = 0x78
      · subst hx; simp
      · by_cases hX : c1 = 0x58
        · subst hX; simp
        · simp [hx, hX]
    · simp [h0]
  · rename_i h
    split
    · rename_i t; exact absurd rfl (h _ _ t)
    · rename_i t; exact absurd rfl (h _ _ t)
    · rfl

/-- `HexPairAt t bs i`: characters `2i`, `2i+1` of `t` are hex digits and byte `i` of `bs` is their value -/
def HexPairAt (t : Text) (bs : Bytes) (i : Nat) : Prop :=
  ∃ a b, (t[2 * i]?).bind charVal = some a ∧ (t[2 * i + 1]?).bind charVal = some b ∧
    a < 16 ∧ b < 16 ∧ bs[i]? = some (UInt8.ofNat (16 * a + b))

theorem HexPairAt_succ (p q : UInt8) (rest : Text) (v : UInt8) (bs : Bytes) (i : Nat) :
    HexPairAt (p :: q :: rest) (v :: bs) (i + 1) ↔ HexPairAt rest bs i := by
  have e1 : 2 * (i + 1) = 2 * i + 1 + 1 := by omega
  rw [HexPairAt, HexPairAt, e1]
  simp only [List.getElem?_cons_succ]

theorem hexDenotes_iff_index : ∀ (t : Text) (bs : Bytes),
    hexDenotes t = some bs ↔ (t.length = 2 * bs.length ∧ ∀ i, i < bs.length → HexPairAt t bs i)
  | [], bs => by
    cases bs with
    | nil => simp [hexDenotes]
    | cons v bs => simp [hexDenotes]
  | [p], bs => by
    constructor
    · intro h; cases h
    · rintro ⟨h, _⟩; simp only [List.length_cons, List.length_nil] at h; omega
  | p :: q :: rest, bs => by
    rw [hexDenotes_cons2_iff]
    cases bs with
    | nil =>
      constructor
      · rintro ⟨_, _, _, _, _, _, _, _, h⟩; cases h
      · rintro ⟨h, _⟩; cases h
    | cons v bs' =>
      have ih := hexDenotes_iff_index rest bs'
      simp only [List.length_cons, Nat.forall_lt_succ_left, HexPairAt_succ]
      constructor
      · rintro ⟨a, b, bs, hp, hq, hr, ha, hb, h⟩
        cases h
        obtain ⟨hl, hi⟩ := ih.1 hr
        exact ⟨by omega, ⟨a, b, by simpa using hp, by simpa using hq, ha, hb, rfl⟩, hi⟩
      · rintro ⟨hl, ⟨a, b, hp, hq, ha, hb, hv⟩, hi⟩
        refine ⟨a, b, bs', by simpa using hp, by simpa using hq, ih.2 ⟨by omega, hi⟩, ha, hb, ?_⟩
        rw [List.getElem?_cons_zero] at hv
        rw [Option.some.inj hv]

/-! ## the ztyp layer against the specification -/

/-- the widths of the basic unsigned views -/
def StdWidth (w : Nat) : Prop := w = 8 ∨ w = 16 ∨ w = 32 ∨ w = 64

instance (w : Nat) : Decidable (StdWidth w) := by unfold StdWidth; infer_instance

theorem StdWidth.bounds {w : Nat} (h : StdWidth w) : 1 ≤ w ∧ w ≤ 64 := by
  rcases h with rfl | rfl | rfl | rfl <;> omega

/-- what the property demands for an unsigned literal text and a width: the denoted number if it
fits, failure otherwise -/
def specNum (w : Nat) (s : Text) : Res Nat :=
  match denotes s with
  | some n => if n < 2^w then .ok n else .err
  | none => .err

/-- the same for the big-integer route (sign allowed) into 256 bits -/
def specInt256 (s : Text) : Res Nat :=
  match denotesInt s with
  | some v => if 0 ≤ v ∧ v < 2^256 then .ok v.toNat else .err
  | none => .err

/-- the JSON forms: `f` on the text between the optional quotes -/
def specQuoted {α : Type} (f : Text → Res α) (s : Text) : Res α :=
  match stripQuotes s with
  | none => .err
  | some s' => f s'

theorem specQuoted_of_unquoted {α : Type} (f : Text → Res α) {s s' : Text} (h : Unquoted s s') :
    specQuoted f s = f s' := by
  rw [specQuoted, (stripQuotes_eq_some_iff s s').2 h]

theorem specQuoted_ok_iff {α : Type} (f : Text → Res α) (s : Text) (v : α) :
    specQuoted f s = .ok v ↔ ∃ s', Unquoted s s' ∧ f s' = .ok v := by
  constructor
  · intro h
    rw [specQuoted] at h
    cases hq : stripQuotes s with
    | none => rw [hq] at h; cases h
    | some s0 => rw [hq] at h; exact ⟨s0, (stripQuotes_eq_some_iff s s0).1 hq, h⟩
  · rintro ⟨s', hu, h⟩
    rw [specQuoted_of_unquoted f hu, h]

theorem specQuoted_err {α : Type} (f : Text → Res α) (s : Text)
    (h : ∀ s', Unquoted s s' → f s' = .err) : specQuoted f s = .err := by
  rw [specQuoted]
  cases hq : stripQuotes s with
  | none => rfl
  | some s0 => exact h s0 ((stripQuotes_eq_some_iff s s0).1 hq)

theorem specNum_ok_iff (w : Nat) (s : Text) (n : Nat) :
    specNum w s = .ok n ↔ (denotes s = some n ∧ n < 2^w) := by
  unfold specNum
  cases denotes s with
  | none => simp
  | some m =>
    by_cases hm : m < 2^w <;>
      simp only [hm, if_true, if_false, Res.ok.injEq, Option.some.injEq, reduceCtorEq, false_iff]
    · exact ⟨fun h => ⟨h, h ▸ hm⟩, And.left⟩
    · rintro ⟨rfl, h⟩; exact hm h

theorem specNum_ne_panic (w : Nat) (s : Text) : specNum w s ≠ .panic := by
  unfold specNum
  cases denotes s with
  | none => simp
  | some m => by_cases hm : m < 2^w <;> simp [hm]

/-- the narrowing cast after a successful parse changes nothing -/
theorem specNum_mod (w : Nat) (s : Text) :
    (match specNum w s with
     | .ok x => Res.ok (x % 2^w)
     | .err => .err
     | .panic => .panic) = specNum w s := by
  cases h : specNum w s with
  | ok x => simp only [Nat.mod_eq_of_lt ((specNum_ok_iff w s x).1 h).2]
  | err => rfl
  | panic => rfl

theorem parseUint_class (s : Text) (w : Nat) (h1 : 1 ≤ w) (h2 : w ≤ 64) :
    (match parseUint s w with
     | .ok n => Res.ok n
     | .error _ => Res.err) = specNum w s := by
  cases hp : parseUint s w with
  | ok n => exact ((specNum_ok_iff w s n).2 ((parseUint_ok_iff s w h1 h2 n).1 hp)).symm
  | error e =>
    cases hs : specNum w s with
    | ok m =>
      rw [(parseUint_ok_iff s w h1 h2 m).2 ((specNum_ok_iff w s m).1 hs)] at hp; cases hp
    | err => rfl
    | panic => exact absurd hs (specNum_ne_panic w s)

theorem uintViewUnmarshalText_eq (w : Nat) (h1 : 1 ≤ w) (h2 : w ≤ 64) (s : Text) :
    uintViewUnmarshalText w s = specNum w s := by
  rw [← specNum_mod, ← parseUint_class s w h1 h2, uintViewUnmarshalText]
  cases parseUint s w <;> rfl

theorem uintUnmarshal_eq (w : Nat) (h1 : 1 ≤ w) (h2 : w ≤ 64) (s : Text) :
    uintUnmarshal s w = specQuoted (specNum w) s := by
  unfold uintUnmarshal specQuoted
  cases stripQuotes s with
  | none => rfl
  | some s' =>
    simp only
    rw [← parseUint_class s' w h1 h2]
    cases parseUint s' w <;> rfl

theorem uintUnmarshalJSON_eq (w : Nat) (hw : StdWidth w) (s : Text) :
    uintUnmarshalJSON w s = specQuoted (specNum w) s := by
  have hmod : (match uintUnmarshal s w with
      | .ok x => Res.ok (x % 2^w)
      | .err => .err
      | .panic => .panic) = specQuoted (specNum w) s := by
    rw [uintUnmarshal_eq w hw.bounds.1 hw.bounds.2, specQuoted]
    cases stripQuotes s with
    | none => rfl
    | some s' => exact specNum_mod w s'
  rcases hw with rfl | rfl | rfl | rfl
  · exact hmod
  · exact hmod
  · exact hmod
  · exact uintUnmarshal_eq 64 (by decide) (by decide) s

theorem uintUnmarshalText_eq (w : Nat) (hw : StdWidth w) (s : Text) :
    uintUnmarshalText w s = specNum w s := by
  rw [← uintViewUnmarshalText_eq w hw.bounds.1 hw.bounds.2]
  rcases hw with rfl | rfl | rfl | rfl <;> rfl

theorem specInt256_ok_iff (s : Text) (n : Nat) :
    specInt256 s = .ok n ↔ (denotesInt s = some (n : Int) ∧ n < 2^256) := by
  unfold specInt256
  cases denotesInt s with
  | none => simp
  | some v =>
    simp only
    by_cases hv : 0 ≤ v ∧ v < 2^256
    · rw [if_pos hv]
      constructor
      · intro h; cases h
        exact ⟨by congr 1; omega, by omega⟩
      · rintro ⟨h, _⟩; cases h; rfl
    · rw [if_neg hv]
      constructor
      · intro h; cases h
      · rintro ⟨h, hn⟩; cases h; exact absurd ⟨by omega, by omega⟩ hv

/-- `SetFromBig` after the sign test: the value itself when it is in range -/
theorem bigTo256 (x : Int) :
    (if x < 0 then Res.err
     else if (setFromBig x).2 = true then Res.err else Res.ok (setFromBig x).1) =
      if 0 ≤ x ∧ x < 2^256 then Res.ok x.toNat else Res.err := by
  unfold setFromBig
  by_cases hneg : x < 0
  · rw [if_pos hneg, if_neg (by omega)]
  · rw [if_neg hneg]
    by_cases hov : x.natAbs ≥ 2^256
    · simp only [hov, decide_true, if_true]
      rw [if_neg (by omega)]
    · simp only [hov, decide_false, hneg, if_false, Bool.false_eq_true]
      rw [if_pos (by omega)]
      congr 1
      rw [Nat.mod_eq_of_lt (by omega)]
      omega

theorem uint256ViewUnmarshalText_eq (s : Text) : uint256ViewUnmarshalText s = specInt256 s := by
  unfold uint256ViewUnmarshalText specInt256
  rw [bigSetString0_eq]
  cases denotesInt s with
  | none => rfl
  | some x =>
    simp only [uint256ViewSetFromBig]
    rw [← bigTo256 x]
    by_cases hneg : x < 0 <;> simp [hneg]

theorem uint256Unmarshal_eq (s : Text) : uint256Unmarshal s = specQuoted specInt256 s := by
  unfold uint256Unmarshal specQuoted
  cases stripQuotes s with
  | none => rfl
  | some s' =>
    simp only [specInt256]
    rw [bigSetString0_eq]
    cases denotesInt s' with
    | none => rfl
    | some x => exact bigTo256 x

/-! ### marshalling -/

theorem uint64Marshal_eq (n : Nat) : uint64Marshal n = 0x22 :: (decDigits n ++ [0x22]) := by
  simp [uint64Marshal, appendUintDec]

theorem uint256Marshal_eq (n : Nat) : uint256Marshal n = 0x22 :: (decDigits n ++ [0x22]) := by
  simp [uint256Marshal, fmtU256]

theorem denotesInt_decDigits (n : Nat) : denotesInt (decDigits n) = some (n : Int) := by
  obtain ⟨hall, _, c, t, heq, _⟩ := decDigits_spec n
  have hd := denotes_decDigits n
  rw [heq] at hall hd ⊢
  have hsign := good_head_ne_sign (base := 10) (c := c) (by simp [hall c (List.mem_cons_self ..)])
  simp [denotesInt, hsign.1, hsign.2, hd]

/-! ### hex layer -/

/-- what the property demands of hex decoding: the denoted bytes, or failure -/
def specHex (t : Text) : Res Bytes :=
  match hexDenotes t with
  | some bs => .ok bs
  | none => .err

theorem hexDecode_eq (dstLen : Nat) (src : Text) (h : src.length / 2 ≤ dstLen) :
    hexDecode dstLen src = specHex src := by
  rw [hexDecode, hexDecodeLoop_spec dstLen src [] (by simpa using h), specHex]
  cases hexDenotes src <;> simp

theorem fixedBytesUnmarshalText_eq (len : Nat) (s : Text) :
    fixedBytesUnmarshalText len s =
      if (unprefix s).length = 2 * len then specHex (unprefix s) else .err := by
  unfold fixedBytesUnmarshalText
  simp only [stripHexPrefix_eq]
  by_cases hl : (unprefix s).length = 2 * len
  · rw [if_neg (by simpa using hl), if_pos hl, hexDecode_eq len _ (by omega)]
  · rw [if_pos (by simpa using hl), if_neg hl]

theorem dynamicBytesUnmarshalText_eq (s : Text) :
    dynamicBytesUnmarshalText s = specHex (unprefix s) := by
  unfold dynamicBytesUnmarshalText
  simp only [stripHexPrefix_eq]
  exact hexDecode_eq _ _ (Nat.le_refl _)

theorem bytesMarshalText_eq (bs : Bytes) : bytesMarshalText bs = .ok (0x30 :: 0x78 :: hexEncode bs) := by
  simp [bytesMarshalText, hexEncodeInto]

theorem unprefix_0x (t : Text) : unprefix (0x30 :: 0x78 :: t) = t := rfl

theorem specHex_ok_iff (t : Text) (bs : Bytes) : specHex t = .ok bs ↔ hexDenotes t = some bs := by
  unfold specHex
  cases hexDenotes t <;> simp

end ZtypV.Conv

