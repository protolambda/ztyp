/-
What `getNode` / `setNode` / `subtreeGet` / `setLength` do to a series subtree described by
`ZeroTree` / `SeqShape` / `ListShape` (Proofs/Rep.lean).  Namespace `ShapeAux` holds the
characterisations of `ZeroTree` / `SeqShape` by node constructor and the inductions over the depth
in path form (`bitsOf`); outside it the facts are stated for `toPath` / `subtreeGet`.
-/
import ZtypV.Proofs.Rep
import ZtypV.Proofs.FillGet
import ZtypV.Proofs.SerLemmas
namespace ZtypV
open ZtypV.View

namespace ShapeAux

/-! ### `ZeroTree` by constructor -/

theorem zeroTree_zero_iff (h : HashFn) (n : Node) : ZeroTree h 0 n ↔ n = .leaf z0 := by
  constructor
  · intro hz; cases hz; rfl
  · intro he; subst he; exact ZeroTree.leaf 0

theorem zeroTree_leaf_iff (h : HashFn) (d : Nat) (c : Root) : ZeroTree h d (.leaf c) ↔ c = zh h d := by
  constructor
  · intro hz; cases hz; rfl
  · intro he; subst he; exact ZeroTree.leaf d

theorem zeroTree_pair_iff (h : HashFn) (d : Nat) (l r : Node) :
    ZeroTree h (d + 1) (.pair l r) ↔ ZeroTree h d l ∧ ZeroTree h d r := by
  constructor
  · intro hz; cases hz with | pair hl hr => exact ⟨hl, hr⟩
  · intro ⟨hl, hr⟩; exact ZeroTree.pair hl hr

theorem zeroTree_zero_pair (h : HashFn) (l r : Node) : ¬ ZeroTree h 0 (.pair l r) := by
  intro hz; cases hz

/-! ### `SeqShape` by depth and constructor -/

theorem seqShape_nil (h : HashFn) (d : Nat) (n : Node) : SeqShape h d n [] ↔ ZeroTree h d n := by
  cases d <;> simp [SeqShape]

theorem seqShape_zero_single (h : HashFn) (n x : Node) : SeqShape h 0 n [x] ↔ n = x := by
  simp [SeqShape]

theorem seqShape_zero_two (h : HashFn) (n x y : Node) (zs : List Node) :
    ¬ SeqShape h 0 n (x :: y :: zs) := by
  simp [SeqShape]

theorem seqShape_succ_cons (h : HashFn) (d : Nat) (n x : Node) (xs : List Node) :
    SeqShape h (d + 1) n (x :: xs) ↔
      ∃ l r, n = .pair l r ∧ SeqShape h d l ((x :: xs).take (2 ^ d)) ∧
        SeqShape h d r ((x :: xs).drop (2 ^ d)) := by
  simp only [SeqShape]

theorem seqShape_zero (h : HashFn) (n : Node) (xs : List Node) :
    SeqShape h 0 n xs ↔ (xs = [] ∧ n = .leaf z0) ∨ xs = [n] := by
  match xs with
  | [] => rw [seqShape_nil, zeroTree_zero_iff]; simp
  | [x] => rw [seqShape_zero_single]; simp [eq_comm]
  | x :: y :: zs => simp [seqShape_zero_two]

theorem seqShape_succ_leaf (h : HashFn) (d : Nat) (c : Root) (xs : List Node) :
    SeqShape h (d + 1) (.leaf c) xs ↔ xs = [] ∧ c = zh h (d + 1) := by
  match xs with
  | [] => rw [seqShape_nil, zeroTree_leaf_iff]; simp
  | x :: xs => rw [seqShape_succ_cons]; simp

/-- also for empty contents: a pair of zero trees is a zero tree -/
theorem seqShape_succ_pair (h : HashFn) (d : Nat) (l r : Node) (xs : List Node) :
    SeqShape h (d + 1) (.pair l r) xs ↔
      SeqShape h d l (xs.take (2 ^ d)) ∧ SeqShape h d r (xs.drop (2 ^ d)) := by
  match xs with
  | [] =>
    rw [seqShape_nil, zeroTree_pair_iff]
    simp only [List.take_nil, List.drop_nil, seqShape_nil]
  | x :: xs =>
    rw [seqShape_succ_cons]
    constructor
    · rintro ⟨l', r', he, hl, hr⟩
      cases he; exact ⟨hl, hr⟩
    · rintro ⟨hl, hr⟩; exact ⟨l, r, rfl, hl, hr⟩

end ShapeAux
open ShapeAux

/-! ### zero trees -/

theorem zeroTree_root (h : HashFn) {d : Nat} {n : Node} (hz : ZeroTree h d n) : n.root h = zh h d := by
  induction hz with
  | leaf d => rfl
  | pair _ _ ihl ihr => simp only [Node.root, ihl, ihr, zh]

theorem zeroTree_zeroNode (h : HashFn) (d : Nat) : ZeroTree h d (zeroNode h d) := by
  exact ZeroTree.leaf d

/-! ### shapes: length bound, root, construction -/

theorem shape_length_le (h : HashFn) {d : Nat} {n : Node} {xs : List Node}
    (hs : SeqShape h d n xs) : xs.length ≤ 2 ^ d := by
  induction d generalizing n xs with
  | zero =>
    rw [seqShape_zero] at hs
    rcases hs with ⟨rfl, _⟩ | rfl <;> simp
  | succ d ih =>
    cases n with
    | leaf c =>
      rw [seqShape_succ_leaf] at hs
      rw [hs.1]; exact Nat.zero_le _
    | pair l r =>
      rw [seqShape_succ_pair] at hs
      have h2 := ih hs.2
      rw [List.length_drop] at h2
      rw [Nat.pow_succ]; omega

theorem shape_root (h : HashFn) {d : Nat} {n : Node} {xs : List Node}
    (hs : SeqShape h d n xs) : n.root h = merk h d (xs.map (Node.root h)) := by
  induction d generalizing n xs with
  | zero =>
    rw [seqShape_zero] at hs
    rcases hs with ⟨rfl, rfl⟩ | rfl <;> simp [merk, Node.root]
  | succ d ih =>
    cases n with
    | leaf c =>
      rw [seqShape_succ_leaf] at hs
      rw [hs.1, hs.2]; simp only [List.map_nil, merk_nil, Node.root]
    | pair l r =>
      rw [seqShape_succ_pair] at hs
      simp only [Node.root, merk, ih hs.1, ih hs.2, List.map_take, List.map_drop]

theorem fill_shape (h : HashFn) {d : Nat} {ns : List Node} {n : Node}
    (hf : fillToContents h d ns = .ok n) : SeqShape h d n ns := by
  have hle := fill_ok_length hf
  induction d generalizing ns n with
  | zero =>
    match ns, hf, hle with
    | [], hf, _ =>
      rw [fillToContents_nil] at hf; cases hf
      exact (seqShape_nil h 0 _).2 (ZeroTree.leaf 0)
    | [a], hf, _ =>
      rw [fillToContents_zero_single] at hf; cases hf
      exact (seqShape_zero_single h _ _).2 rfl
    | _ :: _ :: _, _, hle => simp at hle
  | succ d ih =>
    cases ns with
    | nil =>
      rw [fillToContents_nil] at hf; cases hf
      exact (seqShape_nil h (d + 1) _).2 (ZeroTree.leaf (d + 1))
    | cons a as =>
      rw [fillToContents_halves h d (List.cons_ne_nil a as) hle] at hf
      cases hl : fillToContents h d ((a :: as).take (2 ^ d)) with
      | error e => rw [hl] at hf; cases hf
      | ok l =>
        cases hr : fillToContents h d ((a :: as).drop (2 ^ d)) with
        | error e => rw [hl, hr] at hf; cases hf
        | ok r =>
          rw [hl, hr] at hf; cases hf
          rw [seqShape_succ_pair]
          exact ⟨ih hl (fill_ok_length hl), ih hr (fill_ok_length hr)⟩

/-- a bottom node that is the zero chunk can be dropped from the end of the contents
    (needed when a pop empties the last packed chunk) -/
theorem shape_dropLast_zero (h : HashFn) {d : Nat} {n : Node} {xs : List Node}
    (hs : SeqShape h d n (xs ++ [.leaf z0])) : SeqShape h d n xs := by
  induction d generalizing n xs with
  | zero =>
    rw [seqShape_zero] at hs
    rcases hs with ⟨he, _⟩ | he
    · simp at he
    · match xs, he with
      | [], he =>
        simp at he; subst he
        exact (seqShape_nil h 0 _).2 (ZeroTree.leaf 0)
      | y :: ys, he => simp at he
  | succ d ih =>
    cases n with
    | leaf c =>
      rw [seqShape_succ_leaf] at hs
      simp at hs
    | pair l r =>
      rw [seqShape_succ_pair] at hs ⊢
      by_cases hid : xs.length < 2 ^ d
      · rw [List.take_of_length_le (by simp; omega), List.drop_of_length_le (by simp; omega)] at hs
        rw [List.take_of_length_le (by omega), List.drop_of_length_le (by omega)]
        exact ⟨ih hs.1, hs.2⟩
      · have h1 : 2 ^ d ≤ xs.length := by omega
        rw [List.take_append_of_le_length h1, List.drop_append_of_le_length h1] at hs
        exact ⟨hs.1, ih hs.2⟩

namespace ShapeAux

/-! ### `getNode` / `setNode` along `bitsOf` paths -/

theorem get_path (h : HashFn) (d : Nat) : ∀ (n : Node) (xs : List Node) (i : Nat) (hi : i < xs.length),
    SeqShape h d n xs → getNode n (bitsOf i d) = .ok xs[i] := by
  induction d with
  | zero =>
    intro n xs i hi hs
    rw [seqShape_zero] at hs
    rcases hs with ⟨rfl, _⟩ | rfl
    · simp at hi
    · have : i = 0 := by simpa using hi
      subst this; simp
  | succ d ih =>
    intro n xs i hi hs
    have hlen := shape_length_le h hs
    cases n with
    | leaf c =>
      rw [seqShape_succ_leaf] at hs
      rw [hs.1] at hi; simp at hi
    | pair l r =>
      rw [seqShape_succ_pair] at hs
      rw [bitsOf_succ]
      by_cases hid : i < 2 ^ d
      · rw [Nat.testBit_lt_two_pow hid, getNode_pair_false]
        have hi' : i < (xs.take (2 ^ d)).length := by rw [List.length_take]; omega
        rw [ih l _ i hi' hs.1, List.getElem_take]
      · have h1 : 2 ^ d ≤ i := by omega
        have h2 : i < 2 ^ (d + 1) := by omega
        rw [testBit_top_true i d h1 h2, getNode_pair_true, ← bitsOf_sub_pow i d h1 h2]
        have hi' : i - 2 ^ d < (xs.drop (2 ^ d)).length := by rw [List.length_drop]; omega
        rw [ih r _ _ hi' hs.2, List.getElem_drop]
        congr 2; omega

theorem setNode_pair_false (h : HashFn) (l r : Node) (bs : List Bool) (e : Bool) (v : Node) :
    setNode h (.pair l r) (false :: bs) e v = (fun l' => Node.pair l' r) <$> setNode h l bs e v := by
  simp [setNode]

theorem setNode_pair_true (h : HashFn) (l r : Node) (bs : List Bool) (e : Bool) (v : Node) :
    setNode h (.pair l r) (true :: bs) e v = (fun r' => Node.pair l r') <$> setNode h r bs e v := by
  simp [setNode]

/-- expansion of the zero summary of the right height, going left -/
theorem setNode_zero_false (h : HashFn) (bs : List Bool) (v : Node) :
    setNode h (.leaf (zh h (bs.length + 1))) (false :: bs) true v =
      (fun l' => Node.pair l' (zeroNode h bs.length)) <$> setNode h (zeroNode h bs.length) bs true v := by
  simp [setNode]

theorem set_path (h : HashFn) (x : Node) (e : Bool) (d : Nat) :
    ∀ (n : Node) (xs : List Node) (i : Nat), i < xs.length → SeqShape h d n xs →
    ∃ n', setNode h n (bitsOf i d) e x = .ok n' ∧ SeqShape h d n' (xs.set i x) := by
  induction d with
  | zero =>
    intro n xs i hi hs
    rw [seqShape_zero] at hs
    rcases hs with ⟨rfl, _⟩ | rfl
    · simp at hi
    · have : i = 0 := by simpa using hi
      subst this
      exact ⟨x, by rw [bitsOf_zero, setNode_nil], by simp [seqShape_zero_single]⟩
  | succ d ih =>
    intro n xs i hi hs
    have hlen := shape_length_le h hs
    cases n with
    | leaf c =>
      rw [seqShape_succ_leaf] at hs
      rw [hs.1] at hi; simp at hi
    | pair l r =>
      rw [seqShape_succ_pair] at hs
      rw [bitsOf_succ]
      by_cases hid : i < 2 ^ d
      · rw [Nat.testBit_lt_two_pow hid, setNode_pair_false]
        have hi' : i < (xs.take (2 ^ d)).length := by rw [List.length_take]; omega
        obtain ⟨l', hl1, hl2⟩ := ih l _ i hi' hs.1
        refine ⟨.pair l' r, by rw [hl1]; rfl, ?_⟩
        rw [seqShape_succ_pair, List.take_set, List.drop_set_of_lt hid]
        exact ⟨hl2, hs.2⟩
      · have h1 : 2 ^ d ≤ i := by omega
        have h2 : i < 2 ^ (d + 1) := by omega
        rw [testBit_top_true i d h1 h2, setNode_pair_true, ← bitsOf_sub_pow i d h1 h2]
        have hi' : i - 2 ^ d < (xs.drop (2 ^ d)).length := by rw [List.length_drop]; omega
        obtain ⟨r', hr1, hr2⟩ := ih r _ _ hi' hs.2
        refine ⟨.pair l r', by rw [hr1]; rfl, ?_⟩
        rw [seqShape_succ_pair, List.take_set, List.drop_set, if_neg (by omega)]
        refine ⟨?_, hr2⟩
        rw [List.set_eq_of_length_le (by rw [List.length_take]; omega)]
        exact hs.1

/-- append in path form: the first padding position is written, zero summaries on the way are
    materialised one level at a time -/
theorem append_path (h : HashFn) (x : Node) (d : Nat) :
    ∀ (n : Node) (xs : List Node), xs.length < 2 ^ d → SeqShape h d n xs →
    ∃ n', setNode h n (bitsOf xs.length d) true x = .ok n' ∧ SeqShape h d n' (xs ++ [x]) := by
  induction d with
  | zero =>
    intro n xs hlen hs
    have : xs = [] := List.eq_nil_of_length_eq_zero (by simpa using hlen)
    subst this
    exact ⟨x, by rw [bitsOf_zero, setNode_nil], by simp [seqShape_zero_single]⟩
  | succ d ih =>
    intro n xs hlen hs
    have hpos : 0 < 2 ^ d := Nat.two_pow_pos d
    rw [bitsOf_succ]
    cases n with
    | leaf c =>
      rw [seqShape_succ_leaf] at hs
      obtain ⟨rfl, rfl⟩ := hs
      obtain ⟨l', hl1, hl2⟩ := ih (zeroNode h d) [] (by simpa using hpos)
        ((seqShape_nil h d _).2 (ZeroTree.leaf d))
      simp only [List.length_nil, List.nil_append] at hl1 hl2 ⊢
      rw [Nat.testBit_lt_two_pow hpos]
      have hz := setNode_zero_false h (bitsOf 0 d) x
      rw [bitsOf_length] at hz
      rw [hz, hl1]
      refine ⟨_, rfl, ?_⟩
      rw [seqShape_succ_pair, List.take_of_length_le (by simp; omega),
        List.drop_of_length_le (by simp; omega), seqShape_nil]
      exact ⟨hl2, ZeroTree.leaf d⟩
    | pair l r =>
      rw [seqShape_succ_pair] at hs
      by_cases hid : xs.length < 2 ^ d
      · rw [Nat.testBit_lt_two_pow hid, setNode_pair_false]
        have ht : xs.take (2 ^ d) = xs := List.take_of_length_le (by omega)
        have hdr : xs.drop (2 ^ d) = [] := List.drop_of_length_le (by omega)
        rw [ht] at hs
        obtain ⟨l', hl1, hl2⟩ := ih l xs hid hs.1
        refine ⟨.pair l' r, by rw [hl1]; rfl, ?_⟩
        rw [seqShape_succ_pair, List.take_of_length_le (by simp; omega),
          List.drop_of_length_le (by simp; omega)]
        rw [hdr] at hs
        exact ⟨hl2, hs.2⟩
      · have h1 : 2 ^ d ≤ xs.length := by omega
        rw [testBit_top_true _ d h1 hlen, setNode_pair_true, ← bitsOf_sub_pow _ d h1 hlen]
        have hl' : (xs.drop (2 ^ d)).length = xs.length - 2 ^ d := List.length_drop
        have hlt : (xs.drop (2 ^ d)).length < 2 ^ d := by
          rw [hl']; rw [Nat.pow_succ] at hlen; omega
        obtain ⟨r', hr1, hr2⟩ := ih r _ hlt hs.2
        rw [hl'] at hr1
        refine ⟨.pair l r', by rw [hr1]; rfl, ?_⟩
        rw [seqShape_succ_pair, List.take_append_of_le_length h1, List.drop_append_of_le_length h1]
        exact ⟨hs.1, hr2⟩

/-! ### beyond the contents -/

theorem zero_get_path (h : HashFn) (d : Nat) : ∀ (n : Node) (p : List Bool), p.length = d →
    ZeroTree h d n →
    getNode n p = .error .nav ∨ ∃ z, getNode n p = .ok z ∧ ZeroTree h 0 z := by
  induction d with
  | zero =>
    intro n p hp hz
    have : p = [] := List.eq_nil_of_length_eq_zero hp
    subst this
    exact Or.inr ⟨n, getNode_nil n, hz⟩
  | succ d ih =>
    intro n p hp hz
    match p, hp with
    | b :: p, hp =>
      cases n with
      | leaf c => exact Or.inl rfl
      | pair l r =>
        rw [zeroTree_pair_iff] at hz
        have hp' : p.length = d := by simpa using hp
        cases b
        · rw [getNode_pair_false]; exact ih l p hp' hz.1
        · rw [getNode_pair_true]; exact ih r p hp' hz.2

theorem get_beyond_path (h : HashFn) (d : Nat) : ∀ (n : Node) (xs : List Node) (i : Nat),
    xs.length ≤ i → i < 2 ^ d → SeqShape h d n xs →
    getNode n (bitsOf i d) = .error .nav ∨ ∃ z, getNode n (bitsOf i d) = .ok z ∧ ZeroTree h 0 z := by
  induction d with
  | zero =>
    intro n xs i hle hi hs
    have : xs = [] := List.eq_nil_of_length_eq_zero (by simp at hi; omega)
    subst this
    rw [seqShape_nil] at hs
    exact Or.inr ⟨n, by simp, hs⟩
  | succ d ih =>
    intro n xs i hle hi hs
    cases n with
    | leaf c => exact Or.inl (by rw [bitsOf_succ]; rfl)
    | pair l r =>
      rw [seqShape_succ_pair] at hs
      rw [bitsOf_succ]
      by_cases hid : i < 2 ^ d
      · rw [Nat.testBit_lt_two_pow hid, getNode_pair_false]
        exact ih l _ i (by rw [List.length_take]; omega) hid hs.1
      · have h1 : 2 ^ d ≤ i := by omega
        rw [testBit_top_true i d h1 hi, getNode_pair_true, ← bitsOf_sub_pow i d h1 hi]
        rw [Nat.pow_succ] at hi
        exact ih r _ _ (by rw [List.length_drop]; omega) (by omega) hs.2

/-! ### the last position of a list -/

theorem set_last_eq {α : Type} (xs : List α) (hne : xs ≠ []) (z : α) :
    xs.set (xs.length - 1) z = xs.dropLast ++ [z] := by
  obtain ⟨ys, y, rfl⟩ : ∃ ys y, xs = ys ++ [y] :=
    ⟨xs.dropLast, xs.getLast hne, (List.dropLast_concat_getLast hne).symm⟩
  rw [List.dropLast_concat, List.length_append, List.length_singleton, Nat.add_sub_cancel,
    List.set_append, if_neg (Nat.lt_irrefl _), Nat.sub_self]
  rfl

end ShapeAux

/-! ### the same for `toPath` / `subtreeGet` -/

theorem shape_get (h : HashFn) {d : Nat} {n : Node} {xs : List Node}
    (hs : SeqShape h d n xs) {i : Nat} (hi : i < xs.length) (hd : d < 64) :
    subtreeGet n d i = .ok xs[i] := by
  have hlen := shape_length_le h hs
  unfold subtreeGet
  rw [toPath_ok i d hd (by omega)]
  exact get_path h d n xs i hi hs

theorem shape_set (h : HashFn) {d : Nat} {n : Node} {xs : List Node}
    (hs : SeqShape h d n xs) {i : Nat} (hi : i < xs.length) (hd : d < 64) (x : Node) (e : Bool) :
    ∃ p n', toPath i d = .ok p ∧ setNode h n p e x = .ok n' ∧ SeqShape h d n' (xs.set i x) := by
  have hlen := shape_length_le h hs
  obtain ⟨n', h1, h2⟩ := set_path h x e d n xs i hi hs
  exact ⟨bitsOf i d, n', toPath_ok i d hd (by omega), h1, h2⟩

theorem shape_append (h : HashFn) {d : Nat} {n : Node} {xs : List Node}
    (hs : SeqShape h d n xs) (hlen : xs.length < 2 ^ d) (hd : d < 64) (x : Node) :
    ∃ p n', toPath xs.length d = .ok p ∧ setNode h n p true x = .ok n' ∧ SeqShape h d n' (xs ++ [x]) := by
  obtain ⟨n', h1, h2⟩ := append_path h x d n xs hlen hs
  exact ⟨bitsOf xs.length d, n', toPath_ok _ d hd hlen, h1, h2⟩

/-- pop of a complex element: the last position is overwritten by the zero leaf -/
theorem shape_pop (h : HashFn) {d : Nat} {n : Node} {xs : List Node}
    (hs : SeqShape h d n xs) (hne : xs ≠ []) (hd : d < 64) :
    ∃ p n', toPath (xs.length - 1) d = .ok p ∧ setNode h n p true (zeroNode h 0) = .ok n' ∧
      SeqShape h d n' xs.dropLast := by
  have hpos : 0 < xs.length := List.length_pos_iff.mpr hne
  obtain ⟨p, n', h1, h2, h3⟩ := shape_set h hs (i := xs.length - 1) (by omega) hd (zeroNode h 0) true
  refine ⟨p, n', h1, h2, ?_⟩
  apply shape_dropLast_zero h (n := n')
  have he : xs.set (xs.length - 1) (zeroNode h 0) = xs.dropLast ++ [.leaf z0] :=
    set_last_eq xs hne _
  rw [← he]; exact h3

/-- reading one position past the contents: an error or the zero leaf, never data -/
theorem shape_get_beyond (h : HashFn) {d : Nat} {n : Node} {xs : List Node}
    (hs : SeqShape h d n xs) {i : Nat} (hi : xs.length ≤ i) (hi2 : i < 2 ^ d) (hd : d < 64) :
    subtreeGet n d i = .error .nav ∨ ∃ z, subtreeGet n d i = .ok z ∧ ZeroTree h 0 z := by
  unfold subtreeGet
  rw [toPath_ok i d hd hi2]
  exact get_beyond_path h d n xs i hi hi2 hs

/-- `SubtreeView.GetNode(i)` beyond the contents of a filled subtree: only zero padding -/
theorem get_fill_pad_cases {h : HashFn} {d : Nat} {ns : List Node} {n : Node} {i : Nat}
    (hf : fillToContents h d ns = .ok n) (hle : ns.length ≤ i) (hi : i < 2 ^ d) (hd : d < 64) :
    View.subtreeGet n d i = .ok (zeroNode h 0) ∨ View.subtreeGet n d i = .error .nav := by
  rcases shape_get_beyond h (fill_shape h hf) hle hi hd with he | ⟨z, hz, hzero⟩
  · exact Or.inr he
  · rw [zeroTree_zero_iff] at hzero
    subst hzero
    exact Or.inl hz

/-! ### list views: contents at depth `d` under a pair with the length node -/

/-- `Length()` of a list backing whose length node was written by hand -/
theorem listLength_lengthNode (c : Node) (k lim : Nat) (hk : k < 2 ^ 64) :
    listLength (.pair c (lengthNode k)) lim = if k > lim then .error .other else .ok k := by
  have h1 : (chunkOf (leBytes 8 k)).take 8 = leBytes 8 k := by
    simpa using chunkOf_take_self (leBytes 8 k) (by simp)
  have h2 : leNat (leBytes 8 k) = k := by
    rw [leNat_leBytes]; exact Nat.mod_eq_of_lt hk
  simp only [listLength, getNode, lengthNode, if_true, R.bind_ok, asLeaf, h1, h2]

theorem listLength_pair (c : Node) (k lim : Nat) (hk : k ≤ lim) (hlim : lim < 2 ^ 64) :
    listLength (.pair c (lengthNode k)) lim = .ok k := by
  rw [listLength_lengthNode c k lim (Nat.lt_of_le_of_lt hk hlim), if_neg (Nat.not_lt_of_le hk)]

theorem listShape_length (h : HashFn) {d : Nat} {n : Node} {xs : List Node} {len lim : Nat}
    (hs : ListShape h d n xs len) (hl : len ≤ lim) (h64 : len < 2 ^ 64) : listLength n lim = .ok len := by
  obtain ⟨c, rfl, _⟩ := hs
  rw [listLength_lengthNode c len lim h64, if_neg (Nat.not_lt_of_le hl)]

theorem listShape_root (h : HashFn) {d : Nat} {n : Node} {xs : List Node} {len : Nat}
    (hs : ListShape h d n xs len) : n.root h = mixin h (merk h d (xs.map (Node.root h))) len := by
  obtain ⟨c, rfl, hc⟩ := hs
  simp only [Node.root, lengthNode, mixin, shape_root h hc]

theorem listShape_get (h : HashFn) {d : Nat} {n : Node} {xs : List Node} {len : Nat}
    (hs : ListShape h d n xs len) {i : Nat} (hi : i < xs.length) (hd : d + 1 < 64) :
    subtreeGet n (d + 1) i = .ok xs[i] := by
  obtain ⟨c, rfl, hc⟩ := hs
  have hlen := shape_length_le h hc
  rw [subtreeGet_pair_left c _ d i hd (by omega)]
  exact shape_get h hc hi (by omega)

theorem listShape_set (h : HashFn) {d : Nat} {n : Node} {xs : List Node} {len : Nat}
    (hs : ListShape h d n xs len) {i : Nat} (hi : i < xs.length) (hd : d + 1 < 64) (x : Node) (e : Bool) :
    ∃ p n', toPath i (d + 1) = .ok p ∧ setNode h n p e x = .ok n' ∧ ListShape h d n' (xs.set i x) len := by
  obtain ⟨c, rfl, hc⟩ := hs
  have hlen := shape_length_le h hc
  obtain ⟨c', h1, h2⟩ := set_path h x e d c xs i hi hc
  have hi' : i < 2 ^ d := by omega
  refine ⟨bitsOf i (d + 1), .pair c' (lengthNode len), toPath_ok i (d + 1) hd ?_, ?_, c', rfl, h2⟩
  · rw [Nat.pow_succ]; omega
  · rw [bitsOf_succ, Nat.testBit_lt_two_pow hi', setNode_pair_false, h1]; rfl

theorem listShape_append (h : HashFn) {d : Nat} {n : Node} {xs : List Node} {len : Nat}
    (hs : ListShape h d n xs len) (hlen : xs.length < 2 ^ d) (hd : d + 1 < 64) (x : Node) :
    ∃ p n', toPath xs.length (d + 1) = .ok p ∧ setNode h n p true x = .ok n' ∧
      ListShape h d n' (xs ++ [x]) len := by
  obtain ⟨c, rfl, hc⟩ := hs
  obtain ⟨c', h1, h2⟩ := append_path h x d c xs hlen hc
  refine ⟨bitsOf xs.length (d + 1), .pair c' (lengthNode len), toPath_ok _ (d + 1) hd ?_, ?_,
    c', rfl, h2⟩
  · rw [Nat.pow_succ]; omega
  · rw [bitsOf_succ, Nat.testBit_lt_two_pow hlen, setNode_pair_false, h1]; rfl

theorem listShape_setLength (h : HashFn) {d : Nat} {n : Node} {xs : List Node} {len : Nat}
    (hs : ListShape h d n xs len) (len' : Nat) :
    ∃ n', setLength h n len' = .ok n' ∧ ListShape h d n' xs len' := by
  obtain ⟨c, rfl, hc⟩ := hs
  refine ⟨.pair c (lengthNode len'), ?_, c, rfl, hc⟩
  unfold setLength
  rw [setNode_pair_true, setNode_nil]; rfl

/-! ### non-vacuity: a concrete shaped subtree, and an append into its zero summary -/

private def hcat : HashFn := fun a b => a ++ b

example : SeqShape hcat 2
    (.pair (.pair (.leaf [1]) (zeroNode hcat 0)) (zeroNode hcat 1)) [.leaf [1]] :=
  fill_shape hcat (d := 2) (ns := [.leaf [1]]) rfl

example : ∃ n', setNode hcat
      (.pair (.pair (.leaf [1]) (.leaf [2])) (zeroNode hcat 1)) [true, false] true (.leaf [3]) = .ok n' ∧
    SeqShape hcat 2 n' [.leaf [1], .leaf [2], .leaf [3]] := by
  have hs : SeqShape hcat 2
      (.pair (.pair (.leaf [1]) (.leaf [2])) (zeroNode hcat 1)) [.leaf [1], .leaf [2]] :=
    fill_shape hcat (d := 2) (ns := [.leaf [1], .leaf [2]]) rfl
  obtain ⟨p, n', h1, h2, h3⟩ := shape_append hcat hs (by decide) (by decide) (.leaf [3])
  have hp : p = [true, false] := by
    have : toPath 2 2 = .ok [true, false] := by
      rw [toPath_ok 2 2 (by omega) (by omega)]; congr 1
    simp only [List.length_cons, List.length_nil] at h1
    rw [this] at h1; cases h1; rfl
  subst hp
  exact ⟨n', h2, h3⟩

end ZtypV
