/-
Basic facts for the decoder proofs (C03): inversion of the result monad, the reader model `DR`
and the notion `Span` (a reader after exactly `k` bytes were taken from another), totality of
`fillToContents` below its capacity, the first equations of the model's decoder functions, and the
statements `Sound` / `NoPanic` proved type by type.
-/
import ZtypV.Model.Decode
import ZtypV.Proofs.SerSize
import ZtypV.Proofs.Fill
namespace ZtypV.DecodeProofs
open ZtypV ZtypV.View

/-! ### inversion of the result monad -/

theorem bind_eq_ok {α β : Type} {x : R α} {f : α → R β} {b : β}
    (hb : (x >>= f) = .ok b) : ∃ a, x = .ok a ∧ f a = .ok b := by
  cases x with
  | error e => cases hb
  | ok a => exact ⟨a, rfl, hb⟩

theorem bind_ne_panic {α β : Type} {x : R α} {f : α → R β}
    (hx : x ≠ .error .panic) (hf : ∀ a, x = .ok a → f a ≠ .error .panic) :
    (x >>= f) ≠ .error .panic := by
  cases x with
  | error e =>
    intro hc
    apply hx
    cases e <;> first | rfl | cases hc
  | ok a => exact hf a rfl

theorem ite_err_eq_ok {α : Type} {c : Prop} [Decidable c] {e : Err} {b : R α} {x : α}
    (h : (if c then .error e else b) = .ok x) : ¬ c ∧ b = .ok x := by
  split at h
  · cases h
  · rename_i hc; exact ⟨hc, h⟩

theorem ite_ne_panic {α : Type} {c : Prop} [Decidable c] {a b : R α}
    (ha : c → a ≠ .error .panic) (hb : ¬ c → b ≠ .error .panic) :
    (if c then a else b) ≠ .error .panic := by
  split
  · rename_i hc; exact ha hc
  · rename_i hc; exact hb hc

theorem other_ne_panic {α : Type} : (Except.error Err.other : R α) ≠ .error .panic := by
  intro hc; cases hc

theorem ok_ne_panic {α : Type} (a : α) : (Except.ok a : R α) ≠ .error .panic := by
  intro hc; cases hc

theorem orNil_eq_ok {r : R Node} {n : Node} (h : orNil r = .ok n) : r = .ok n := by
  cases r with
  | error e => cases h
  | ok a => exact h

theorem orNil_bind_ne_panic {α : Type} {r : R Node} {g : Node → R α} (hr : ∃ n, r = .ok n)
    (hg : ∀ c, g c ≠ .error .panic) : (orNil r >>= g) ≠ .error .panic := by
  obtain ⟨n, rfl⟩ := hr
  exact hg n

/-! ### the reader -/

theorem read_ok {dr dr' : DR} {n : Nat} {bs : Bytes} (h : dr.read n = .ok (bs, dr')) :
    n ≤ dr.avail.length ∧ bs = dr.avail.take n ∧ dr'.avail = dr.avail.drop n ∧
      dr'.i = dr.i + n ∧ dr'.max = dr.max := by
  unfold DR.read at h
  by_cases h0 : n = 0
  · rw [if_pos h0] at h
    cases h
    subst h0
    exact ⟨Nat.zero_le _, rfl, rfl, rfl, rfl⟩
  · rw [if_neg h0] at h
    obtain ⟨_, h⟩ := ite_err_eq_ok h
    obtain ⟨h2, h⟩ := ite_err_eq_ok h
    cases h
    exact ⟨Nat.le_of_not_lt h2, rfl, rfl, rfl, rfl⟩

theorem read_ne_panic (dr : DR) (n : Nat) : dr.read n ≠ .error .panic :=
  ite_ne_panic (fun _ => ok_ne_panic _) fun _ =>
    ite_ne_panic (fun _ => other_ne_panic) fun _ =>
      ite_ne_panic (fun _ => other_ne_panic) fun _ => ok_ne_panic _

theorem readOffset_ne_panic (dr : DR) : dr.readOffset ≠ .error .panic := by
  unfold DR.readOffset
  apply bind_ne_panic (read_ne_panic dr 4)
  intro a _ hc
  cases hc

theorem sub_ne_panic (dr : DR) (c : Nat) : dr.sub c ≠ .error .panic := by
  unfold DR.sub
  split <;> (intro hc; cases hc)

theorem inSub_ne_panic {α : Type} (dr : DR) (c : Nat) (f : DR → R (α × DR))
    (hf : ∀ d, f d ≠ .error .panic) : dr.inSub c f ≠ .error .panic := by
  unfold DR.inSub
  apply bind_ne_panic (sub_ne_panic dr c)
  intro c0 _
  apply bind_ne_panic (hf c0)
  intro a _ hc
  cases hc

/-- the parent resumes behind what the child consumed, which need not be the whole sub-scope -/
theorem inSub_ok {α : Type} {dr dr' : DR} {count : Nat} {f : DR → R (α × DR)} {a : α}
    (h : dr.inSub count f = .ok (a, dr')) :
    ∃ c1, f { i := 0, max := count, avail := dr.avail.take count } = .ok (a, c1) ∧
      dr'.avail = dr.avail.drop ((dr.avail.take count).length - c1.avail.length) := by
  unfold DR.inSub at h
  obtain ⟨c0, h0, h⟩ := bind_eq_ok h
  obtain ⟨⟨a', c1⟩, h1, h⟩ := bind_eq_ok h
  unfold DR.sub at h0
  split at h0; · cases h0
  cases h0
  cases h
  exact ⟨c1, h1, rfl⟩

/-! ### spans -/

/-- `dr'` is `dr` after exactly the `k` bytes `bs` were taken from its stream -/
structure Span (dr dr' : DR) (k : Nat) (bs : Bytes) : Prop where
  take : bs = dr.avail.take k
  le : k ≤ dr.avail.length
  drop : dr'.avail = dr.avail.drop k

theorem Span.refl (dr : DR) : Span dr dr 0 [] := ⟨rfl, Nat.zero_le _, rfl⟩

theorem Span.append {dr d1 d2 : DR} {k1 k2 : Nat} {b1 b2 : Bytes} (h1 : Span dr d1 k1 b1)
    (h2 : Span d1 d2 k2 b2) : Span dr d2 (k1 + k2) (b1 ++ b2) := by
  obtain ⟨t1, l1, e1⟩ := h1
  obtain ⟨t2, l2, e2⟩ := h2
  rw [e1] at t2 l2 e2
  rw [List.length_drop] at l2
  exact ⟨by rw [List.take_add, t1, t2], by omega, by rw [e2, List.drop_drop]⟩

theorem Span.cast {dr dr' : DR} {k k' : Nat} {bs bs' : Bytes} (h : Span dr dr' k bs) (hk : k = k')
    (hb : bs = bs') : Span dr dr' k' bs' := hk ▸ hb ▸ h

theorem Span.length {dr dr' : DR} {k : Nat} {bs : Bytes} (h : Span dr dr' k bs) : bs.length = k := by
  rw [h.take, List.length_take]; exact Nat.min_eq_left h.le

theorem read_span {dr dr' : DR} {n : Nat} {bs : Bytes} (h : dr.read n = .ok (bs, dr')) :
    Span dr dr' n bs :=
  let ⟨hl, hb, ha, _⟩ := read_ok h
  ⟨hb, hl, ha⟩

theorem readOffset_ok {dr dr' : DR} {o : Nat} (h : dr.readOffset = .ok (o, dr')) :
    4 ≤ dr.avail.length ∧ leBytes 4 o = dr.avail.take 4 ∧ dr'.avail = dr.avail.drop 4 := by
  unfold DR.readOffset at h
  obtain ⟨⟨bs, d1⟩, h1, h⟩ := bind_eq_ok h
  cases h
  obtain ⟨hl, hbs, hav, _, _⟩ := read_ok h1
  refine ⟨hl, ?_, hav⟩
  have hlen : bs.length = 4 := by rw [hbs, List.length_take]; omega
  have := leBytes_leNat bs
  rw [hlen] at this
  rw [this, hbs]

theorem readOffset_span {dr dr' : DR} {o : Nat} (h : dr.readOffset = .ok (o, dr')) :
    Span dr dr' 4 (leBytes 4 o) :=
  let ⟨hl, hb, ha⟩ := readOffset_ok h
  ⟨hb, hl, ha⟩

/-! ### fill capacity, bottom nodes of a byte string, the zero length node -/

theorem fillToContents_ok (h : HashFn) : ∀ (d : Nat) (ns : List Node), ns.length ≤ 2 ^ d →
    ∃ n, fillToContents h d ns = .ok n := by
  intro d
  induction d with
  | zero =>
    intro ns hl
    rw [fillToContents.eq_def]
    dsimp only
    by_cases h0 : ns.length = 0
    · exact ⟨_, if_pos h0⟩
    · rw [if_neg h0, if_neg (Nat.not_lt.mpr hl)]; exact ⟨_, rfl⟩
  | succ d ih =>
    intro ns hl
    by_cases h0 : ns.length = 0
    · rw [List.eq_nil_of_length_eq_zero h0, fillToContents_nil]; exact ⟨_, rfl⟩
    rw [fillToContents_succ h d ns (Nat.pos_of_ne_zero h0) hl]
    rw [Nat.pow_succ] at hl
    by_cases hp : ns.length ≤ 2 ^ d
    · obtain ⟨l, hl'⟩ := ih ns hp
      rw [if_pos hp, hl']; exact ⟨_, rfl⟩
    · obtain ⟨l, hl'⟩ := ih (ns.take (2 ^ d)) (by rw [List.length_take]; omega)
      obtain ⟨r, hr'⟩ := ih (ns.drop (2 ^ d)) (by rw [List.length_drop]; omega)
      rw [if_neg hp, hl', hr']; exact ⟨_, rfl⟩

theorem bytesIntoNodes_length (bs : Bytes) : (bytesIntoNodes bs).length = (bs.length + 31) / 32 := by
  simp [bytesIntoNodes, chunks]

theorem bytesIntoNodes_nil : bytesIntoNodes [] = [] := by
  simp [bytesIntoNodes, chunks]

theorem lengthNode_zero (h : HashFn) : lengthNode 0 = zeroNode h 0 := by
  have : chunkOf (leBytes 8 0) = z0 := by decide
  simp only [lengthNode, zeroNode, zh, this]

theorem fill_bytes_ok (h : HashFn) (bs : Bytes) (m : Nat) (hm : (bs.length + 31) / 32 ≤ m) :
    ∃ n, fillToContents h (coverDepth m) (bytesIntoNodes bs) = .ok n := by
  apply fillToContents_ok
  rw [bytesIntoNodes_length]
  exact Nat.le_trans hm (le_two_pow_coverDepth m)

/-! ### first equations of the model functions

Lean derives the equation lemmas behind `rw [f]` and `simp [f]` when a proof first asks for them
and keeps them with the module of that proof; for the large mutual functions this is dear.  The
cases below are used here, in the module the decoder's proof files build on, so that later
uses find them derived. -/

theorem decode_uint (h : HashFn) (b : Nat) (dr : DR) :
    decode h (.uint b) dr = (do let (bs, dr') ← dr.read b; .ok (.leaf (chunkOf bs), dr')) := by
  rw [decode]

theorem decode_bytesN (h : HashFn) (k : Nat) (dr : DR) :
    decode h (.bytesN k) dr = (do let (bs, dr') ← dr.read k; .ok (.leaf (chunkOf bs), dr')) := rfl

theorem construct_num (h : HashFn) (b n : Nat) :
    construct h (.uint b) (.num n) = .ok (.leaf (chunkOf (leBytes b n))) := by
  rw [construct]

theorem serialize_num (b n : Nat) : serialize (.uint b) (.num n) = leBytes b n := by
  rw [serialize]

theorem hasType_num (b n : Nat) : hasType (.uint b) (.num n) = decide (n < 256 ^ b) := by
  rw [hasType]

theorem fixedSize_uint (b : Nat) : (Ty.uint b).fixedSize = b := by rw [Ty.fixedSize]

theorem uint_of_bytes {b : Nat} {bs : Bytes} (hl : bs.length = b) :
    hasType (.uint b) (.num (leNat bs)) = true ∧ serialize (.uint b) (.num (leNat bs)) = bs := by
  subst hl
  rw [hasType_num, serialize_num, leBytes_leNat]
  exact ⟨decide_eq_true (leNat_lt bs), rfl⟩

theorem decodeFixedPart_nil (h : HashFn) (prev : Nat) (first : Bool) (scope : Nat) (dr : DR) :
    decodeFixedPart h [] prev first scope dr = .ok ([], [], dr) := by
  rw [decodeFixedPart]

/-- uniform unfolding of the second container loop (the equation compiler splits on the offsets) -/
theorem decodeDynPart_cons (h : HashFn) (t : Ty) (ts : List Ty) (scope : Nat) (offs : List Nat) (dr : DR) :
    decodeDynPart h (t :: ts) scope offs dr =
      (if t.isFixed = true then decodeDynPart h ts scope offs dr
      else match offs with
        | [] => .error .panic
        | o :: rest => (do
          let (x, dr') ← dr.inSub (rest.headD scope - o) (fun d => decode h t d)
          let (xs, dr'') ← decodeDynPart h ts scope rest dr'
          .ok (x :: xs, dr''))) := by
  cases offs with
  | nil => rw [decodeDynPart]
  | cons o rest =>
    cases rest with
    | nil => rw [decodeDynPart]; rfl
    | cons o' rest' => rw [decodeDynPart]; rfl

theorem decodeOpt_eq (h : HashFn) : ∀ (opts : List Ty) (k rem : Nat) (dr : DR),
    decodeOpt h opts k rem dr = (match opts[k]? with
      | some t => if (t.isFixed && t.fixedSize != rem) = true then .error .other else decode h t dr
      | Option.none => .error .panic) := by
  intro opts
  induction opts with
  | nil => intro k rem dr; rw [decodeOpt]; rfl
  | cons t ts ih =>
    intro k rem dr
    cases k with
    | zero => rw [decodeOpt]; rfl
    | succ k => rw [decodeOpt, ih]; rfl

/-! ### the statements proved type by type -/

/-- single-chunk leaf types: their decoders are plain fixed-size reads -/
def isLeafTy : Ty → Bool
  | .uint _ | .bool | .bytesN _ => true
  | _ => false

/-- soundness of the decoder of one type: on success the decoder consumed exactly its scope
    (leaf types are always handed their fixed size), the consumed bytes are the encoding of a
    well-typed value, and the returned backing is what the constructor route builds for it -/
def Sound (h : HashFn) (t : Ty) : Prop :=
  ∀ (dr : DR) (n : Node) (dr' : DR), decode h t dr = .ok (n, dr') →
    (isLeafTy t = true → dr.scope = t.fixedSize) →
    ∃ v, hasType t v = true ∧ serialize t v = dr.avail.take dr.scope ∧
      dr.scope ≤ dr.avail.length ∧ dr'.avail = dr.avail.drop dr.scope ∧ construct h t v = .ok n

theorem Span.sound {h : HashFn} {t : Ty} {dr dr' : DR} {bs : Bytes} {v : Val} {n : Node}
    (sp : Span dr dr' dr.scope bs) (hv : hasType t v = true) (hs : serialize t v = bs)
    (hc : construct h t v = .ok n) :
    ∃ v, hasType t v = true ∧ serialize t v = dr.avail.take dr.scope ∧
      dr.scope ≤ dr.avail.length ∧ dr'.avail = dr.avail.drop dr.scope ∧ construct h t v = .ok n :=
  ⟨v, hv, hs.trans sp.take, sp.le, sp.drop, hc⟩

/-- what the decoder of a leaf type does for any scope: a plain read of `fixedSize` bytes -/
def LeafSound (h : HashFn) (t : Ty) : Prop :=
  ∀ (dr : DR) (n : Node) (dr' : DR), decode h t dr = .ok (n, dr') →
    ∃ v, hasType t v = true ∧ serialize t v = dr.avail.take t.fixedSize ∧
      t.fixedSize ≤ dr.avail.length ∧ dr'.avail = dr.avail.drop t.fixedSize ∧ construct h t v = .ok n

theorem LeafSound.sound {h : HashFn} {t : Ty} (hl : LeafSound h t) (ht : isLeafTy t = true) :
    Sound h t := by
  intro dr n dr' hd hleaf
  rw [hleaf ht]
  exact hl dr n dr' hd

def NoPanic (h : HashFn) (t : Ty) : Prop := ∀ dr : DR, decode h t dr ≠ .error .panic

end ZtypV.DecodeProofs
