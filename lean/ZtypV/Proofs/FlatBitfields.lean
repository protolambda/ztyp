/-
The bit-field checks as the flat decoder model uses them (on naturals, `ZtypV.Flat.bitlistCheck` /
`bitvectorCheck`), characterised by what they establish about the byte string.  Soundness of the
bit-field decoders rests on this, and so does the comparison with the machine-integer model of
package `bitfields` (Model/Bitfields.lean, property C18) in Props/C10.
-/
import ZtypV.Model.Flat
import ZtypV.Proofs.Bitfields
namespace ZtypV.FlatProofs
open ZtypV ZtypV.Flat

theorem getBit_eq_bitAt : @getBit = @Bitfields.bitAt := rfl
theorem unpackBits_eq_unpack : @unpackBits = @Bitfields.unpack := rfl
theorem lastByte_eq : @Flat.lastByte = @Bitfields.lastByte := rfl

theorem ite_false_eq_true {c : Prop} [Decidable c] {x : Bool} :
    (if c then false else x) = true ↔ ¬ c ∧ x = true := by
  by_cases h : c <;> simp [h]

theorem bitlistCheck_iff (b : Bytes) (lim : Nat) :
    Flat.bitlistCheck b lim = true ↔
      b.length ≠ 0 ∧ Flat.lastByte b ≠ 0 ∧ 8 * (b.length - 1) + Nat.log2 (Flat.lastByte b).toNat ≤ lim := by
  unfold Flat.bitlistCheck
  simp only [ite_false_eq_true, and_true]
  refine and_congr_right fun h0 => ?_
  obtain ⟨m, hm⟩ := Nat.exists_eq_succ_of_ne_zero h0
  rw [hm, Nat.succ_sub_one, Nat.succ_eq_add_one, Nat.not_lt, Nat.add_le_add_iff_right,
    Nat.le_div_iff_mul_le (by decide), Nat.not_lt]
  generalize Nat.log2 (Flat.lastByte b).toNat = g
  constructor
  · rintro ⟨_, hz, _⟩; exact ⟨hz, by omega⟩
  · rintro ⟨hz, _⟩; exact ⟨by omega, hz, by omega⟩

theorem shiftRight_eq_zero_iff {x k : Nat} : x >>> k = 0 ↔ ∀ j, k ≤ j → x.testBit j = false := by
  constructor
  · intro h j hj
    have := Nat.testBit_shiftRight (i := k) (j := j - k) x
    rwa [h, Nat.zero_testBit, Nat.add_sub_cancel' hj, eq_comm] at this
  · intro h
    apply Nat.eq_of_testBit_eq
    intro j
    rw [Nat.testBit_shiftRight, Nat.zero_testBit]
    exact h _ (Nat.le_add_right k j)

/-- `(n + 7) / 8` bytes hold `n` bits: whole bytes, or `n % 8` bits in the last one -/
theorem bytesOfBits_spec (n : Nat) : (n % 8 = 0 → 8 * ((n + 7) / 8) = n) ∧
    (n % 8 ≠ 0 → 8 * ((n + 7) / 8 - 1) + n % 8 = n) := by
  have hr : n % 8 < 8 := Nat.mod_lt _ (by decide)
  have hn := Nat.div_add_mod n 8
  have hd : (n + 7) / 8 = n / 8 + (n % 8 + 7) / 8 := by
    conv => lhs; rw [← hn, Nat.add_assoc, Nat.mul_add_div (by decide)]
  rw [hd]
  constructor
  · intro h
    rw [h] at hn ⊢
    exact hn
  · intro h
    have h1 : (n % 8 + 7) / 8 = 1 := Nat.div_eq_of_lt_le (by omega) (by omega)
    rw [h1, Nat.add_sub_cancel]
    exact hn

/-- `BitvectorCheck`: the length fits and every bit from `n` on is clear.  Only the last byte has
    such bits, `n % 8` and up, which is what the shift looks at. -/
theorem bitvectorCheck_iff (b : Bytes) (n : Nat) :
    Flat.bitvectorCheck b n = true ↔
      b.length = (n + 7) / 8 ∧ ∀ i, n ≤ i → Bitfields.bitAt b i = false := by
  unfold Flat.bitvectorCheck
  by_cases hl : b.length ≠ (n + 7) / 8
  · rw [if_pos hl]
    exact ⟨fun h => (by cases h), fun h => absurd h.1 hl⟩
  rw [if_neg hl]
  replace hl := Decidable.not_not.mp hl
  -- when the bytes end at bit `n` there is nothing to check
  have hwhole : 8 * b.length ≤ n →
      (true = true ↔ b.length = (n + 7) / 8 ∧ ∀ i, n ≤ i → Bitfields.bitAt b i = false) :=
    fun h => ⟨fun _ => ⟨hl, fun i hi => Bitfields.bitAt_of_ge b (Nat.le_trans h hi)⟩, fun _ => rfl⟩
  by_cases h0 : b.length = 0
  · rw [if_pos h0]
    exact hwhole (by rw [h0]; exact Nat.zero_le _)
  rw [if_neg h0, if_neg (fun hn => h0 (by rw [hl, hn]))]
  by_cases h8 : n % 8 = 0
  · rw [if_pos h8]
    exact hwhole (by rw [hl, (bytesOfBits_spec n).1 h8]; exact Nat.le_refl _)
  have hn := (bytesOfBits_spec n).2 h8
  have hk : n % 8 < 8 := Nat.mod_lt _ (by decide)
  have hm : b.length - 1 + 1 = b.length := Nat.succ_pred h0
  have hlast := Bitfields.bitAt_last b h0
  rw [← hl] at hn
  rw [if_neg h8, decide_eq_true_eq, shiftRight_eq_zero_iff]
  refine ⟨fun h => ⟨hl, fun i hi => ?_⟩, fun ⟨_, hbits⟩ j hj => ?_⟩ <;> clear hl h8 <;>
    generalize n % 8 = k at * <;> generalize b.length - 1 = m at *
  · by_cases hge : 8 * b.length ≤ i
    · exact Bitfields.bitAt_of_ge b hge
    obtain ⟨j, rfl⟩ : ∃ j, i = 8 * m + j := ⟨i - 8 * m, by omega⟩
    rw [hlast _ (by omega)]
    exact h _ (by omega)
  · by_cases hj8 : j < 8
    · exact (hlast _ hj8).symm.trans (hbits _ (by omega))
    · exact Bitfields.tb_ge8 (Bitfields.lastByte b) (by omega)

end ZtypV.FlatProofs
