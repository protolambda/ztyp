/-
C04, propagation: `SetBacking` with hook propagation on the object machine
(`View.setBacking`) against the recursive write-back of the value machine (`Sim.writeBack`),
along the whole hook chain.  At every level the parent-side write `hookSet` agrees with
`valSet` (`hookSet_rep`); a slot that no longer exists fails on both sides at the same level,
leaves the same ancestors untouched and the objects below keep their new backing / value —
`Sim` still holds because every object is related to its own value individually.
Acyclicity (and sufficiency of the fuel) comes from "parent id < child id".
-/
import ZtypV.Proofs.RepSimBase
namespace ZtypV
open ZtypV.View ZtypV.Sim

/-- agreement of the two propagation results: both succeed, or both fail with a non-panic error -/
def PropOut (e : Option Err) (ok : Bool) : Prop :=
  (e = none ∧ ok = true) ∨ (∃ e', e = some e' ∧ e' ≠ .panic ∧ ok = false)

theorem setBacking_succ (h : HashFn) (fuel : Nat) (ms : Store) (id : Nat) (b : Node) (o : VObj)
    (hm : ms[id]? = some o) :
    setBacking h (fuel + 1) ms id b =
      match o.hook with
      | Option.none => (ms.set! id { o with node := b }, Option.none)
      | some (p, slot) =>
        match (ms.set! id { o with node := b })[p]? with
        | Option.none => (ms.set! id { o with node := b }, some .panic)
        | some po =>
          match hookSet h po.ty po.node slot b with
          | .error e => (ms.set! id { o with node := b }, some e)
          | .ok pn => setBacking h fuel (ms.set! id { o with node := b }) p pn := by
  rw [setBacking]
  simp only [hm]
  rfl

theorem writeBack_succ (fuel : Nat) (vs : VStore) (id : Nat) (vo : VObjV) (hv : vs[id]? = some vo) :
    writeBack (fuel + 1) vs id =
      match vo.parent with
      | Option.none => (vs, true)
      | some (p, slot) =>
        match vs[p]? with
        | Option.none => (vs, false)
        | some po =>
          match valSet po.ty po.val slot vo.val with
          | Option.none => (vs, false)
          | some nv => writeBack fuel (vs.set! p { po with val := nv }) p := by
  rw [writeBack]
  simp only [hv]
  rfl

/-- rebinding object `id` to a backing `b` representing the new value `nv` and propagating
    through the hooks, against storing `nv` and writing it back -/
theorem propagate (h : HashFn) : ∀ (fuel : Nat) (ms : Store) (vs : VStore) (id : Nat) (o : VObj)
    (vo : VObjV) (b : Node) (nv : Val),
    Sim h ms vs → ms[id]? = some o → vs[id]? = some vo → id < fuel →
    Rep h o.ty nv b → hasType o.ty nv = true →
    Sim h (setBacking h fuel ms id b).1 (writeBack fuel (vs.set! id { vo with val := nv }) id).1 ∧
    PropOut (setBacking h fuel ms id b).2 (writeBack fuel (vs.set! id { vo with val := nv }) id).2 := by
  intro fuel
  induction fuel with
  | zero => intro ms vs id o vo b nv _ _ _ hlt; omega
  | succ fuel ih =>
    intro ms vs id o vo b nv hs hm hv hlt hr ht
    obtain ⟨vo', hvo', hrel, hk⟩ := hs.lookup hm
    rw [hv] at hvo'; cases hvo'
    have hs1 := hs.set hm hv hr ht
    have hv1 : (vs.set! id { vo with val := nv })[id]? = some { vo with val := nv } :=
      Array.getElem?_setIfInBounds_self_of_lt (lookup_lt hv)
    have hm1g : ∀ p, id ≠ p → (ms.set! id { o with node := b })[p]? = ms[p]? :=
      fun p hne => Array.getElem?_setIfInBounds_ne hne
    have hv1g : ∀ p, id ≠ p → (vs.set! id { vo with val := nv })[p]? = vs[p]? :=
      fun p hne => Array.getElem?_setIfInBounds_ne hne
    rw [setBacking_succ h fuel ms id b o hm, writeBack_succ fuel _ id _ hv1]
    dsimp only
    generalize ms.set! id { o with node := b } = ms1 at hs1 hm1g ⊢
    generalize vs.set! id { vo with val := nv } = vs1 at hs1 hv1g ⊢
    rw [hrel.hook_eq]
    cases hh : o.hook with
    | none => exact ⟨hs1, Or.inl ⟨rfl, rfl⟩⟩
    | some ps =>
      obtain ⟨p, slot⟩ := ps
      obtain ⟨hplt, po, hpo, hpp, hslot⟩ := hk p slot hh
      have hne : id ≠ p := by omega
      have hm1 : ms1[p]? = some po := (hm1g p hne).trans hpo
      obtain ⟨vpo, hvpo, hprel, _⟩ := hs.lookup hpo
      have hvp1 : vs1[p]? = some vpo := (hv1g p hne).trans hvpo
      simp only [hm1, hvp1]
      have hspec := hookSet_rep h po.ty vpo.val po.node slot nv b hprel.good.wf hprel.good.depthOk
        hprel.typed hprel.rep (hookParent_packedSlot hpp) (hslot ▸ ht) (hslot ▸ hr)
      cases hvs : valSet vpo.ty vpo.val slot nv with
      | none =>
        rw [hprel.ty_eq] at hvs
        rw [hvs] at hspec
        obtain ⟨e, he, hne'⟩ := hspec
        simp only [he]
        exact ⟨hs1, Or.inr ⟨e, rfl, hne', rfl⟩⟩
      | some nv' =>
        rw [hprel.ty_eq] at hvs
        rw [hvs] at hspec
        obtain ⟨pn, hpn, hrp, htp⟩ := hspec
        simp only [hpn]
        exact ih _ _ p po vpo pn nv' hs1 hm1 hvp1 (by omega) hrp htp

end ZtypV
