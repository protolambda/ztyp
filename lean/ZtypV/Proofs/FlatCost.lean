/-
C20, flat side: decoding memory is bounded by input size for the flat codec
(`codec.DecodingReader` helpers composed as in harness/flat.go), on the instrumented twin
`flatDecodeM` / `flatDecodeC` of Model/FlatCost.lean.

The file holds the induction over the type (`flatDecodeM_good`: the invariants `Good` at rate
`flatRate t` with slack `128 · flatFootprint t`), the closed form of the rate (`rate_closed`), and
the statements of the property themselves, with their examples and axiom audit: `C20_flat_rate`,
`C20_flat_ok`, `C20_flat_declared_scope`, `C20_flat : C20_flat_full`, the contrast
`listOffsets_unrepaired_cost`, and three runs showing that the type constants are needed.
Props/C20.lean restates them.

The closed form has the looser, product shape: the type constant `flatFootprint t` multiplies the
length term.  The tighter shape of the view side, `K · (|bs| + footprint t) · (1 + depth)`, is
false for this cost model: the caller-side constants `add()` = `selectFn` = `64 + 64 · footprint e`
are charged per list element / per union value, and an element of a variable-size type `e` can be
as short as the 4 bytes of its offset whatever `footprint e` is (`add_constant_per_element`).  The
uniform bound is `flatRate`, a structural function of the type alone (no limit, no offset value,
no input).  The second type constant: `flatFootprint` is `View.footprint` except that a bit vector
counts its byte length, because `DecodingReader.BitVector` sizes the destination by the type before
it reads (`bitvector_needs_its_length`), so no bound in terms of `View.footprint` alone can hold.
Neither constant is input-controlled.
-/
import ZtypV.Proofs.FlatCostHelpers
import ZtypV.Proofs.DecodeCostBound
namespace ZtypV.FlatCostProofs
open ZtypV ZtypV.View ZtypV.Flat ZtypV.DecodeProofs ZtypV.CostProofs ZtypV.FlatProofs

/-! ### the invariants type by type -/

theorem sound_of_wf {t : Ty} (hw : t.wf = true) (p : Val) :
    DSound t (fun d => (flatDecodeM t p d).res) := by
  have : (fun d => (flatDecodeM t p d).res) = flatDecode t p := funext (flatDecodeM_res t p)
  rw [this]; exact flatDecode_sound t hw p

theorem mono_of (t : Ty) (p : Val) : Mono (fun d => (flatDecodeM t p d).res) := by
  have : (fun d => (flatDecodeM t p d).res) = flatDecode t p := funext (flatDecodeM_res t p)
  rw [this]; exact flatDecode_mono t p

/-- a leaf read through the scratch pad -/
theorem free_lift {α : Type} (r : R α) : Spec 0 (CR.lift r) (fun _ x => x ≤ 0) 0 :=
  spec_lift (fun _ _ => Nat.le_refl _) (Nat.le_refl _)

/-- fixed-size leaves: one bound `c` for every run, paid by the bytes of the value -/
theorem good_fixed {t : Ty} {p : Val} (hw : t.wf = true) (hf : t.isFixed = true) {r c : Nat}
    (hall : ∀ dr, Spec 0 (flatDecodeM t p dr) (fun _ x => x ≤ c) c) (hc : c ≤ r * t.fixedSize) :
    Good t r c (fun d => flatDecodeM t p d) where
  sound := sound_of_wf hw p
  mono := mono_of t p
  ok := fun dr _ _ _ => by rw [need_fixed hf]; exact Nat.le_trans (hall dr).cost_le hc
  any := fun dr => Nat.le_trans (hall dr).cost_le (Nat.le_add_left _ _)

/-- variable-size leaves: the destination is sized by the scope, which a successful run consumes -/
theorem good_var {t : Ty} {p : Val} (hw : t.wf = true) (hv : t.isFixed = false)
    (hall : ∀ dr, Spec 0 (flatDecodeM t p dr) (fun _ x => x ≤ dr.scope) dr.scope) :
    Good t 1 0 (fun d => flatDecodeM t p d) where
  sound := sound_of_wf hw p
  mono := mono_of t p
  ok := fun dr _ _ _ => by rw [need_var hv, Nat.one_mul]; exact (hall dr).cost_le
  any := fun dr => by
    rw [Nat.one_mul, Nat.one_mul]
    exact Nat.le_trans (hall dr).cost_le (Nat.le_trans (Nat.le_add_left _ _) (Nat.le_add_right _ _))

/-- composite types: a budget `B dr` on top of the consumed bytes at rate `r`, itself at most
    `k` per consumed byte on accepted runs and `k` per byte of scope plus `F0` always -/
theorem good_of_pays {t : Ty} {p : Val} (hw : t.wf = true) {k r F F0 : Nat} {B : DR → Nat}
    {S : DR → Val × DR → Prop}
    (h : ∀ dr, Pays (flatDecodeM t p dr) (B dr + r * dr.avail.length) (fun q => r * q.2.avail.length)
      (S dr) (r * dr.scope + F))
    (hok : ∀ dr q, S dr q → B dr ≤ k * need t dr) (hany : ∀ dr, B dr ≤ k * dr.scope + F0) :
    Good t (k + r) (F0 + F) (fun d => flatDecodeM t p d) where
  sound := sound_of_wf hw p
  mono := mono_of t p
  ok := fun dr v dr' hr => by
    obtain ⟨_, _, s1, s2⟩ := sound_of_wf hw p dr v dr' hr
    obtain ⟨hS, hc⟩ := (h dr).ok hr
    have hv : dr'.avail.length = dr.avail.length - need t dr := by rw [s2, List.length_drop]
    dsimp only at hc
    rw [hv, ← mul_split r _ _ s1, ← Nat.add_assoc] at hc
    rw [Nat.add_mul]
    exact Nat.le_trans (Nat.le_of_add_le_add_right hc) (Nat.add_le_add_right (hok dr _ hS) _)
  any := fun dr => by
    have := (h dr).cost_le
    have := hany dr
    rw [Nat.add_mul, Nat.add_mul]
    omega

/-! ### leaves -/

theorem uint_good (b : Nat) (hw : (Ty.uint b).wf = true) (p : Val) :
    Good (.uint b) 0 0 (fun d => flatDecodeM (.uint b) p d) :=
  good_fixed hw rfl (fun dr => by rw [flatDecodeM]; exact free_lift _) (Nat.zero_le _)

theorem bool_good (p : Val) : Good .bool 0 0 (fun d => flatDecodeM .bool p d) :=
  good_fixed rfl rfl (fun dr => by rw [flatDecodeM]; exact free_lift _) (Nat.zero_le _)

theorem bytesN_good (n : Nat) (hw : (Ty.bytesN n).wf = true) (p : Val) :
    Good (.bytesN n) 1 n (fun d => flatDecodeM (.bytesN n) p d) := by
  refine good_fixed hw rfl (fun dr => ?_) (Nat.le_of_eq (Nat.one_mul _).symm)
  rw [flatDecodeM]
  exact spec_ite (fun _ => (free_lift _).mono (fun _ _ hc => Nat.le_trans hc (Nat.zero_le _)) (Nat.zero_le _))
    fun _ => (decByteVectorC_all _ _ _).then_free fun _ => rfl

theorem bitvector_good (n : Nat) (hw : (Ty.bitvector n).wf = true) (p : Val) :
    Good (.bitvector n) 1 ((n + 7) / 8) (fun d => flatDecodeM (.bitvector n) p d) := by
  refine good_fixed hw rfl (fun dr => ?_) (Nat.le_of_eq (Nat.one_mul _).symm)
  rw [flatDecodeM]
  exact (decBitVectorC_all _ _ _).then_free fun _ => rfl

theorem bitlist_good (n : Nat) (p : Val) :
    Good (.bitlist n) 1 0 (fun d => flatDecodeM (.bitlist n) p d) := by
  refine good_var rfl rfl (fun dr => ?_)
  rw [flatDecodeM]
  exact (decBitListC_all _ _ _).then_free fun _ => rfl

/-! ### vectors -/

theorem items_range_good {e : Ty} {r F : Nat} (hg : ∀ q, Good e r F (fun d => flatDecodeM e q d))
    (p : Val) (n : Nat) :
    ∀ it ∈ (List.range n).map (fun i =>
      (⟨flatFixedLength e, fun d => flatDecodeM e (priorElem p i) d⟩ : DesC)), Good e r F it.run := by
  intro it hit
  obtain ⟨i, _, rfl⟩ := List.mem_map.mp hit
  exact hg _

theorem vector_gen_good {e : Ty} {n r F : Nat} (hwe : e.wf = true) (hn : 1 ≤ n)
    (hu8 : ¬ isU8 e = true) (hroot : ¬ isRootTy e = true)
    (hg : ∀ q, Good e r F (fun d => flatDecodeM e q d)) (p : Val) :
    Good (.vector e n) (104 + r) (128 * n + F) (fun d => flatDecodeM (.vector e n) p d) := by
  refine good_of_pays (by simp [Ty.wf, hn, hwe]) (B := fun _ => 104 * n)
    (S := fun dr _ => e.isFixed = false → 4 * n ≤ dr.scope) (fun dr => ?_) (fun dr _ hS => ?_)
    (fun dr => by omega)
  · rw [flatDecodeM, if_neg hu8, if_neg hroot]
    have h := decVectorC_pays hwe _ (items_range_good hg p n) dr
    rw [List.length_map, List.length_range] at h
    exact Pays.bind h fun _ hS => Pays.pure hS (Nat.le_refl _)
  · -- every slot takes at least one byte
    refine Nat.mul_le_mul_left 104 ?_
    cases hf : e.isFixed with
    | true =>
      rw [need_fixed (by simp [Ty.isFixed, hf])]
      have hfs : (Ty.vector e n).fixedSize = n * e.fixedSize := by simp [Ty.fixedSize, hf]
      rw [hfs]
      exact Nat.le_mul_of_pos_right n (fixedSize_pos _ hwe hf)
    | false =>
      rw [need_var (by simp [Ty.isFixed, hf])]
      have := hS hf
      omega

/-- byte vectors and vectors of roots are read into one destination slice -/
theorem vector_good {e : Ty} {n r F : Nat} (hwe : e.wf = true) (hn : 1 ≤ n)
    (hg : ∀ q, Good e r F (fun d => flatDecodeM e q d)) (p : Val) :
    Good (.vector e n) (104 + r) (128 * n + F) (fun d => flatDecodeM (.vector e n) p d) := by
  by_cases hu8 : isU8 e = true
  · have := isU8_iff.mp hu8; subst this
    refine (good_fixed (r := 1) (c := n) (by simp [Ty.wf, hn]) rfl (fun dr => ?_)
      (Nat.le_of_eq (by simp [Ty.fixedSize, Ty.isFixed]))).weaken (by omega) (by omega)
    rw [flatDecodeM, if_pos (by rfl)]
    exact (decByteVectorC_all _ _ _).then_free fun _ => rfl
  by_cases hroot : isRootTy e = true
  · have := isRootTy_iff.mp hroot; subst this
    refine (good_fixed (r := 1) (c := 32 * n) (by simp [Ty.wf, hn]) rfl (fun dr => ?_)
      (Nat.le_of_eq (by simp [Ty.fixedSize, Ty.isFixed, Nat.mul_comm]))).weaken (by omega) (by omega)
    rw [flatDecodeM, if_neg (by decide), if_pos (by rfl)]
    exact (readRootsC_all _ _ _).then_free fun _ => rfl
  exact vector_gen_good hwe hn hu8 hroot hg p

/-! ### lists -/

theorem list_gen_good {e : Ty} {lim r F : Nat} (hwe : e.wf = true)
    (hu8 : ¬ isU8 e = true) (hroot : ¬ isRootTy e = true)
    (hg : ∀ q, Good e r F (fun d => flatDecodeM e q d)) (p : Val) :
    Good (.list e lim) (zeroCost e + 104 + r) (0 + F) (fun d => flatDecodeM (.list e lim) p d) := by
  refine good_of_pays (by simp [Ty.wf, hwe]) (B := fun dr => (zeroCost e + 104) * dr.scope)
    (S := fun _ _ => True) (fun dr => ?_) (fun dr _ _ => ?_) (fun dr => Nat.le_refl _)
  · rw [flatDecodeM, if_neg hu8, if_neg hroot]
    exact Pays.bind (decListC_pays hwe (zeroCost e) (hg Val.none) lim dr)
      fun _ hS => Pays.pure hS (Nat.le_refl _)
  · rw [need_var (by rfl)]
    exact Nat.le_refl _

/-- byte lists and lists of roots are read into one destination slice sized by the scope -/
theorem list_good {e : Ty} {lim r F : Nat} (hwe : e.wf = true)
    (hg : ∀ q, Good e r F (fun d => flatDecodeM e q d)) (p : Val) :
    Good (.list e lim) (zeroCost e + 104 + r) (0 + F) (fun d => flatDecodeM (.list e lim) p d) := by
  by_cases hu8 : isU8 e = true
  · have := isU8_iff.mp hu8; subst this
    refine (good_var (by simp [Ty.wf]) rfl (fun dr => ?_)).weaken (by omega) (Nat.zero_le _)
    rw [flatDecodeM, if_pos (by rfl)]
    exact (decByteListC_all _ _ _).then_free fun _ => rfl
  by_cases hroot : isRootTy e = true
  · have := isRootTy_iff.mp hroot; subst this
    refine (good_var (by simp [Ty.wf]) rfl (fun dr => ?_)).weaken (by omega) (Nat.zero_le _)
    rw [flatDecodeM, if_neg (by decide), if_pos (by rfl)]
    exact (readRootsLimitedC_all _ _ _).then_free fun _ => rfl
  exact list_gen_good hwe hu8 hroot hg p

/-! ### containers -/

theorem flatFieldDesM_good {r F : Nat} : ∀ (fs : List Ty) (p : Val) (i : Nat),
    (∀ t ∈ fs, ∀ q, Good t r F (fun d => flatDecodeM t q d)) → FieldsGood r F fs (flatFieldDesM fs p i)
  | [], p, i, _ => by rw [flatFieldDesM]; trivial
  | t :: ts, p, i, h => by
    rw [flatFieldDesM]
    exact ⟨rfl, h t (by simp) _, flatFieldDesM_good ts p (i + 1) (fun t' ht' => h t' (by simp [ht']))⟩

theorem container_good {fs : List Ty} {r F : Nat} (hne : fs.isEmpty = false) (hw : Ty.wfAll fs = true)
    (hg : ∀ t ∈ fs, ∀ q, Good t r F (fun d => flatDecodeM t q d)) (p : Val) :
    Good (.container fs) (96 + r) F (fun d => flatDecodeM (.container fs) p d) := by
  have hwT : (Ty.container fs).wf = true := by simp [Ty.wf, hne, hw]
  have hfields := flatFieldDesM_good fs p 0 hg
  cases hall : Ty.allFixed fs with
  | true =>
    refine (good_of_pays (k := 0) (r := r) (F := F) (F0 := 0) hwT (B := fun _ => 0)
      (S := fun _ _ => True) (fun dr => ?_) (fun _ _ _ => Nat.zero_le _) (fun _ => Nat.zero_le _)).weaken
      (by omega) (by omega)
    rw [flatDecodeM, if_pos hall]
    exact Pays.bind ((fixedLen_pays fs _ dr hfields).weaken (Nat.le_of_eq (Nat.zero_add _).symm)
      (Nat.le_refl _)) fun _ _ => Pays.pure trivial (Nat.le_refl _)
  | false =>
    refine (good_of_pays (k := 0) (r := 96 + r) (F := F) (F0 := 0) hwT (B := fun _ => 0)
      (S := fun _ _ => True) (fun dr => ?_) (fun _ _ _ => Nat.zero_le _) (fun _ => Nat.zero_le _)).weaken
      (by omega) (by omega)
    rw [flatDecodeM, if_neg (by simp [hall])]
    exact Pays.bind ((decContainerC_pays (Nat.le_refl (96 + r)) hw hfields dr).weaken
      (Nat.le_of_eq (Nat.zero_add _).symm) (Nat.le_refl _)) fun _ _ => Pays.pure trivial (Nat.le_refl _)

/-! ### unions -/

theorem flatSelectM_good {r F : Nat} : ∀ (opts : List Ty),
    (∀ t ∈ opts, ∀ q, Good t r F (fun d => flatDecodeM t q d)) → ∀ (k : Nat),
    Pays (flatSelectM opts k) (64 + 64 * footprints opts) (fun _ => 0)
      (fun dest => ∀ d, dest = some d → ∃ t : Ty, Good t r F d.run) 0
  | [], _, k => by
    rw [flatSelectM]
    exact Pays.fail
  | t :: ts, hg, 0 => by
    rw [flatSelectM]
    refine (Pays.tick (P := 0) ?_).weaken (by rw [footprints]; unfold zeroCost; omega) (Nat.le_refl _)
    refine Pays.pure (fun d h => ?_) (Nat.le_refl _)
    cases h
    exact ⟨t, hg t (by simp) _⟩
  | t :: ts, hg, k + 1 => by
    rw [flatSelectM]
    exact (flatSelectM_good ts (fun t' ht' => hg t' (by simp [ht'])) k).weaken
      (by rw [footprints]; omega) (Nat.le_refl _)

theorem union_good {hasNone : Bool} {opts : List Ty} {r F : Nat}
    (hwT : (Ty.union hasNone opts).wf = true)
    (hg : ∀ t ∈ opts, ∀ q, Good t r F (fun d => flatDecodeM t q d)) (p : Val) :
    Good (.union hasNone opts) (64 + 64 * footprints opts + r) (0 + F)
      (fun d => flatDecodeM (.union hasNone opts) p d) := by
  refine good_of_pays hwT (B := fun dr => (64 + 64 * footprints opts) * dr.scope)
    (S := fun _ _ => True) (fun dr => ?_) (fun dr _ _ => ?_) (fun dr => Nat.le_refl _)
  · rw [flatDecodeM]
    refine Pays.bind (decUnionC_pays (fun s => ?_) dr) ?_
    · exact Pays.guard fun _ => Pays.ite
        (fun _ => Pays.pure (fun d h => nomatch h) (Nat.zero_le _))
        fun _ => flatSelectM_good opts hg _
    · rintro ⟨⟨sel, ov⟩, d1⟩ _
      cases ov <;> exact Pays.pure trivial (Nat.le_refl _)
  · rw [need_var (by rfl)]
    exact Nat.le_refl _

/-! ### every well-formed type -/

theorem mem_flatRates : ∀ (fs : List Ty) (t : Ty), t ∈ fs → flatRate t ≤ flatRates fs
  | [], t, ht => by cases ht
  | a :: as, t, ht => by
    rw [flatRates]
    rcases List.mem_cons.mp ht with rfl | ht'
    · exact Nat.le_max_left _ _
    · exact Nat.le_trans (mem_flatRates as t ht') (Nat.le_max_right _ _)

theorem mem_flatFootprints : ∀ (fs : List Ty) (t : Ty), t ∈ fs → flatFootprint t ≤ flatFootprints fs
  | [], t, ht => by cases ht
  | a :: as, t, ht => by
    rw [flatFootprints]
    rcases List.mem_cons.mp ht with rfl | ht'
    · omega
    · have := mem_flatFootprints as t ht'; omega

theorem flatDecodeM_good (t : Ty) : t.wf = true → ∀ (p : Val),
    Good t (flatRate t) (128 * flatFootprint t) (fun d => flatDecodeM t p d) := by
  induction t using Ty.induct with
  | uint b => exact fun hw p => (uint_good b hw p).weaken (Nat.zero_le _) (Nat.zero_le _)
  | bool => exact fun _ p => (bool_good p).weaken (Nat.zero_le _) (Nat.zero_le _)
  | bytesN n =>
    intro hw p
    have hn : n ≤ 32 := by
      simp only [Ty.wf, Bool.and_eq_true, decide_eq_true_eq] at hw; exact hw.2
    exact (bytesN_good n hw p).weaken (Nat.le_refl _) (Nat.le_trans hn (show 32 ≤ 128 * 1 by decide))
  | bitvector n =>
    exact fun hw p => (bitvector_good n hw p).weaken (Nat.le_refl _)
      (by simp only [flatFootprint]; omega)
  | bitlist n => exact fun _ p => (bitlist_good n p).weaken (Nat.le_refl _) (Nat.zero_le _)
  | vector e n ih =>
    intro hw p
    simp only [Ty.wf, Bool.and_eq_true, decide_eq_true_eq] at hw
    exact (vector_good hw.2 hw.1 (ih hw.2) p).weaken (Nat.le_refl _)
      (by simp only [flatFootprint]; omega)
  | list e lim ih =>
    intro hw p
    simp only [Ty.wf] at hw
    exact (list_good (lim := lim) hw (ih hw) p).weaken (by simp only [flatRate]; omega)
      (by simp only [flatFootprint]; omega)
  | container fs ih =>
    intro hw p
    simp only [Ty.wf, Bool.and_eq_true] at hw
    have hwf := wfAll_mem fs hw.2
    have hne : fs.isEmpty = false := by simpa using hw.1
    exact (container_good hne hw.2 (fun t ht q =>
      (ih t ht (hwf t ht) q).weaken (mem_flatRates fs t ht)
        (Nat.mul_le_mul_left 128 (mem_flatFootprints fs t ht))) p).weaken (Nat.le_refl _)
      (by simp only [flatFootprint]; omega)
  | union hasNone opts ih =>
    intro hw p
    have hwT := hw
    simp only [Ty.wf, Bool.and_eq_true] at hw
    have hwf := wfAll_mem opts hw.1.2
    exact (union_good hwT (fun t ht q =>
      (ih t ht (hwf t ht) q).weaken (mem_flatRates opts t ht)
        (Nat.mul_le_mul_left 128 (mem_flatFootprints opts t ht))) p).weaken (Nat.le_refl _)
      (by simp only [flatFootprint]; omega)

/-! ### the closed form of the rate -/

theorem closed_step {a a' c m x : Nat} (hx : x ≤ a * (1 + m)) (ha : a ≤ a') (hc : c ≤ a') :
    c + x ≤ a' * (1 + (1 + m)) := by
  have h1 : a * (1 + m) ≤ a' * (1 + m) := Nat.mul_le_mul_right _ ha
  have h2 : a' * (1 + (1 + m)) = a' + a' * (1 + m) := by rw [Nat.mul_add a' 1, Nat.mul_one]
  omega

theorem rates_closed : ∀ (fs : List Ty),
    (∀ t ∈ fs, flatRate t ≤ (168 + 64 * footprint t) * (1 + nest t)) →
    flatRates fs ≤ (168 + 64 * footprints fs) * (1 + nests fs)
  | [], _ => by rw [flatRates]; exact Nat.zero_le _
  | t :: ts, h => by
    have ht := h t (by simp)
    have ih := rates_closed ts (fun t' ht' => h t' (by simp [ht']))
    rw [flatRates, footprints, nests]
    apply Nat.max_le.mpr
    constructor
    · exact Nat.le_trans ht (Nat.mul_le_mul
        (Nat.add_le_add_left (Nat.mul_le_mul_left 64 (Nat.le_add_right _ _)) 168)
        (Nat.add_le_add_left (Nat.le_max_left _ _) 1))
    · exact Nat.le_trans ih (Nat.mul_le_mul
        (Nat.add_le_add_left (Nat.mul_le_mul_left 64 (Nat.le_add_left _ _)) 168)
        (Nat.add_le_add_left (Nat.le_max_right _ _) 1))

theorem rate_closed (t : Ty) : flatRate t ≤ (168 + 64 * footprint t) * (1 + nest t) := by
  induction t using Ty.induct with
  | uint _ => exact Nat.zero_le _
  | bool => exact Nat.zero_le _
  | bytesN _ => simp [flatRate, footprint, nest]
  | bitvector _ => simp [flatRate, footprint, nest]
  | bitlist _ => simp [flatRate, footprint, nest]
  | vector e n ih =>
    simp only [flatRate, footprint, nest]
    exact closed_step ih (by omega) (by omega)
  | list e lim ih =>
    simp only [flatRate, footprint, nest, zeroCost]
    have := closed_step (c := 168 + 64 * footprint e) (a' := 168 + 64 * (1 + footprint e))
      ih (by omega) (by omega)
    omega
  | container fs ih =>
    simp only [flatRate, footprint, nest]
    exact closed_step (rates_closed fs ih) (by omega) (by omega)
  | union _ fs ih =>
    simp only [flatRate, footprint, nest]
    exact closed_step (rates_closed fs ih) (by omega) (by omega)

theorem footprints_le_flat : ∀ (fs : List Ty), (∀ t ∈ fs, footprint t ≤ flatFootprint t) →
    footprints fs ≤ flatFootprints fs
  | [], _ => by rw [footprints, flatFootprints]; exact Nat.le_refl _
  | t :: ts, h => by
    have := h t (by simp)
    have := footprints_le_flat ts (fun t' ht' => h t' (by simp [ht']))
    rw [footprints, flatFootprints]; omega

/-- the flat footprint dominates the view footprint (they differ on bit vectors only) -/
theorem footprint_le_flat (t : Ty) : t.wf = true → footprint t ≤ flatFootprint t := by
  induction t using Ty.induct with
  | uint _ => exact fun _ => Nat.le_refl _
  | bool => exact fun _ => Nat.le_refl _
  | bytesN _ => exact fun _ => Nat.le_refl _
  | bitlist _ => exact fun _ => Nat.le_refl _
  | bitvector n =>
    intro hw
    simp only [Ty.wf, decide_eq_true_eq] at hw
    simp only [footprint, flatFootprint]; omega
  | vector e n ih =>
    intro hw
    simp only [Ty.wf, Bool.and_eq_true, decide_eq_true_eq] at hw
    have := ih hw.2
    simp only [footprint, flatFootprint]; omega
  | list e _ ih =>
    intro hw
    simp only [Ty.wf] at hw
    have := ih hw
    simp only [footprint, flatFootprint]; omega
  | container fs ih =>
    intro hw
    simp only [Ty.wf, Bool.and_eq_true] at hw
    have hwf := wfAll_mem fs hw.2
    have := footprints_le_flat fs (fun t ht => ih t ht (hwf t ht))
    simp only [footprint, flatFootprint]; omega
  | union _ fs ih =>
    intro hw
    simp only [Ty.wf, Bool.and_eq_true] at hw
    have hwf := wfAll_mem fs hw.1.2
    have := footprints_le_flat fs (fun t ht => ih t ht (hwf t ht))
    simp only [footprint, flatFootprint]; omega

theorem rate_le_product (t : Ty) (hw : t.wf = true) :
    flatRate t ≤ 232 * (flatFootprint t * (1 + nest t)) := by
  have h1 := rate_closed t
  have h2 := footprint_pos t hw
  have h3 := footprint_le_flat t hw
  have h4 : 168 + 64 * footprint t ≤ 232 * flatFootprint t := by omega
  have h5 := Nat.mul_le_mul_right (1 + nest t) h4
  rw [Nat.mul_assoc] at h5
  omega

/-! ### C20, flat side -/

/-- every run on an input of `|bs|` bytes: twice the rate per input byte plus the type constant -/
theorem C20_flat_rate (t : Ty) (prior : Val) (bs : Bytes) (hw : t.wf = true) :
    (flatDecodeC t prior (DR.new bs bs.length)).2 ≤
      2 * flatRate t * bs.length + 128 * flatFootprint t := by
  have h := (flatDecodeM_good t hw prior).any (DR.new bs bs.length)
  rw [FlatProofs.new_scope, FlatProofs.new_avail] at h
  show (flatDecodeM t prior (DR.new bs bs.length)).cost ≤ _
  have e : 2 * flatRate t * bs.length = flatRate t * bs.length + flatRate t * bs.length := by
    rw [Nat.mul_assoc, Nat.two_mul]
  omega

/-- the same for a reader whose DECLARED scope differs from the length of the stream
    (`NewDecodingReader(input, scope)` trusts its caller): the bound is in terms of the declared
    scope, not of the bytes that are really there -/
theorem C20_flat_declared_scope (t : Ty) (prior : Val) (bs : Bytes) (scope : Nat) (hw : t.wf = true) :
    (flatDecodeC t prior (DR.new bs scope)).2 ≤
      flatRate t * min scope bs.length + flatRate t * scope + 128 * flatFootprint t := by
  have h := (flatDecodeM_good t hw prior).any (DR.new bs scope)
  have e1 : (DR.new bs scope).avail.length = min scope bs.length := by simp [DR.new]
  have e2 : (DR.new bs scope).scope = scope := by simp [DR.new, DR.scope]
  rw [e1, e2] at h
  exact h

/-- successful runs: the rate per input byte, no additive constant -/
theorem C20_flat_ok (t : Ty) (prior : Val) (bs : Bytes) (hw : t.wf = true) (v : Val) (dr' : DR)
    (hr : (flatDecodeC t prior (DR.new bs bs.length)).1 = .ok (v, dr')) :
    (flatDecodeC t prior (DR.new bs bs.length)).2 ≤ flatRate t * bs.length := by
  have g := flatDecodeM_good t hw prior
  have h := g.ok (DR.new bs bs.length) v dr' hr
  obtain ⟨_, _, s1, _⟩ := g.sound (DR.new bs bs.length) v dr' hr
  rw [FlatProofs.new_avail] at s1
  exact Nat.le_trans h (Nat.mul_le_mul_left _ s1)

/-- C20 for the flat decoder, closed form: the allocation units of one `Deserialize` call are
    bounded by the input length times two type constants (no list limit, no offset value) -/
def C20_flat_full : Prop :=
  ∀ (t : Ty) (prior : Val) (bs : Bytes), t.wf = true →
    (flatDecodeC t prior (DR.new bs bs.length)).2 ≤ flatCostBound t bs.length

theorem C20_flat : C20_flat_full := by
  intro t prior bs hw
  have h1 := C20_flat_rate t prior bs hw
  have h2 := rate_le_product t hw
  unfold flatCostBound flatCostK
  generalize hX : flatFootprint t * (1 + nest t) = X at h2
  have hg : flatFootprint t ≤ X := by
    rw [← hX]; exact Nat.le_mul_of_pos_right _ (by omega)
  have h3 : flatRate t * bs.length ≤ 232 * X * bs.length := Nat.mul_le_mul_right _ h2
  have e1 : 2 * flatRate t * bs.length = 2 * (flatRate t * bs.length) := Nat.mul_assoc _ _ _
  have e2 : 232 * X * bs.length = 232 * (X * bs.length) := Nat.mul_assoc _ _ _
  have e3 : 512 * (bs.length + 1) * flatFootprint t * (1 + nest t) = 512 * (X * bs.length + X) := by
    rw [Nat.mul_assoc, Nat.mul_assoc, hX, Nat.add_mul, Nat.one_mul, Nat.mul_comm bs.length X]
  rw [e3]
  omega

/-! ### contrast: the upstream `List` without the first-offset bound -/

theorem unrepaired_readOffset :
    (DR.new [0xfc, 0xff, 0xff, 0xff] 4).readOffset = .ok (4294967292, ⟨4, 4, []⟩) := by
  rfl

/-- 4 input bytes make the ORIGINAL `DecodingReader.List` (offsets branch, limit 2^30) request
    more than 2^28 units: `offsets := make([]uint64, 0, firstOffset/4)` -/
theorem listOffsets_unrepaired_cost :
    2 ^ 28 ≤ (listOffsetsCostUnrepaired (2 ^ 30) (DR.new [0xfc, 0xff, 0xff, 0xff] 4)).cost := by
  unfold listOffsetsCostUnrepaired
  dsimp only
  rw [if_neg (by decide), cost_bind, res_lift, unrepaired_readOffset]
  dsimp only
  rw [if_neg (by decide), if_neg (by decide), cost_bind, cost_tick]
  exact Nat.le_trans (by decide) (Nat.le_trans (Nat.le_add_right _ _) (Nat.le_add_left _ _))

/-- the repaired `List` refuses the same 4 bytes before allocating anything -/
theorem list_repaired_cost :
    (flatDecodeC (.list (.list (.uint 8) 4) (2 ^ 30)) Val.none (DR.new [0xfc, 0xff, 0xff, 0xff] 4)).2 = 0 := by
  decide

/-! ### the type constants are needed -/

/-- `DecodingReader.BitVector` sizes the destination by the type before reading: on the EMPTY
    input `Bitvector[8000]` requests 1000 units (`View.footprint` of the type is 1) -/
theorem bitvector_needs_its_length :
    (flatDecodeC (.bitvector 8000) Val.none (DR.new [] 0)).2 = 1000 ∧
      footprint (.bitvector 8000) = 1 ∧ flatFootprint (.bitvector 8000) = 1000 := by
  decide

/-- the `add()` constant is charged per element however short the element is: 8 input bytes (two
    offsets of two empty inner lists) of `List[List[Vector[uint64,1000],1],8]` request
    2 · (64 + 64 · 1002 + 96) + 16 units: the footprint multiplies the length term -/
theorem add_constant_per_element :
    flatDecodeC (.list (.list (.vector (.uint 8) 1000) 1) 8) Val.none (DR.new [8, 0, 0, 0, 8, 0, 0, 0] 8) =
      (.ok (.seq [.seq [], .seq []], ⟨8, 8, []⟩), 128592) := by
  rfl

/-- the scratch-free leaves size their destination by the DECLARED scope before reading:
    `List[uint8, 2^30]` on the empty stream with a declared scope of 10^6 requests 10^6 units -/
theorem bytelist_trusts_declared_scope :
    flatDecodeC (.list (.uint 1) (2 ^ 30)) Val.none (DR.new [] 1000000) = (.error .other, 1000000) := by
  rfl

/-! ### non-vacuity -/

/-- `Container{a: uint16, b: List[uint16, 4]}` -/
def exTy : Ty := .container [.uint 2, .list (.uint 2) 4]

example : exTy.wf = true := by decide

/-- a successful run: field `a` in its `SubScope` (96), the offset of `b` (two appends, 32), `b` in
    its `SubScope` (96), two elements each `add()` (64 + 64) and a `SubScope` (96) -/
example : flatDecodeC exTy Val.none (DR.new [1, 0, 6, 0, 0, 0, 2, 0, 3, 0] 10) =
    (.ok (.seq [.num 1, .seq [.num 2, .num 3]], ⟨4, 10, []⟩), 672) := by
  rfl

/-- a failing run (the list's 3 bytes are not a multiple of 2): what was requested before counts -/
example : flatDecodeC exTy Val.none (DR.new [1, 0, 6, 0, 0, 0, 2, 0, 3] 9) =
    (.error .other, 224) := by
  rfl

/-- the bounds at this type: rate 328 per byte; closed form 84480 for 10 bytes -/
example : flatRate exTy = 328 ∧ flatFootprint exTy = 5 ∧ nest exTy = 2 ∧
    flatCostBound exTy 10 = 84480 := by
  decide

/-- a destination that already has the capacity allocates nothing (`cap(*dst) < n` is false) -/
example : (flatDecodeC (.list (.uint 1) 100) Val.none (DR.new [1, 2, 3] 3)).2 = 3 ∧
    (flatDecodeC (.list (.uint 1) 100) (.seq [.num 0, .num 0, .num 0, .num 0]) (DR.new [1, 2, 3] 3)).2 = 0 := by
  decide

/-- a union: the `selectFn` destination (64 + 64 · 2) and the 2 bytes of the byte list -/
example : flatDecodeC (.union true [.uint 2, .list (.uint 1) 10]) Val.none (DR.new [2, 7, 8] 3) =
    (.ok (.union 2 (.seq [.num 7, .num 8]), ⟨3, 3, []⟩), 194) := by
  rfl

end ZtypV.FlatCostProofs

section
open ZtypV.FlatCostProofs
#print axioms flatDecodeM_res
#print axioms flatDecodeC_fst
#print axioms flatDecode_mono
#print axioms flatDecodeM_good
#print axioms rate_closed
#print axioms footprint_le_flat
#print axioms C20_flat_rate
#print axioms C20_flat_ok
#print axioms C20_flat_declared_scope
#print axioms bytelist_trusts_declared_scope
#print axioms C20_flat
#print axioms listOffsets_unrepaired_cost
#print axioms list_repaired_cost
#print axioms bitvector_needs_its_length
#print axioms add_constant_per_element
end
