/-
C02 round trip, decoder completeness (the converse of Proofs/DecodeSound.lean): forward lemmas
about the reader model `DR`, the statement `Complete` proved type by type, and the leaf and
bitfield cases (uint, bool, bytesN, bitvector, bitlist).
-/
import ZtypV.Proofs.DecodeSound
import ZtypV.Proofs.SerSize
import ZtypV.Proofs.Sizes
namespace ZtypV.DecodeProofs
open ZtypV ZtypV.View

/-! ### success with a postcondition -/

/-- the computation succeeds and its result satisfies `P` -/
def Ok {α : Type} (x : R α) (P : α → Prop) : Prop := ∃ a, x = .ok a ∧ P a

theorem Ok.pure {α : Type} {a : α} {P : α → Prop} (h : P a) : Ok (.ok a) P := ⟨a, rfl, h⟩

theorem Ok.bind {α β : Type} {x : R α} {f : α → R β} {Q : α → Prop} {P : β → Prop}
    (hx : Ok x Q) (hf : ∀ a, Q a → Ok (f a) P) : Ok (x >>= f) P := by
  obtain ⟨a, rfl, ha⟩ := hx
  exact hf a ha

theorem Ok.ite_err {α : Type} {c : Prop} [Decidable c] {e : Err} {b : R α} {P : α → Prop}
    (hc : ¬ c) (hb : Ok b P) : Ok (if c then .error e else b) P := by
  rw [if_neg hc]; exact hb

theorem Ok.ite {α : Type} {c : Prop} [Decidable c] {a b : R α} {P : α → Prop}
    (ha : c → Ok a P) (hb : ¬ c → Ok b P) : Ok (if c then a else b) P := by
  by_cases hc : c
  · rw [if_pos hc]; exact ha hc
  · rw [if_neg hc]; exact hb hc

theorem Ok.mono {α : Type} {x : R α} {P Q : α → Prop} (hx : Ok x P) (h : ∀ a, P a → Q a) :
    Ok x Q := by
  obtain ⟨a, ha, hp⟩ := hx
  exact ⟨a, ha, h a hp⟩

/-- the last step of most decoders: filling the subtree cannot fail, and its result does not
    matter for what is left of the stream -/
theorem Ok.orNil_bind {α : Type} {r : R Node} {f : Node → R α} {P : α → Prop}
    (h : ∃ n, r = .ok n) (hf : ∀ n, Ok (f n) P) : Ok (View.orNil r >>= f) P := by
  obtain ⟨n, rfl⟩ := h
  exact hf n

/-! ### the reader, forward direction

Only the scope `max - i` of a reader matters for what it accepts next; a read shrinks it, a child
run in a sub-scope leaves it as it was (the decoders never call `UpdateIndexFromScoped`). -/

theorem read_complete {dr : DR} {bs rest : Bytes} (hav : dr.avail = bs ++ rest)
    (hsc : bs.length ≤ dr.scope) :
    Ok (dr.read bs.length) (fun r => r.1 = bs ∧ r.2.avail = rest ∧
      r.2.scope + bs.length = dr.scope ∧ (dr.i ≤ dr.max → r.2.i ≤ r.2.max)) := by
  unfold DR.read
  by_cases h0 : bs.length = 0
  · obtain rfl := List.eq_nil_of_length_eq_zero h0
    exact ⟨([], dr), if_pos rfl, rfl, hav, rfl, id⟩
  · have hi : dr.i ≤ dr.max :=
      Nat.le_of_lt (Nat.lt_of_sub_pos (Nat.lt_of_lt_of_le (Nat.pos_of_ne_zero h0) hsc))
    have hle : dr.i + bs.length ≤ dr.max := Nat.add_le_of_le_sub' hi hsc
    have hal : ¬ dr.avail.length < bs.length :=
      Nat.not_lt.mpr (by rw [hav, List.length_append]; exact Nat.le_add_right _ _)
    rw [if_neg h0, if_neg (Nat.not_lt.mpr hle), if_neg hal, hav, List.take_left, List.drop_left]
    refine ⟨_, rfl, rfl, rfl, ?_, fun _ => hle⟩
    exact (congrArg (· + bs.length) (Nat.sub_add_eq _ _ _)).trans (Nat.sub_add_cancel hsc)

theorem readOffset_complete {dr : DR} {o : Nat} {rest : Bytes}
    (hav : dr.avail = leBytes 4 o ++ rest) (ho : o < 2 ^ 32) (hsc : 4 ≤ dr.scope) :
    Ok dr.readOffset (fun r => r.1 = o ∧ r.2.avail = rest ∧ r.2.scope + 4 = dr.scope) := by
  have hr := read_complete hav (by rw [leBytes_length]; exact hsc)
  rw [leBytes_length] at hr
  unfold DR.readOffset
  apply Ok.bind hr
  rintro ⟨bs, dr'⟩ ⟨rfl, h2, h3, -⟩
  exact Ok.pure ⟨leNat_leBytes_of_lt ho, h2, h3⟩

/-! ### the statement proved type by type -/

/-- completeness of the decoder of one type: a reader whose stream starts with the encoding of
    a typed value and whose scope is exactly the encoding's length is accepted, and the decoder
    consumes exactly the encoding -/
def Complete (h : HashFn) (t : Ty) : Prop :=
  ∀ (v : Val) (dr : DR) (rest : Bytes), hasType t v = true → (serialize t v).length < 2 ^ 32 →
    dr.scope = (serialize t v).length → dr.i ≤ dr.max → dr.avail = serialize t v ++ rest →
    Ok (decode h t dr) (fun r => r.2.avail = rest)

/-- what the decoder of a leaf type needs: any scope of at least `fixedSize` bytes -/
def LeafComplete (h : HashFn) (t : Ty) : Prop :=
  ∀ (v : Val) (dr : DR) (rest : Bytes), hasType t v = true →
    dr.i + t.fixedSize ≤ dr.max → dr.avail = serialize t v ++ rest →
    Ok (decode h t dr) (fun r => r.2.avail = rest)

theorem LeafComplete.complete {h : HashFn} {t : Ty} (hl : LeafComplete h t)
    (hfx : t.isFixed = true) : Complete h t := by
  intro v dr rest hv hlt hsc hi hav
  apply hl v dr rest hv _ hav
  rw [← serialize_fixed_length v t hfx hv, ← hsc]
  exact Nat.le_of_eq (Nat.add_sub_of_le hi)

theorem inSub_decode_complete {h : HashFn} {t : Ty} (hc : Complete h t) {v : Val} {dr : DR}
    {rest : Bytes} (hv : hasType t v = true) (hlt : (serialize t v).length < 2 ^ 32)
    (hav : dr.avail = serialize t v ++ rest) (hsc : (serialize t v).length ≤ dr.scope) :
    Ok (dr.inSub (serialize t v).length (fun d => decode h t d))
      (fun r => r.2.avail = rest ∧ r.2.scope = dr.scope) := by
  unfold DR.inSub DR.sub
  rw [if_neg (Nat.not_lt.mpr hsc), hav, List.take_left]
  apply Ok.bind (hc v { i := 0, max := (serialize t v).length, avail := serialize t v } [] hv hlt
    (Nat.sub_zero _) (Nat.zero_le _) (List.append_nil _).symm)
  rintro ⟨a, c1⟩ hc1
  simp only at hc1
  refine Ok.pure ⟨?_, rfl⟩
  simp only [DR.after, hc1, List.length_nil, Nat.sub_zero, hav, List.drop_left]

/-! ### leaf types -/

/-- `uint` and `bytesN`: one read of the whole value -/
theorem read_leafComplete {h : HashFn} {t : Ty}
    (hd : ∀ dr, decode h t dr = dr.read t.fixedSize >>= fun r => .ok (.leaf (chunkOf r.1), r.2))
    (hlen : ∀ v, hasType t v = true → (serialize t v).length = t.fixedSize) :
    LeafComplete h t := by
  intro v dr rest hv hsc hav
  have hr := read_complete hav (by rw [hlen v hv]; exact Nat.le_sub_of_add_le' hsc)
  rw [hlen v hv] at hr
  rw [hd]
  exact Ok.bind hr (fun r hr => Ok.pure hr.2.1)

theorem uint_leafComplete (h : HashFn) (b : Nat) : LeafComplete h (.uint b) :=
  read_leafComplete (fun dr => by rw [decode]; rfl)
    (fun v hv => serialize_fixed_length v _ rfl hv)

theorem bytesN_leafComplete (h : HashFn) (k : Nat) : LeafComplete h (.bytesN k) :=
  read_leafComplete (fun dr => by rw [decode]; rfl)
    (fun v hv => serialize_fixed_length v _ rfl hv)

theorem bool_leafComplete (h : HashFn) : LeafComplete h .bool := by
  intro v dr rest hv hsc hav
  cases v with
  | bool b =>
    simp only [serialize] at hav
    have hr := read_complete hav (Nat.le_sub_of_add_le' hsc)
    rw [decode]
    apply Ok.bind hr
    rintro ⟨bs, dr'⟩ ⟨rfl, h2, -, -⟩
    dsimp only
    cases b <;> exact Ok.ite_err (by decide) (Ok.pure h2)
  | _ => cases hv

/-! ### bitvector -/

theorem bitvector_complete (h : HashFn) (k : Nat) : Complete h (.bitvector k) := by
  intro v dr rest hv hlt hsc hi hav
  cases v with
  | bits bits =>
    rw [hasType, beq_iff_eq] at hv
    subst hv
    rw [serialize] at hsc hav
    have hr := read_complete hav (Nat.le_of_eq hsc.symm)
    rw [← hsc] at hr
    rw [decode_bitvector]
    apply Ok.ite_err (fun hne => hne (hsc.trans (packBits_length bits)).symm)
    apply Ok.bind hr
    rintro ⟨bs, dr'⟩ ⟨h1, h2, -, -⟩
    subst h1
    apply Ok.ite_err ((not_padBad_iff hsc.symm).mpr (packBits_padding bits))
    exact Ok.orNil_bind (fill_bytes_ok h (packBits bits) ((bits.length + 255) / 256)
      (by rw [packBits_length, bitvector_chunks]; exact Nat.le_refl _)) (fun _ => Ok.pure h2)
  | _ => cases hv

/-! ### bitlist -/

theorem bitlistOfBytes_complete (h : HashFn) {lim : Nat} (init : Bytes) {tail : List Bool} (d : DR)
    (ht : tail.length < 8) (hlim : init.length * 8 + tail.length ≤ lim) :
    Ok (bitlistOfBytes h lim (init.length + 1) (init ++ [byteOfBits (tail ++ [true])]) d)
      (fun r => r.2 = d) := by
  obtain ⟨hne, hdbi, -⟩ := (byteOfBits_delim_iff tail ht _).mp rfl
  rw [bitlistOfBytes_concat, hdbi]
  apply Ok.ite_err hne
  apply Ok.ite_err (Nat.not_lt.mpr hlim)
  refine Ok.orNil_bind (fill_bytes_ok h _ _ (bitlistContents_chunks ?_)) (fun _ => Ok.pure rfl)
  rw [hdbi]
  exact hlim

theorem bitlist_scope_le {n t lim : Nat} (h : n * 8 + t ≤ lim) : ¬ n + 1 > (lim + 8) / 8 := by
  rw [Nat.add_div_right _ (by decide)]
  apply Nat.not_lt.mpr
  apply Nat.succ_le_succ
  apply (Nat.le_div_iff_mul_le (by decide)).mpr
  exact Nat.le_trans (Nat.le_add_right _ _) h

theorem bitlist_complete (h : HashFn) (lim : Nat) : Complete h (.bitlist lim) := by
  intro v dr rest hv hlt hsc hi hav
  cases v with
  | bits bits =>
    rw [hasType, decide_eq_true_eq] at hv
    obtain ⟨q, full, tail, rfl, hf, ht⟩ := exists_aligned_split bits
    have hq : (packBits full).length = q := by
      rw [packBits_length, hf, aligned_div q 7 (by decide)]
    have hlim : (packBits full).length * 8 + tail.length ≤ lim := by
      rw [hq, Nat.mul_comm, ← hf, ← List.length_append]
      exact hv
    rw [serialize, List.append_assoc, packBits_append_delim full tail q hf ht] at hsc hav
    have hr := read_complete hav (Nat.le_of_eq hsc.symm)
    rw [← hsc] at hr
    rw [List.length_append, List.length_singleton] at hsc
    rw [decode_bitlist]
    apply Ok.ite_err (by rw [hsc]; exact Nat.succ_ne_zero _)
    apply Ok.ite_err (by rw [hsc]; exact bitlist_scope_le hlim)
    apply Ok.bind hr
    rintro ⟨bs, dr'⟩ ⟨h1, h2, -, -⟩
    subst h1
    rw [hsc]
    exact (bitlistOfBytes_complete h _ dr' ht hlim).mono (fun r hr => hr ▸ h2)
  | _ => cases hv

end ZtypV.DecodeProofs
