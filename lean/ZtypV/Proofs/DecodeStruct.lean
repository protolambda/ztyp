/-
C03, unions and containers: soundness and panic freedom of their decoders, given the same for
the option / field types.  The container lemma `fields_sound` follows both decoder loops
(`decodeFixedPart`, `decodeDynPart`) at once and shows that the accepted offsets are the ones
`serContainerParts` writes.
-/
import ZtypV.Proofs.DecodeSeq
namespace ZtypV.DecodeProofs
open ZtypV ZtypV.View

/-! ### union -/

theorem construct_union_some {h : HashFn} {hasNone : Bool} {opts : List Ty} {sel : Nat} {t : Ty}
    {v : Val} {c : Node} (hv : hasType t v = true) (hu : unionOpt hasNone opts sel = some t)
    (hc : construct h t v = .ok c) :
    construct h (.union hasNone opts) (.union sel v)
      = .ok (.pair c (.leaf (chunkOf [UInt8.ofNat sel]))) := by
  rw [construct, hu]
  · exact congrArg (· >>= _) hc
  · intro hn
    rw [hn, hasType_none] at hv
    cases hv

/-- the index `decode` hands to `decodeOpt` is the one `unionOpt` looks up -/
theorem unionOpt_eq_getElem? {hasNone : Bool} {opts : List Ty} {sel : Nat}
    (hnone : ¬ (hasNone && sel == 0) = true) :
    unionOpt hasNone opts sel = opts[if hasNone = true then sel - 1 else sel]? := by
  cases hasNone with
  | false => rfl
  | true =>
    have h0 : sel ≠ 0 := fun h0 => hnone (by rw [h0]; rfl)
    rw [unionOpt, if_pos rfl, if_pos rfl, if_neg h0]

theorem unionIndex_lt {hasNone : Bool} {opts : List Ty} {sel : Nat}
    (hsel : ¬ sel ≥ opts.length + (if hasNone = true then 1 else 0))
    (hnone : ¬ (hasNone && sel == 0) = true) :
    (if hasNone = true then sel - 1 else sel) < opts.length := by
  cases hasNone with
  | false => exact Nat.lt_of_not_ge hsel
  | true =>
    have h0 : sel ≠ 0 := fun h0 => hnone (by rw [h0]; rfl)
    exact Nat.sub_one_lt_of_le (Nat.pos_of_ne_zero h0)
      (Nat.le_of_lt_succ (Nat.lt_of_not_ge hsel))

theorem union_sound {h : HashFn} {hasNone : Bool} {opts : List Ty} (hopts : ∀ t ∈ opts, Sound h t) :
    Sound h (.union hasNone opts) := by
  intro dr n dr' hd _
  unfold decode at hd
  obtain ⟨hs0, hd⟩ := ite_err_eq_ok hd
  obtain ⟨⟨sb, d1⟩, h1, hd⟩ := bind_eq_ok hd
  have sp1 := read_span h1
  obtain ⟨_, _, _, hi, hmax⟩ := read_ok h1
  obtain ⟨y, rfl⟩ := List.length_eq_one_iff.mp sp1.length
  obtain ⟨_, hd⟩ := ite_err_eq_ok hd
  rw [List.getD_cons_zero] at hd
  by_cases hnone : (hasNone && y.toNat == 0) = true
  · rw [if_pos hnone] at hd
    obtain ⟨hs1, hd⟩ := ite_err_eq_ok hd
    cases hd
    rw [Bool.and_eq_true, beq_iff_eq] at hnone
    obtain ⟨rfl, hy0⟩ := hnone
    obtain rfl : y = 0 := UInt8.toNat_inj.mp hy0
    exact (sp1.cast (Decidable.of_not_not hs1).symm rfl).sound (v := .union 0 .none) rfl rfl rfl
  · rw [if_neg hnone, decodeOpt_eq, ← unionOpt_eq_getElem? hnone] at hd
    obtain ⟨⟨c, d2⟩, h2, hd⟩ := bind_eq_ok hd
    cases hd
    cases hu : unionOpt hasNone opts y.toNat with
    | none => rw [hu] at h2; cases h2
    | some t =>
      rw [hu] at h2
      obtain ⟨hfix, hdec⟩ := ite_err_eq_ok h2
      have hsc1 : d1.scope = dr.scope - 1 := by
        unfold DR.scope
        rw [hi, hmax, Nat.sub_add_eq]
      have hfs : t.isFixed = true → t.fixedSize = dr.scope - 1 := fun hf =>
        Decidable.byContradiction fun hne =>
          hfix (by rw [hf, Bool.true_and]; exact bne_iff_ne.mpr hne)
      obtain ⟨v, hv, hser, hle, hav2, hcon⟩ :=
        hopts t (List.mem_of_getElem? (unionOpt_some hu).2.2) _ _ _ hdec
          (fun hlf => hsc1.trans (hfs (isFixed_of_isLeafTy hlf)).symm)
      have sp2 : Span d1 dr' d1.scope (serialize t v) := ⟨hser, hle, hav2⟩
      have sp := (sp1.append (sp2.cast hsc1 rfl)).cast
        (Nat.add_sub_cancel' (Nat.pos_of_ne_zero hs0)) rfl
      refine sp.sound (v := .union y.toNat v) ?_ ?_ (construct_union_some hv hu hcon)
      · unfold hasType
        rw [hu]
        exact hv
      · rw [serialize, hu, UInt8.ofNat_toNat]
        rfl

theorem union_noPanic {h : HashFn} {hasNone : Bool} {opts : List Ty}
    (hopts : ∀ t ∈ opts, NoPanic h t) : NoPanic h (.union hasNone opts) := by
  intro dr
  unfold decode
  apply ite_ne_panic (fun _ => other_ne_panic); intro _
  apply bind_ne_panic (read_ne_panic _ _)
  rintro ⟨sb, d1⟩ _
  apply ite_ne_panic (fun _ => other_ne_panic); intro hsel
  apply ite_ne_panic
  · intro _
    apply ite_ne_panic (fun _ => other_ne_panic); intro _
    exact ok_ne_panic _
  · intro hnone
    apply bind_ne_panic
    · have hk := unionIndex_lt hsel hnone
      rw [decodeOpt_eq, List.getElem?_eq_getElem hk]
      exact ite_ne_panic (fun _ => other_ne_panic) (fun _ => hopts _ (List.getElem_mem hk) _)
    · rintro ⟨c, d2⟩ _; exact ok_ne_panic _

/-! ### container -/

theorem allFixed_min_max : ∀ fs : List Ty, Ty.allFixed fs = true →
    Ty.minFields fs = Ty.fixedPart fs ∧ Ty.maxFields fs = Ty.fixedPart fs := by
  intro fs
  induction fs with
  | nil => intro _; simp [Ty.minFields, Ty.maxFields, Ty.fixedPart]
  | cons t ts ih =>
    intro hf
    simp only [Ty.allFixed, Bool.and_eq_true] at hf
    obtain ⟨h1, h2⟩ := ih hf.2
    simp [Ty.minFields, Ty.maxFields, Ty.fixedPart, hf.1, h1, h2]

theorem serFields_cons_fixed {t : Ty} (hf : t.isFixed = true) (ts : List Ty) (v : Val) (vs : List Val) :
    serFields (t :: ts) (v :: vs) = (true, serialize t v) :: serFields ts vs := by
  rw [serFields, hf]

theorem serFields_cons_var {t : Ty} (hf : ¬ t.isFixed = true) (ts : List Ty) (v : Val) (vs : List Val) :
    serFields (t :: ts) (v :: vs) = (false, serialize t v) :: serFields ts vs := by
  rw [serFields, Bool.eq_false_iff.mpr hf]

theorem fixedPart_cons_fixed {t : Ty} (hf : t.isFixed = true) (ts : List Ty) :
    Ty.fixedPart (t :: ts) = t.fixedSize + Ty.fixedPart ts := by
  rw [Ty.fixedPart, if_pos hf]

theorem fixedPart_cons_var {t : Ty} (hf : ¬ t.isFixed = true) (ts : List Ty) :
    Ty.fixedPart (t :: ts) = 4 + Ty.fixedPart ts := by
  rw [Ty.fixedPart, if_neg hf]

theorem constructFields_cons {h : HashFn} {t : Ty} {ts : List Ty} {v : Val} {vs : List Val} {x : Node}
    {xs : List Node} (hv : construct h t v = .ok x) (hvs : constructFields h ts vs = .ok xs) :
    constructFields h (t :: ts) (v :: vs) = .ok (x :: xs) := by
  rw [constructFields, hv, hvs]; rfl

theorem fieldsHaveType_cons_of {t : Ty} {ts : List Ty} {v : Val} {vs : List Val}
    (hv : hasType t v = true) (hvs : fieldsHaveType ts vs = true) :
    fieldsHaveType (t :: ts) (v :: vs) = true := by
  rw [fieldsHaveType, hv, hvs]; rfl

theorem decodeFixedPart_fixed_ok {h : HashFn} {t : Ty} {ts : List Ty} {prev : Nat} {first : Bool}
    {scope : Nat} {dr dr1 : DR} {slots : List (Option Node)} {offs : List Nat}
    (hf : t.isFixed = true)
    (hF : decodeFixedPart h (t :: ts) prev first scope dr = .ok (slots, offs, dr1)) :
    ∃ x d1 slots', dr.inSub t.fixedSize (fun d => decode h t d) = .ok (x, d1) ∧
      decodeFixedPart h ts prev first scope d1 = .ok (slots', offs, dr1) ∧
      slots = some x :: slots' := by
  rw [decodeFixedPart, if_pos hf] at hF
  obtain ⟨⟨x, d1⟩, h1, hF⟩ := bind_eq_ok hF
  obtain ⟨⟨slots', offs', d2⟩, h2, hF⟩ := bind_eq_ok hF
  cases hF
  exact ⟨x, d1, slots', h1, h2, rfl⟩

/-- one accepted step of the first loop at a variable-size field: the offset read is in range,
    not below the previous one, and the first one is where the fixed part ends -/
theorem decodeFixedPart_var_ok {h : HashFn} {t : Ty} {ts : List Ty} {prev : Nat} {first : Bool}
    {scope : Nat} {dr dr1 : DR} {slots : List (Option Node)} {offs : List Nat}
    (hf : ¬ t.isFixed = true)
    (hF : decodeFixedPart h (t :: ts) prev first scope dr = .ok (slots, offs, dr1)) :
    ∃ o d1 slots' offs', dr.readOffset = .ok (o, d1) ∧ prev ≤ o ∧ (first = true → o = prev) ∧
      o ≤ scope ∧ decodeFixedPart h ts o false scope d1 = .ok (slots', offs', dr1) ∧
      slots = none :: slots' ∧ offs = o :: offs' := by
  rw [decodeFixedPart, if_neg hf] at hF
  obtain ⟨⟨o, d1⟩, h1, hF⟩ := bind_eq_ok hF
  obtain ⟨hc1, hF⟩ := ite_err_eq_ok hF
  obtain ⟨hc2, hF⟩ := ite_err_eq_ok hF
  obtain ⟨hc3, hF⟩ := ite_err_eq_ok hF
  obtain ⟨⟨slots', offs', d2⟩, h2, hF⟩ := bind_eq_ok hF
  cases hF
  refine ⟨o, d1, slots', offs', h1, Nat.le_of_not_lt hc1, fun hfst => ?_, Nat.le_of_not_lt hc3,
    h2, rfl, rfl⟩
  exact Decidable.byContradiction fun hne => hc2 (by rw [hfst]; exact decide_eq_true hne)

/-- both container loops at once: with `offs.headD scope` the first accepted offset (`scope` if there
    is none), the first loop took the fixed part written for it, the second the variable part, which
    ends at `scope` -/
theorem fields_sound {h : HashFn} : ∀ (fs : List Ty), (∀ t ∈ fs, Sound h t) →
    ∀ (prev : Nat) (first : Bool) (scope : Nat) (dr dr1 : DR) (slots : List (Option Node))
      (offs : List Nat) (drA drB : DR) (dyn : List Node),
    decodeFixedPart h fs prev first scope dr = .ok (slots, offs, dr1) →
    decodeDynPart h fs scope offs drA = .ok (dyn, drB) →
    ∃ vs : List Val, fieldsHaveType fs vs = true ∧
      constructFields h fs vs = .ok (mergeFields slots dyn) ∧
      Span dr dr1 (Ty.fixedPart fs) (serFixedPart (offs.headD scope) (serFields fs vs)) ∧
      Span drA drB (scope - offs.headD scope) (serVarPart (serFields fs vs)) ∧
      offs.headD scope ≤ scope ∧ (prev ≤ scope → prev ≤ offs.headD scope) ∧
      (first = true → offs ≠ [] → offs.headD scope = prev) ∧
      (offs = [] → Ty.allFixed fs = true) := by
  intro fs
  induction fs with
  | nil =>
    intro _ prev first scope dr dr1 slots offs drA drB dyn hF hD
    rw [decodeFixedPart_nil] at hF
    rw [decodeDynPart] at hD
    cases hF; cases hD
    exact ⟨[], rfl, rfl, Span.refl _, (Span.refl _).cast (Nat.sub_self _).symm rfl,
      Nat.le_refl _, id, fun _ ho => absurd rfl ho, fun _ => rfl⟩
  | cons t ts ih =>
    intro hall prev first scope dr dr1 slots offs drA drB dyn hF hD
    have ht : Sound h t := hall t List.mem_cons_self
    have hts : ∀ t' ∈ ts, Sound h t' := fun t' ht' => hall t' (List.mem_cons_of_mem _ ht')
    rw [decodeDynPart_cons] at hD
    by_cases hf : t.isFixed = true
    · rw [if_pos hf] at hD
      obtain ⟨x, d1, slots', h1, h2, rfl⟩ := decodeFixedPart_fixed_ok hf hF
      obtain ⟨v, hv, hcon, sp⟩ := inSub_span ht (fun _ => rfl) h1
      obtain ⟨vs, hvt, hcons, spF, spV, hX, hP, hFst, hAll⟩ :=
        ih hts prev first scope d1 _ slots' _ drA drB dyn h2 hD
      refine ⟨v :: vs, fieldsHaveType_cons_of hv hvt, constructFields_cons hcon hcons, ?_, ?_,
        hX, hP, hFst, ?_⟩
      · rw [serFields_cons_fixed hf, fixedPart_cons_fixed hf]; exact sp.append spF
      · rw [serFields_cons_fixed hf]; exact spV
      · intro ho; rw [Ty.allFixed, hf, hAll ho]; rfl
    · rw [if_neg hf] at hD
      obtain ⟨o, d1, slots', offs', h1, hprev, hfirst, hscope, h2, rfl, rfl⟩ :=
        decodeFixedPart_var_ok hf hF
      obtain ⟨⟨x, dA'⟩, h3, hD⟩ := bind_eq_ok hD
      obtain ⟨⟨xs, dB'⟩, h4, hD⟩ := bind_eq_ok hD
      cases hD
      obtain ⟨v, hv, hcon, sp⟩ :=
        inSub_span ht (fun hl => absurd (isFixed_of_isLeafTy hl) hf) h3
      obtain ⟨vs, hvt, hcons, spF, spV, hX, hP, hFst, hAll⟩ :=
        ih hts o false scope d1 _ slots' _ dA' _ xs h2 h4
      have hon : o ≤ offs'.headD scope := hP hscope
      refine ⟨v :: vs, fieldsHaveType_cons_of hv hvt, constructFields_cons hcon hcons, ?_, ?_,
        hscope, fun _ => hprev, fun hfst _ => hfirst hfst,
        fun ho => absurd ho (List.cons_ne_nil _ _)⟩
      · have := (readOffset_span h1).append spF
        rw [serFields_cons_var hf, fixedPart_cons_var hf, List.headD_cons, serFixedPart, sp.length,
          Nat.add_sub_cancel' hon]
        exact this
      · rw [serFields_cons_var hf]
        exact (sp.append spV).cast ((Nat.add_comm _ _).trans (Nat.sub_add_sub_cancel hX hon)) rfl

theorem container_sound {h : HashFn} {fs : List Ty} (hfs : ∀ t ∈ fs, Sound h t) :
    Sound h (.container fs) := by
  intro dr n dr' hd _
  unfold decode at hd
  obtain ⟨hrange, hd⟩ := ite_err_eq_ok hd
  obtain ⟨⟨slots, offs, d1⟩, h1, hd⟩ := bind_eq_ok hd
  obtain ⟨⟨dyn, d2⟩, h2, hd⟩ := bind_eq_ok hd
  dsimp only at hd
  obtain ⟨vs, hvt, hcons, spF, spV, hX, _, hFst, hAll⟩ :=
    fields_sound fs hfs _ true _ dr d1 slots offs d1 d2 dyn h1 h2
  have hXF : offs.headD dr.scope = Ty.fixedPart fs := by
    by_cases ho : offs = []
    · obtain ⟨hmin, hmax⟩ := allFixed_min_max fs (hAll ho)
      rw [ho]
      exact Nat.le_antisymm (Nat.le_of_not_lt fun hl => hrange (Or.inr (hmax ▸ hl)))
        (Nat.le_of_not_lt fun hl => hrange (Or.inl (hmin ▸ hl)))
    · exact hFst rfl ho
  rw [hXF] at spF spV hX
  have sp := (spF.append spV).cast (Nat.add_sub_cancel' hX) rfl
  have hfpl : fixedPartLen (serFields fs vs) = Ty.fixedPart fs :=
    fixedPartLen_serFields fs vs (fun w _ t hf hw => serialize_fixed_length w t hf hw) hvt
  cases hfill : fillToContents h (coverDepth fs.length) (mergeFields slots dyn) with
  | error e => rw [hfill] at hd; cases hd
  | ok n' =>
    rw [hfill] at hd
    cases hd
    refine sp.sound (v := .seq vs) hvt ?_ ?_
    · rw [serialize, serContainerParts, hfpl]
    · rw [construct, if_neg (fun hne => hne (fieldsHaveType_length fs vs hvt)), hcons, R.bind_ok,
        hfill]

theorem fixedPart_ne_panic {h : HashFn} : ∀ (fs : List Ty), (∀ t ∈ fs, NoPanic h t) →
    ∀ (prev : Nat) (first : Bool) (scope : Nat) (dr : DR),
    decodeFixedPart h fs prev first scope dr ≠ .error .panic := by
  intro fs
  induction fs with
  | nil => intro _ prev first scope dr; rw [decodeFixedPart_nil]; exact ok_ne_panic _
  | cons t ts ih =>
    intro hall prev first scope dr
    have ht : NoPanic h t := hall t List.mem_cons_self
    have hts : ∀ t' ∈ ts, NoPanic h t' := fun t' ht' => hall t' (List.mem_cons_of_mem _ ht')
    rw [decodeFixedPart]
    by_cases hf : t.isFixed = true
    · rw [if_pos hf]
      apply bind_ne_panic (inSub_ne_panic _ _ _ ht)
      rintro ⟨x, d1⟩ _
      apply bind_ne_panic (ih hts _ _ _ _)
      rintro ⟨slots', offs', d2⟩ _
      exact ok_ne_panic _
    · rw [if_neg hf]
      apply bind_ne_panic (readOffset_ne_panic _)
      rintro ⟨o, d1⟩ _
      apply ite_ne_panic (fun _ => other_ne_panic); intro _
      apply ite_ne_panic (fun _ => other_ne_panic); intro _
      apply ite_ne_panic (fun _ => other_ne_panic); intro _
      apply bind_ne_panic (ih hts _ _ _ _)
      rintro ⟨slots', offs', d2⟩ _
      exact ok_ne_panic _

/-- the second loop never runs out of offsets: the first loop left one per variable-size field -/
theorem dynPart_ne_panic {h : HashFn} : ∀ (fs : List Ty), (∀ t ∈ fs, NoPanic h t) →
    ∀ {prev : Nat} {first : Bool} {scope : Nat} {dr dr1 : DR} {slots : List (Option Node)}
      {offs : List Nat} (drA : DR),
    decodeFixedPart h fs prev first scope dr = .ok (slots, offs, dr1) →
    decodeDynPart h fs scope offs drA ≠ .error .panic := by
  intro fs
  induction fs with
  | nil => intro _ _ _ _ _ _ _ _ _ _; rw [decodeDynPart]; exact ok_ne_panic _
  | cons t ts ih =>
    intro hall prev first scope dr dr1 slots offs drA hF
    have hts : ∀ t' ∈ ts, NoPanic h t' := fun t' ht' => hall t' (List.mem_cons_of_mem _ ht')
    rw [decodeDynPart_cons]
    by_cases hf : t.isFixed = true
    · rw [if_pos hf]
      obtain ⟨x, d1, slots', _, h2, _⟩ := decodeFixedPart_fixed_ok hf hF
      exact ih hts drA h2
    · rw [if_neg hf]
      obtain ⟨o, d1, slots', offs', _, _, _, _, h2, _, rfl⟩ := decodeFixedPart_var_ok hf hF
      apply bind_ne_panic (inSub_ne_panic _ _ _ (hall t List.mem_cons_self))
      rintro ⟨x, dA⟩ _
      apply bind_ne_panic (ih hts dA h2)
      rintro ⟨xs, dB⟩ _
      exact ok_ne_panic _

theorem container_noPanic {h : HashFn} {fs : List Ty} (hfs : ∀ t ∈ fs, NoPanic h t) :
    NoPanic h (.container fs) := by
  intro dr
  unfold decode
  apply ite_ne_panic (fun _ => other_ne_panic); intro _
  apply bind_ne_panic (fixedPart_ne_panic fs hfs _ _ _ _)
  rintro ⟨slots, offs, d1⟩ h1
  apply bind_ne_panic (dynPart_ne_panic fs hfs d1 h1)
  rintro ⟨dyn, d2⟩ _
  simp only
  split
  · exact ok_ne_panic _
  · exact other_ne_panic

theorem mergeFields_length : ∀ (slots : List (Option Node)) (dyn : List Node),
    (mergeFields slots dyn).length = slots.length := by
  intro slots
  induction slots with
  | nil => intro dyn; rw [mergeFields]; rfl
  | cons s slots ih =>
    intro dyn
    cases s with
    | some x => rw [mergeFields, List.length_cons, List.length_cons, ih]
    | none =>
      cases dyn with
      | nil => rw [mergeFields, List.length_cons, List.length_cons, ih]
      | cons d dyn => rw [mergeFields, List.length_cons, List.length_cons, ih]

end ZtypV.DecodeProofs
