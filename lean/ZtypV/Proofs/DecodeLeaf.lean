/-
C03, leaf and bitfield types: soundness (`Sound`) and panic freedom (`NoPanic`) of the
decoders of uint, bool, bytesN, bitvector, bitlist.  The two bitfield decoders get their
equations (`decode_bitvector`, `decode_bitlist`) with the part after the read named
(`padBad`, `bitlistOfBytes`), so that soundness, panic freedom and completeness
(Proofs/DecodeCompleteBase.lean) are statements about those.
-/
import ZtypV.Proofs.DecodeBits
import ZtypV.Proofs.DecodeBasic
namespace ZtypV.DecodeProofs
open ZtypV ZtypV.View

/-! ### uint, bytesN, bool -/

theorem uint_leafSound (h : HashFn) (b : Nat) : LeafSound h (.uint b) := by
  intro dr n dr' hd
  rw [decode_uint] at hd
  obtain ⟨⟨bs, d1⟩, h1, h2⟩ := bind_eq_ok hd
  cases h2
  have sp := read_span h1
  obtain ⟨hv, hs⟩ := uint_of_bytes sp.length
  refine ⟨.num (leNat bs), hv, hs.trans sp.take, sp.le, sp.drop, ?_⟩
  rw [construct_num, ← serialize_num, hs]

theorem uint_sound (h : HashFn) (b : Nat) : Sound h (.uint b) := (uint_leafSound h b).sound rfl

theorem uint_noPanic (h : HashFn) (b : Nat) : NoPanic h (.uint b) := by
  intro dr
  rw [decode_uint]
  apply bind_ne_panic (read_ne_panic dr b)
  intro a _ hc
  cases hc

theorem bytesN_leafSound (h : HashFn) (k : Nat) : LeafSound h (.bytesN k) := by
  intro dr n dr' hd
  rw [decode_bytesN] at hd
  obtain ⟨⟨bs, d1⟩, h1, h2⟩ := bind_eq_ok hd
  cases h2
  have sp := read_span h1
  exact ⟨.bytes bs, beq_iff_eq.mpr sp.length, sp.take, sp.le, sp.drop, rfl⟩

theorem bytesN_sound (h : HashFn) (k : Nat) : Sound h (.bytesN k) := (bytesN_leafSound h k).sound rfl

theorem bytesN_noPanic (h : HashFn) (k : Nat) : NoPanic h (.bytesN k) := by
  intro dr
  rw [decode_bytesN]
  apply bind_ne_panic (read_ne_panic dr k)
  intro a _ hc
  cases hc

theorem byte_le_one (x : UInt8) (hx : ¬ x > 1) : x = 0 ∨ x = 1 := by
  have h : ¬ (1 : UInt8).toNat < x.toNat := fun h => hx (UInt8.lt_iff_toNat_lt.mpr h)
  have h1 : (1 : UInt8).toNat = 1 := rfl
  rcases (by omega : x.toNat = 0 ∨ x.toNat = 1) with h0 | h0
  · exact Or.inl (UInt8.toNat_inj.mp h0)
  · exact Or.inr (UInt8.toNat_inj.mp (h0.trans h1.symm))

theorem bool_leafSound (h : HashFn) : LeafSound h .bool := by
  intro dr n dr' hd
  simp only [Ty.fixedSize]
  rw [decode] at hd
  obtain ⟨⟨bs, d1⟩, h1, h2⟩ := bind_eq_ok hd
  obtain ⟨hl, hbs, hav, _, _⟩ := read_ok h1
  simp only at h2
  split at h2
  · rename_i x
    split at h2; · cases h2
    rename_i hx
    cases h2
    rcases byte_le_one x hx with rfl | rfl
    · refine ⟨.bool false, rfl, ?_, by omega, hav, rfl⟩
      rw [← hbs]; rfl
    · refine ⟨.bool true, rfl, ?_, by omega, hav, rfl⟩
      rw [← hbs]; rfl
  · cases h2

theorem bool_sound (h : HashFn) : Sound h .bool := (bool_leafSound h).sound rfl

theorem bool_noPanic (h : HashFn) : NoPanic h .bool := by
  intro dr
  rw [decode]
  apply bind_ne_panic (read_ne_panic dr 1)
  rintro ⟨bs, d1⟩ h1
  have hlen := (read_span h1).length
  match bs, hlen with
  | [x], _ =>
    simp only
    split <;> (intro hc; cases hc)

/-! ### bitvector -/

/-- the padding check of the bitvector decoder: some bit at or above `k % 8` of the last byte is set -/
def padBad (scope k : Nat) (bs : Bytes) : Bool :=
  scope ≠ 0 && k % 8 ≠ 0 &&
    (match bs.getLast? with
     | some last => last.toNat % 2 ^ (k % 8) ≠ last.toNat
     | Option.none => false)

theorem decode_bitvector (h : HashFn) (k : Nat) (dr : DR) :
    decode h (.bitvector k) dr =
      if (k + 7) / 8 ≠ dr.scope then .error .other
      else dr.read dr.scope >>= fun r =>
        if padBad dr.scope k r.1 then .error .other
        else orNil (fillToContents h (bitDepth k) (bytesIntoNodes r.1)) >>= fun n => .ok (n, r.2) := by
  rw [decode]
  rfl

theorem not_padBad_iff {scope k : Nat} {bs : Bytes} (hl : bs.length = scope) :
    ¬ padBad scope k bs = true ↔
      (k % 8 ≠ 0 → ∀ last, bs.getLast? = some last → last.toNat % 2 ^ (k % 8) = last.toNat) := by
  rcases List.eq_nil_or_concat bs with rfl | ⟨init, last, rfl⟩
  · subst hl
    simp [padBad]
  · have hs : scope ≠ 0 := by
      rw [← hl, List.concat_eq_append, List.length_append]
      exact Nat.succ_ne_zero _
    simp [padBad, hs]

theorem bitvector_chunks (k : Nat) : ((k + 7) / 8 + 31) / 32 = (k + 255) / 256 := by
  rw [← Nat.add_mul_div_right _ _ (by decide : 0 < 8), Nat.div_div_eq_div_mul, Nat.add_assoc]

theorem bitvector_sound (h : HashFn) (k : Nat) : Sound h (.bitvector k) := by
  intro dr n dr' hd _
  rw [decode_bitvector] at hd
  obtain ⟨hsc, hd⟩ := ite_err_eq_ok hd
  obtain ⟨⟨bs, d1⟩, h1, h2⟩ := bind_eq_ok hd
  have sp := read_span h1
  obtain ⟨hbad, h2⟩ := ite_err_eq_ok h2
  obtain ⟨n', hn, h3⟩ := bind_eq_ok h2
  cases h3
  obtain ⟨bits, hbl, hpk⟩ := bitvector_bits k bs (sp.length.trans (Decidable.of_not_not hsc).symm)
    ((not_padBad_iff sp.length).mp hbad)
  refine ⟨.bits bits, ?_, ?_, sp.le, sp.drop, ?_⟩
  · rw [hasType, hbl]; exact beq_self_eq_true k
  · rw [serialize, hpk]; exact sp.take
  · rw [construct, if_neg (fun hne => hne hbl), bitsToBytes, hpk]
    exact hn

theorem bitvector_noPanic (h : HashFn) (k : Nat) : NoPanic h (.bitvector k) := by
  intro dr
  rw [decode_bitvector]
  apply ite_ne_panic (fun _ => other_ne_panic)
  intro hsc
  apply bind_ne_panic (read_ne_panic dr _)
  rintro ⟨bs, d1⟩ h1
  apply ite_ne_panic (fun _ => other_ne_panic)
  intro _
  apply orNil_bind_ne_panic _ (fun _ => ok_ne_panic _)
  apply fill_bytes_ok
  rw [(read_span h1).length, ← Decidable.of_not_not hsc, bitvector_chunks]
  exact Nat.le_refl _

/-! ### bitlist -/

/-- the bitlist decoder after its read: from the `scope` bytes to the backing -/
def bitlistOfBytes (h : HashFn) (lim scope : Nat) (bs : Bytes) (dr' : DR) : R (Node × DR) :=
  match bs.getLast? with
  | Option.none => .error .panic
  | some last =>
    if last = 0 then .error .other
    else if scope = 1 ∧ last = 1 then .ok (.pair (zeroNode h (bitDepth lim)) (zeroNode h 0), dr')
    else
      let dbi := byteBitIndex last
      let bitLen := (scope - 1) * 8 + dbi
      if bitLen > lim then .error .other
      else
        let contents :=
          if dbi = 0 then bs.dropLast
          else bs.dropLast ++ [UInt8.ofNat (last.toNat - 2 ^ dbi)]
        do
          let c ← orNil (fillToContents h (bitDepth lim) (bytesIntoNodes contents))
          .ok (.pair c (lengthNode bitLen), dr')

theorem decode_bitlist (h : HashFn) (lim : Nat) (dr : DR) :
    decode h (.bitlist lim) dr =
      if dr.scope = 0 then .error .other
      else if dr.scope > (lim + 8) / 8 then .error .other
      else dr.read dr.scope >>= fun r => bitlistOfBytes h lim dr.scope r.1 r.2 := by
  rw [decode]
  rfl

/-- the decoder on a non-empty string, which is what it gets when the scope is not 0.  The early
    return for the encoding `[1]` of the empty list gives what the general path gives. -/
theorem bitlistOfBytes_concat (h : HashFn) (lim : Nat) (init : Bytes) (last : UInt8) (d : DR) :
    bitlistOfBytes h lim (init.length + 1) (init ++ [last]) d =
      if last = 0 then .error .other
      else if init.length * 8 + byteBitIndex last > lim then .error .other
      else orNil (fillToContents h (bitDepth lim) (bytesIntoNodes (bitlistContents init last))) >>=
        fun c => .ok (.pair c (lengthNode (init.length * 8 + byteBitIndex last)), d) := by
  unfold bitlistOfBytes bitlistContents
  rw [List.getLast?_concat, List.dropLast_concat, Nat.add_sub_cancel]
  dsimp only
  by_cases hsp : init.length + 1 = 1 ∧ last = 1
  · rw [if_pos hsp]
    obtain ⟨hi, rfl⟩ := hsp
    obtain rfl := List.eq_nil_of_length_eq_zero (Nat.succ.inj hi)
    have h1 : byteBitIndex 1 = 0 := by decide
    rw [h1, if_pos rfl, List.length_nil, Nat.zero_mul, if_neg (Nat.not_lt_zero lim),
      bytesIntoNodes_nil, fillToContents_nil, lengthNode_zero h]
    rfl
  · rw [if_neg hsp]

theorem exists_concat_of_length {bs : Bytes} {n : Nat} (hl : bs.length = n) (h0 : ¬ n = 0) :
    ∃ init last, bs = init ++ [last] ∧ init.length + 1 = n := by
  rcases List.eq_nil_or_concat bs with rfl | ⟨init, last, rfl⟩
  · exact absurd hl.symm h0
  · rw [List.concat_eq_append, List.length_append] at hl
    exact ⟨init, last, List.concat_eq_append, hl⟩

theorem bitlistOfBytes_sound {h : HashFn} {lim : Nat} {init : Bytes} {last : UInt8} {d d' : DR}
    {n : Node} (hd : bitlistOfBytes h lim (init.length + 1) (init ++ [last]) d = .ok (n, d')) :
    d' = d ∧ ∃ bits : List Bool, bits.length ≤ lim ∧ packBits (bits ++ [true]) = init ++ [last] ∧
      construct h (.bitlist lim) (.bits bits) = .ok n := by
  rw [bitlistOfBytes_concat] at hd
  obtain ⟨hne, hd⟩ := ite_err_eq_ok hd
  obtain ⟨hlim, hd⟩ := ite_err_eq_ok hd
  obtain ⟨c, hc, h3⟩ := bind_eq_ok hd
  cases h3
  obtain ⟨bits, hbl, hpk1, hpk2⟩ := bitlist_bits init last hne
  have hle : bits.length ≤ lim := hbl ▸ Nat.le_of_not_gt hlim
  refine ⟨rfl, bits, hle, hpk1, ?_⟩
  rw [construct, if_neg (Nat.not_lt.mpr hle), bitsToBytes, hpk2, hbl]
  exact congrArg (· >>= _) hc

theorem bitlist_sound (h : HashFn) (lim : Nat) : Sound h (.bitlist lim) := by
  intro dr n dr' hd _
  rw [decode_bitlist] at hd
  obtain ⟨hs0, hd⟩ := ite_err_eq_ok hd
  obtain ⟨_, hd⟩ := ite_err_eq_ok hd
  obtain ⟨⟨bs, d1⟩, h1, h2⟩ := bind_eq_ok hd
  have sp := read_span h1
  obtain ⟨init, last, rfl, hsc⟩ := exists_concat_of_length sp.length hs0
  rw [← hsc] at h2
  obtain ⟨rfl, bits, hle, hpk, hc⟩ := bitlistOfBytes_sound h2
  refine ⟨.bits bits, ?_, ?_, sp.le, sp.drop, hc⟩
  · rw [hasType]; exact decide_eq_true hle
  · rw [serialize, hpk]; exact sp.take

/-- the contents fit the tree below a bitlist of limit `lim` -/
theorem bitlistContents_chunks {lim : Nat} {init : Bytes} {last : UInt8}
    (hlim : init.length * 8 + byteBitIndex last ≤ lim) :
    ((bitlistContents init last).length + 31) / 32 ≤ (lim + 255) / 256 := by
  have hc : (bitlistContents init last).length ≤ (lim + 7) / 8 := by
    apply (Nat.le_div_iff_mul_le (by decide)).mpr
    unfold bitlistContents
    split
    · exact Nat.le_trans (Nat.le_add_right _ _) (Nat.le_trans hlim (Nat.le_add_right _ _))
    · rename_i h0
      rw [List.length_append, List.length_singleton, Nat.succ_mul]
      exact Nat.add_le_add_right
        (Nat.le_trans (Nat.add_le_add_left (Nat.pos_of_ne_zero h0) _) hlim) 7
  rw [← bitvector_chunks]
  exact Nat.div_le_div_right (Nat.add_le_add_right hc 31)

theorem bitlistOfBytes_noPanic (h : HashFn) (lim : Nat) (init : Bytes) (last : UInt8) (d : DR) :
    bitlistOfBytes h lim (init.length + 1) (init ++ [last]) d ≠ .error .panic := by
  rw [bitlistOfBytes_concat]
  apply ite_ne_panic (fun _ => other_ne_panic)
  intro _
  apply ite_ne_panic (fun _ => other_ne_panic)
  intro hlim
  apply orNil_bind_ne_panic _ (fun _ => ok_ne_panic _)
  exact fill_bytes_ok h _ _ (bitlistContents_chunks (Nat.le_of_not_gt hlim))

theorem bitlist_noPanic (h : HashFn) (lim : Nat) : NoPanic h (.bitlist lim) := by
  intro dr
  rw [decode_bitlist]
  apply ite_ne_panic (fun _ => other_ne_panic)
  intro hs0
  apply ite_ne_panic (fun _ => other_ne_panic)
  intro _
  apply bind_ne_panic (read_ne_panic dr _)
  rintro ⟨bs, d1⟩ h1
  obtain ⟨init, last, rfl, hsc⟩ := exists_concat_of_length (read_span h1).length hs0
  rw [← hsc]
  exact bitlistOfBytes_noPanic h lim init last d1

end ZtypV.DecodeProofs
