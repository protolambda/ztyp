/-
C12, typed mutation layer: the typed mutators (`Set`, `Append`, `Pop`, `Change`, the hook
write-back `hookSet`) and the typed getter `getElemNode` on a partial (summarised) backing are
`Safe` against the full-tree run.  `Safe` goes through `>>=` and `if`, so each operation is walked
through once.  The walk needs the positions the operation reads AS LEAVES (length node, packed
chunks) to be leaves of the full tree (`ReadLeaves t n`, true of every `Rep` backing), so that the
partial tree holds the same leaf there; where the Go setter is called with `expand = true`
(`Append`, `Pop`) it also needs `ZeroFaithful h (viewDepth t) n`.
-/
import ZtypV.Proofs.Summ
import ZtypV.Proofs.RepMut
namespace ZtypV.Partial
open ZtypV ZtypV.View ZtypV.TreeNav

/-- backward simulation of the partial-tree computation `r'` by the full-tree computation `r` -/
def BackR {α β : Type} (S : α → β → Prop) (r : R α) (r' : R β) : Prop :=
  ∀ a', r' = .ok a' → ∃ a, r = .ok a ∧ S a a'

def NoPanic {α : Type} (r : R α) : Prop := r ≠ .error .panic

namespace NoPanic

theorem ok {α : Type} (a : α) : NoPanic (.ok a : R α) := nofun
theorem other {α : Type} : NoPanic (.error .other : R α) := nofun
theorem nav {α : Type} : NoPanic (.error .nav : R α) := nofun

theorem ite {α : Type} {c : Prop} [Decidable c] {a b : R α} (h1 : NoPanic a) (h2 : NoPanic b) :
    NoPanic (if c then a else b) := by
  split <;> assumption

theorem getNode (n : Node) (p : List Bool) : NoPanic (getNode n p) :=
  fun hg => nomatch getNode_error_nav _ _ _ hg

theorem setNode (h : HashFn) (n : Node) (p : List Bool) (e : Bool) (v : Node) :
    NoPanic (setNode h n p e v) :=
  fun hg => nomatch setNode_error_nav _ _ _ _ _ _ hg

theorem toPath (i d : Nat) : NoPanic (toPath i d) := ite other (ite other (ok _))

theorem basicFromChunk (size : Nat) (r : Root) (i : Nat) : NoPanic (basicFromChunk size r i) :=
  ite other (ok _)

end NoPanic

/-- the partial-tree run `r'` against the full-tree run `r`: a success is matched by a related
    success of the full tree, and there is no panic -/
def Safe {α β : Type} (S : α → β → Prop) (r : R α) (r' : R β) : Prop :=
  BackR S r r' ∧ NoPanic r'

namespace Safe

theorem bind {α α' β β' : Type} {S : α → α' → Prop} {T : β → β' → Prop} {r : R α} {r' : R α'}
    {f : α → R β} {f' : α' → R β'} (h1 : Safe S r r')
    (h2 : ∀ a a', r = .ok a → S a a' → Safe T (f a) (f' a')) : Safe T (r >>= f) (r' >>= f') := by
  cases r' with
  | error e => exact ⟨nofun, fun hp => h1.2 (congrArg Except.error (Except.error.inj hp))⟩
  | ok a' =>
    obtain ⟨a, ha, hs⟩ := h1.1 a' rfl
    rw [ha]; exact h2 a a' ha hs

theorem bindEq {α β β' : Type} {T : β → β' → Prop} {r r' : R α}
    {f : α → R β} {f' : α → R β'} (h1 : Safe Eq r r')
    (h2 : ∀ a, r = .ok a → Safe T (f a) (f' a)) : Safe T (r >>= f) (r' >>= f') :=
  bind h1 (fun a _ ha he => he ▸ h2 a ha)

/-- a computation that does not look at the tree -/
theorem same {α : Type} {r : R α} (hr : NoPanic r) : Safe Eq r r := ⟨fun a ha => ⟨a, ha, rfl⟩, hr⟩

theorem ok {α β : Type} {S : α → β → Prop} {a : α} {b : β} (hs : S a b) :
    Safe S (.ok a : R α) (.ok b : R β) :=
  ⟨fun _ hx => by cases hx; exact ⟨a, rfl, hs⟩, NoPanic.ok b⟩

theorem other {α β : Type} {S : α → β → Prop} {r : R α} : Safe S r (.error .other : R β) :=
  ⟨nofun, NoPanic.other⟩

theorem ite {α β : Type} {S : α → β → Prop} {c : Prop} [Decidable c] {a b : R α} {a' b' : R β}
    (h1 : c → Safe S a a') (h2 : ¬ c → Safe S b b') :
    Safe S (if c then a else b) (if c then a' else b') := by
  by_cases hc : c
  · rw [if_pos hc, if_pos hc]; exact h1 hc
  · rw [if_neg hc, if_neg hc]; exact h2 hc

end Safe

def IsLeaf (x : Node) : Prop := ∃ r, x = .leaf r

/-- the right child of the view root (length mix-in / selector), if present, is a leaf -/
def LenLeaf (n : Node) : Prop := ∀ x, getNode n [true] = .ok x → IsLeaf x

def BottomLeaves (n : Node) (d : Nat) : Prop :=
  ∀ (p : List Bool) (x : Node), p.length = d → getNode n p = .ok x → IsLeaf x

theorem BottomLeaves.left {l r : Node} {d : Nat} (hb : BottomLeaves (.pair l r) (d + 1)) :
    BottomLeaves l d :=
  fun p x hp hg => hb (false :: p) x (by simp [hp]) (by simpa using hg)

theorem BottomLeaves.get {n c : Node} {d i : Nat} (hb : BottomLeaves n d)
    (hc : subtreeGet n d i = .ok c) : IsLeaf c := by
  obtain ⟨p, hp, hg⟩ := R.bind_eq_ok.mp hc
  exact hb p c (toPath_length hp) hg

/-- the positions the typed mutators / the typed getter of a view of type `t` read as leaves -/
def ReadLeaves (t : Ty) (n : Node) : Prop :=
  match t with
  | .list e _ => LenLeaf n ∧ (isBasicElem e = true → BottomLeaves n (viewDepth t))
  | .bitlist _ => LenLeaf n ∧ BottomLeaves n (viewDepth t)
  | .vector e _ => isBasicElem e = true → BottomLeaves n (viewDepth t)
  | .bitvector _ => BottomLeaves n (viewDepth t)
  | _ => True

section prim
variable {h : HashFn} {n n' : Node} (hs : Summ h n n')
include hs

theorem asLeaf_safe (hl : IsLeaf n) : Safe Eq (asLeaf n) (asLeaf n') := by
  obtain ⟨r, rfl⟩ := hl
  rw [hs.leaf_left]
  exact Safe.ok rfl

theorem getNode_safe (p : List Bool) : Safe (Summ h) (getNode n p) (getNode n' p) :=
  ⟨fun _ hx' => Summ.getNode_back hs p hx', NoPanic.getNode n' p⟩

theorem setNode_safe {v v' : Node} {p : List Bool} {e : Bool} (hv : Summ h v v')
    (hz : e = true → ZeroFaithful h p.length n) :
    Safe (Summ h) (setNode h n p e v) (setNode h n' p e v') :=
  ⟨fun _ hm' => Summ.setNode_back hs hv hz hm', NoPanic.setNode h n' p e v'⟩

theorem subtreeGet_safe (d i : Nat) : Safe (Summ h) (subtreeGet n d i) (subtreeGet n' d i) :=
  Safe.bindEq (Safe.same (NoPanic.toPath i d)) fun p _ => getNode_safe hs p

theorem subtreeSet_safe {v v' : Node} (hv : Summ h v v') (d i : Nat) :
    Safe (Summ h) (subtreeSet h n d i v) (subtreeSet h n' d i v') :=
  Safe.bindEq (Safe.same (NoPanic.toPath i d)) fun _ _ => setNode_safe hs hv nofun

theorem setLength_safe (len : Nat) : Safe (Summ h) (setLength h n len) (setLength h n' len) :=
  setNode_safe hs (Summ.refl _) nofun

theorem listLength_safe (hl : LenLeaf n) (lim : Nat) :
    Safe Eq (listLength n lim) (listLength n' lim) :=
  Safe.bind (getNode_safe hs _) fun x _ hx hxs =>
    Safe.bindEq (asLeaf_safe hxs (hl x hx)) fun _ _ => Safe.same (NoPanic.ite NoPanic.other (NoPanic.ok _))

/-- a packed chunk read (`GetNode` at the bottom layer, interpreted as a root) followed by
    continuations that are related for the same chunk -/
theorem chunk_safe {d : Nat} (hb : BottomLeaves n d) (i : Nat) {β β' : Type} {T : β → β' → Prop}
    {k : Root → R β} {k' : Root → R β'} (hk : ∀ r, Safe T (k r) (k' r)) :
    Safe T (subtreeGet n d i >>= fun c => asLeaf c >>= k)
      (subtreeGet n' d i >>= fun c => asLeaf c >>= k') :=
  Safe.bind (subtreeGet_safe hs d i) fun _ _ hc hcs =>
    Safe.bindEq (asLeaf_safe hcs (hb.get hc)) fun r _ => hk r

/-- the common end of `Append` / `Pop`: bind the new bottom node with expansion, set the length -/
theorem finish_safe {v v' : Node} (hv : Summ h v v') {p : List Bool}
    (hz : ZeroFaithful h p.length n) (len : Nat) :
    Safe (Summ h) (setNode h n p true v >>= fun b => setLength h b len)
      (setNode h n' p true v' >>= fun b => setLength h b len) :=
  Safe.bind (setNode_safe hs hv fun _ => hz) fun _ _ _ hbs => setLength_safe hbs len

/-- the packed forms of `Append` / `Pop` first try `Setter(lastGindex, expand)` with a dummy node
    and go on only if that works -/
theorem trial_safe {d : Nat} (hz : ZeroFaithful h d n) (j : Nat) {f f' : List Bool → R Node}
    (hf : ∀ p, ZeroFaithful h p.length n → Safe (Summ h) (f p) (f' p)) :
    Safe (Summ h) (toPath j d >>= fun p => setNode h n p true (.leaf z0) >>= fun _ => f p)
      (toPath j d >>= fun p => setNode h n' p true (.leaf z0) >>= fun _ => f' p) :=
  Safe.bindEq (Safe.same (NoPanic.toPath j d)) fun p hp =>
    have hzp := toPath_length hp ▸ hz
    Safe.bind (setNode_safe hs (Summ.refl _) fun _ => hzp) fun _ _ _ _ => hf p hzp

end prim

theorem chunk_back {h : HashFn} {n n' : Node} (hs : Summ h n n') {d : Nat} (hb : BottomLeaves n d)
    (i : Nat) : BackR Eq (subtreeGet n d i >>= asLeaf) (subtreeGet n' d i >>= asLeaf) :=
  (Safe.bind (subtreeGet_safe hs d i) fun _ _ hc hcs => asLeaf_safe hcs (hb.get hc)).1

theorem set_safe {h : HashFn} (t : Ty) {n n' en en' : Node} (i : Nat) (v : Val)
    (hs : Summ h n n') (he : Summ h en en') (hl : ReadLeaves t n) :
    Safe (Summ h) (Mut.set h t n i v en) (Mut.set h t n' i v en') := by
  -- the packed write: read the chunk, rewrite the element inside it, bind the new chunk
  have packed : ∀ {d : Nat}, BottomLeaves n d → ∀ (j : Nat) (g : Root → Root),
      let run (m : Node) : R Node :=
        subtreeGet m d j >>= fun c => asLeaf c >>= fun r => subtreeSet h m d j (.leaf (g r))
      Safe (Summ h) (run n) (run n') :=
    fun hb j _ => chunk_safe hs hb j fun _ => subtreeSet_safe hs (Summ.refl _) _ j
  cases t with
  | vector e k =>
    refine .ite (fun _ => .other) fun _ => .ite (fun hb => ?_) fun _ => subtreeSet_safe hs he _ _
    exact packed (hl hb) _ _
  | list e lim =>
    refine .bindEq (listLength_safe hs hl.1 lim) fun ll _ => ?_
    refine .ite (fun _ => .other) fun _ => .ite (fun _ => .other) fun _ => ?_
    refine .ite (fun hb => ?_) fun _ => subtreeSet_safe hs he _ _
    exact packed (hl.2 hb) _ _
  | container fs =>
    exact .ite (fun _ => .other) fun _ => subtreeSet_safe hs he _ _
  | bitvector k =>
    exact .ite (fun _ => .other) fun _ => packed hl _ _
  | bitlist lim =>
    refine .bindEq (listLength_safe hs hl.1 lim) fun ll _ => ?_
    exact .ite (fun _ => .other) fun _ => .ite (fun _ => .other) fun _ => packed hl.2 _ _
  | _ => exact .other

theorem hookSet_safe {h : HashFn} (t : Ty) {n n' b b' : Node} (i : Nat)
    (hs : Summ h n n') (hb : Summ h b b') (hl : ReadLeaves t n) :
    Safe (Summ h) (hookSet h t n i b) (hookSet h t n' i b') := by
  cases t with
  | vector e k =>
    exact .ite (fun _ => .other) fun _ => subtreeSet_safe hs hb _ _
  | list e lim =>
    refine .bindEq (listLength_safe hs hl.1 lim) fun ll _ => ?_
    exact .ite (fun _ => .other) fun _ => .ite (fun _ => .other) fun _ => subtreeSet_safe hs hb _ _
  | container fs =>
    exact .ite (fun _ => .other) fun _ => subtreeSet_safe hs hb _ _
  | _ => exact .other

theorem append_safe {h : HashFn} (t : Ty) {n n' en en' : Node} (v : Val)
    (hs : Summ h n n') (he : Summ h en en') (hl : ReadLeaves t n)
    (hz : ZeroFaithful h (viewDepth t) n) :
    Safe (Summ h) (Mut.append h t n v en) (Mut.append h t n' v en') := by
  cases t with
  | list e lim =>
    refine .bindEq (listLength_safe hs hl.1 lim) fun ll _ => ?_
    refine .ite (fun _ => .other) fun _ => .ite (fun hb => ?_) fun _ => ?_
    · -- packed: after the trial setter, the new bottom chunk (reading the old one unless a
      -- fresh chunk starts) is bound with expansion and the length set
      exact trial_safe hs hz _ fun p hzp => .ite
        (fun _ => .bindEq (.same (NoPanic.ok _)) fun _ _ => finish_safe hs (Summ.refl _) hzp _)
        fun _ => .bindEq (chunk_safe hs (hl.2 hb) _ fun _ => .same (NoPanic.ok _)) fun _ _ =>
          finish_safe hs (Summ.refl _) hzp _
    · exact .bindEq (.same (NoPanic.toPath _ _)) fun p hp =>
        finish_safe hs he (toPath_length hp ▸ hz) _
  | bitlist lim =>
    refine .bindEq (listLength_safe hs hl.1 lim) fun ll _ => .ite (fun _ => .other) fun _ => ?_
    exact trial_safe hs hz _ fun p hzp => .ite
      (fun _ => .bindEq (.same (NoPanic.ok _)) fun _ _ => finish_safe hs (Summ.refl _) hzp _)
      fun _ => .bindEq (chunk_safe hs hl.2 _ fun _ => .same (NoPanic.ok _)) fun _ _ =>
        finish_safe hs (Summ.refl _) hzp _
  | _ => exact .other

theorem pop_safe {h : HashFn} (t : Ty) {n n' : Node}
    (hs : Summ h n n') (hl : ReadLeaves t n) (hz : ZeroFaithful h (viewDepth t) n) :
    Safe (Summ h) (Mut.pop h t n) (Mut.pop h t n') := by
  cases t with
  | list e lim =>
    refine .bindEq (listLength_safe hs hl.1 lim) fun ll _ => ?_
    refine .ite (fun _ => .other) fun _ => .ite (fun hb => ?_) fun _ => ?_
    · -- packed: after the trial setter, read the chunk, clear the element, bind, set the length
      exact trial_safe hs hz _ fun p hzp =>
        chunk_safe hs (hl.2 hb) _ fun _ => finish_safe hs (Summ.refl _) hzp _
    · exact .bindEq (.same (NoPanic.toPath _ _)) fun p hp =>
        finish_safe hs (Summ.refl _) (toPath_length hp ▸ hz) _
  | bitlist lim =>
    exact .bindEq (listLength_safe hs hl.1 lim) fun ll _ => .ite (fun _ => .other) fun _ =>
      trial_safe hs hz _ fun p hzp =>
        chunk_safe hs hl.2 _ fun _ => finish_safe hs (Summ.refl _) hzp _
  | _ => exact .other

/-- the new content of a union, possibly itself partial (`none`: a nil value) -/
inductive OptSumm (h : HashFn) : Option Node → Option Node → Prop where
  | none : OptSumm h Option.none Option.none
  | some {c c' : Node} : Summ h c c' → OptSumm h (Option.some c) (Option.some c')

/-- `Change` does not read the old backing at all -/
theorem change_safe {h : HashFn} (t : Ty) (sel : Nat) {content content' : Option Node}
    (hc : OptSumm h content content') :
    Safe (Summ h) (Mut.change t sel content) (Mut.change t sel content') := by
  cases t with
  | union hn opts =>
    refine .ite (fun _ => .other) fun _ => ?_
    cases hc with
    | none => exact .ite (fun _ => .other) fun _ => .ok (Summ.refl _)
    | some hcc => exact .ok (Summ.pair hcc (Summ.refl _))
  | _ => exact .other

/-- results of `getElemNode` on a view of type `t`: same element type, element backing
    summarised; packed elements and bits come back in a fresh leaf, the same on both sides -/
def ElemSumm (h : HashFn) (t : Ty) (a a' : Ty × Node) : Prop :=
  a.1 = a'.1 ∧ Summ h a.2 a'.2 ∧ (packedSlot t = true → a' = a)

theorem getElem_safe {h : HashFn} (t : Ty) {n n' : Node} (i : Nat)
    (hs : Summ h n n') (hl : ReadLeaves t n) :
    Safe (ElemSumm h t) (getElemNode t n i) (getElemNode t n' i) := by
  have node : ¬ packedSlot t = true → ∀ (d j : Nat) (et : Ty), Safe (ElemSumm h t)
      (subtreeGet n d j >>= fun c => (Except.ok (et, c) : R (Ty × Node)))
      (subtreeGet n' d j >>= fun c => (Except.ok (et, c) : R (Ty × Node))) :=
    fun hp d j _ => .bind (subtreeGet_safe hs d j) fun _ _ _ hcs => .ok ⟨rfl, hcs, fun h => absurd h hp⟩
  have fresh : ∀ (et : Ty) (x : Node), Safe (ElemSumm h t) (.ok (et, x)) (.ok (et, x)) :=
    fun _ _ => .ok ⟨rfl, Summ.refl _, fun _ => rfl⟩
  cases t with
  | vector e k =>
    exact .ite (fun _ => .other) fun _ => .ite (fun hb => chunk_safe hs (hl hb) _ fun _ =>
      .bindEq (.same (NoPanic.basicFromChunk _ _ _)) fun _ _ => fresh ..) fun hb => node hb ..
  | list e lim =>
    refine .bindEq (listLength_safe hs hl.1 lim) fun ll _ => ?_
    refine .ite (fun _ => .other) fun _ => .ite (fun _ => .other) fun _ => ?_
    exact .ite (fun hb => chunk_safe hs (hl.2 hb) _ fun _ =>
      .bindEq (.same (NoPanic.basicFromChunk _ _ _)) fun _ _ => fresh ..) fun hb => node hb ..
  | container fs =>
    simp only [getElemNode]
    cases fs[i]? with
    | none => exact .other
    | some ft => exact node nofun ..
  | bitvector k =>
    exact .ite (fun _ => .other) fun _ => chunk_safe hs hl _ fun _ => fresh ..
  | bitlist lim =>
    refine .bindEq (listLength_safe hs hl.1 lim) fun ll _ => ?_
    exact .ite (fun _ => .other) fun _ => .ite (fun _ => .other) fun _ =>
      chunk_safe hs hl.2 _ fun _ => fresh ..
  | _ => exact .other

theorem seqShape_bottomLeaves (h : HashFn) : ∀ (d : Nat) (n : Node) (xs : List Node),
    SeqShape h d n xs → (∀ x ∈ xs, IsLeaf x) → BottomLeaves n d := by
  intro d
  induction d with
  | zero =>
    intro n xs hs hx p x hp hg
    cases List.eq_nil_of_length_eq_zero hp
    rw [getNode_nil] at hg; cases hg
    rcases (ShapeAux.seqShape_zero h n xs).mp hs with ⟨_, hn⟩ | hn
    · exact ⟨z0, hn⟩
    · exact hx n (by rw [hn]; exact List.mem_singleton_self n)
  | succ d ih =>
    intro n xs hs hx p x hp hg
    cases p with
    | nil => cases hp
    | cons b bs =>
      cases n with
      | leaf c => cases hg
      | pair l r =>
        obtain ⟨hl, hr⟩ := (ShapeAux.seqShape_succ_pair h d l r xs).mp hs
        rw [getNode_pair_cons'] at hg
        cases b
        · exact ih l _ hl (fun y hy => hx y (List.mem_of_mem_take hy)) bs x (Nat.succ.inj hp) hg
        · exact ih r _ hr (fun y hy => hx y (List.mem_of_mem_drop hy)) bs x (Nat.succ.inj hp) hg

theorem listShape_lenLeaf (h : HashFn) {d : Nat} {n : Node} {xs : List Node} {len : Nat}
    (hs : ListShape h d n xs len) : LenLeaf n := by
  obtain ⟨c, rfl, _⟩ := hs
  intro x hx
  cases hx
  exact ⟨_, rfl⟩

theorem listShape_bottomLeaves (h : HashFn) {d : Nat} {n : Node} {xs : List Node} {len : Nat}
    (hs : ListShape h d n xs len) (hx : ∀ x ∈ xs, IsLeaf x) : BottomLeaves n (d + 1) := by
  obtain ⟨c, rfl, hc⟩ := hs
  intro p x hp hg
  cases p with
  | nil => cases hp
  | cons b bs =>
    cases b
    · exact seqShape_bottomLeaves h d c xs hc hx bs x (Nat.succ.inj hp) hg
    · -- below the length node there is nothing
      cases bs with
      | nil => cases hg; exact ⟨_, rfl⟩
      | cons b' bs' => cases hg

theorem packedNodes_leaves (bs : Bytes) : ∀ x ∈ packedNodes bs, IsLeaf x := by
  intro x hx
  simp only [packedNodes, bytesIntoNodes, List.mem_map] at hx
  obtain ⟨r, _, rfl⟩ := hx
  exact ⟨r, rfl⟩

/-- in a `Rep` backing, the length node and every packed chunk position (data or zero
    padding, when materialised) is a leaf -/
theorem rep_readLeaves (h : HashFn) {t : Ty} {v : Val} {n : Node} (hr : Rep h t v n) :
    ReadLeaves t n := by
  cases t with
  | bitvector k =>
    cases v <;> simp only [Rep] at hr
    exact seqShape_bottomLeaves h _ n _ hr.2 (packedNodes_leaves _)
  | bitlist lim =>
    cases v <;> simp only [Rep] at hr
    exact ⟨listShape_lenLeaf h hr.2, listShape_bottomLeaves h hr.2 (packedNodes_leaves _)⟩
  | vector e k =>
    cases v <;> simp only [Rep] at hr
    intro hb
    rw [if_pos hb] at hr
    exact seqShape_bottomLeaves h _ n _ hr.2 (packedNodes_leaves _)
  | list e lim =>
    cases v <;> simp only [Rep] at hr
    cases hb : isBasicElem e
    · simp only [hb, Bool.false_eq_true, if_false] at hr
      obtain ⟨_, xs, _, hs⟩ := hr
      exact ⟨listShape_lenLeaf h hs, fun hc => by rw [hb] at hc; cases hc⟩
    · simp only [hb, if_true] at hr
      exact ⟨listShape_lenLeaf h hr.2, fun _ => listShape_bottomLeaves h hr.2 (packedNodes_leaves _)⟩
  | _ => exact True.intro

end ZtypV.Partial
