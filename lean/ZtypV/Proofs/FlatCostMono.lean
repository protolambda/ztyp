/-
C20, flat side: the remaining scope of the reader never grows during a successful run of the flat
decoder (`flatDecode_mono`).  The cost bound needs it because `FixedLenContainer` and `Union` hand
their OWN reader to the fields / the option: the bound of a later field is stated in terms of the
scope the earlier fields left.  (Sub-scopes leave the parent's index alone; reads advance it.)
-/
import ZtypV.Proofs.CostLogic
import ZtypV.Proofs.FlatSound
import ZtypV.Proofs.SerLemmas
namespace ZtypV.FlatCostProofs
open ZtypV ZtypV.View ZtypV.Flat ZtypV.DecodeProofs ZtypV.CostProofs

variable {α β : Type}

/-- a successful run does not enlarge the remaining scope -/
def Mono (f : DR → R (α × DR)) : Prop :=
  ∀ (dr : DR) (a : α) (dr' : DR), f dr = .ok (a, dr') → dr'.scope ≤ dr.scope

/-! ### what a successful run establishes -/

/-- every successful result of `x` satisfies `P` -/
def Ok (x : R α) (P : α → Prop) : Prop := ∀ a, x = .ok a → P a

section
variable {x : R α} {P Q : α → Prop}

theorem Ok.pure {a : α} (h : P a) : Ok (.ok a) P := fun _ e => by cases e; exact h
theorem Ok.error {e : Err} : Ok (.error e : R α) P := fun _ h => nomatch h

theorem Ok.bind {f : α → R β} {P : β → Prop} (hx : Ok x Q) (hf : ∀ a, Q a → Ok (f a) P) :
    Ok (x >>= f) P := fun _ hb =>
  let ⟨a, ha, hfa⟩ := bind_eq_ok hb
  hf a (hx a ha) _ hfa

/-- a step of which nothing is needed -/
theorem Ok.skip {f : α → R β} {P : β → Prop} (hf : ∀ a, Ok (f a) P) : Ok (x >>= f) P :=
  Ok.bind (Q := fun _ => True) (fun _ _ => trivial) fun a _ => hf a

theorem Ok.ite {c : Prop} [Decidable c] {y : R α} (hx : c → Ok x P) (hy : ¬ c → Ok y P) :
    Ok (if c then x else y) P := by
  split
  · exact hx ‹_›
  · exact hy ‹_›

/-- a check that rejects -/
theorem Ok.guard {c : Prop} [Decidable c] {e : Err} (h : Ok x P) :
    Ok (if c then .error e else x) P :=
  Ok.ite (fun _ => Ok.error) fun _ => h

theorem Ok.mono (h : Ok x Q) (hP : ∀ a, Q a → P a) : Ok x P := fun a e => hP a (h a e)
end

theorem Mono.ok {f : DR → R (α × DR)} (h : Mono f) (dr : DR) :
    Ok (f dr) (fun p => p.2.scope ≤ dr.scope) := fun p e => h dr p.1 p.2 e

/-! ### the reader and the codec helpers -/

theorem read_scope (dr : DR) (n : Nat) : Ok (dr.read n) (fun p => p.2.scope ≤ dr.scope) :=
  fun _ h => Nat.le.intro (read_ok_len h).1

theorem readOffset_scope (dr : DR) : Ok dr.readOffset (fun p => p.2.scope ≤ dr.scope) :=
  fun _ h => Nat.le.intro (readOffset_ok_len h).1

theorem readFull_scope (s : Slice) (dr : DR) : Ok (s.readFull dr) (fun p => p.2.scope ≤ dr.scope) :=
  Ok.bind (read_scope dr _) fun _ h => Ok.pure h

/-- a sub-scope leaves the parent's index alone -/
theorem inSub_scope (dr : DR) (count : Nat) (f : DR → R (α × DR)) :
    Ok (dr.inSub count f) (fun p => p.2.scope = dr.scope) :=
  Ok.skip fun _ => Ok.skip fun _ => Ok.pure rfl

/-- the step of every item loop: one item in its sub-scope, then the rest on the same scope -/
theorem inSub_cons_scope {dr : DR} {n : Nat} {f : DR → R (Val × DR)} {rest : DR → R (List Val × DR)}
    (hrest : ∀ d1, Ok (rest d1) (fun p => p.2.scope = d1.scope)) :
    Ok (do
      let (x, d1) ← dr.inSub n f
      let (xs, d2) ← rest d1
      .ok (x :: xs, d2)) (fun p => p.2.scope = dr.scope) :=
  Ok.bind (inSub_scope dr n f) fun p h1 => Ok.bind (hrest p.2) fun _ h2 => Ok.pure (h2.trans h1)

theorem readRootsLoop_scope : ∀ (n : Nat) (dr : DR),
    Ok (readRootsLoop n dr) (fun p => p.2.scope ≤ dr.scope)
  | 0, _ => Ok.pure (Nat.le_refl _)
  | n + 1, dr => Ok.bind (read_scope dr 32) fun p h1 =>
      Ok.bind (readRootsLoop_scope n p.2) fun _ h2 => Ok.pure (Nat.le_trans h2 h1)

theorem readRoots_scope (dst : RSlice) (n : Nat) (dr : DR) :
    Ok (readRoots dst n dr) (fun p => p.2.scope ≤ dr.scope) :=
  Ok.bind (readRootsLoop_scope n dr) fun _ h => Ok.pure h

theorem readRootsLimited_scope (dst : RSlice) (n : Nat) (dr : DR) :
    Ok (readRootsLimited dst n dr) (fun p => p.2.scope ≤ dr.scope) :=
  Ok.guard (Ok.guard (readRoots_scope dst _ dr))

theorem decFixedItems_scope (size : Nat) : ∀ (items : List Des) (dr : DR),
    Ok (decFixedItems size items dr) (fun p => p.2.scope = dr.scope)
  | [], dr => Ok.pure rfl
  | it :: its, dr => by
    rw [decFixedItems]
    exact inSub_cons_scope (decFixedItems_scope size its)

theorem readOffsetsN_ok_len : ∀ (n : Nat) (dr dr' : DR) (os : List Nat),
    readOffsetsN n dr = .ok (os, dr') →
    os.length = n ∧ dr'.scope + 4 * n = dr.scope ∧ dr'.avail.length + 4 * n = dr.avail.length
  | 0, dr, dr', os, h => by unfold readOffsetsN at h; cases h; exact ⟨rfl, rfl, rfl⟩
  | n + 1, dr, dr', os, h => by
    unfold readOffsetsN at h
    obtain ⟨⟨o, d1⟩, h1, h⟩ := bind_eq_ok h
    obtain ⟨⟨os', d2⟩, h2, h⟩ := bind_eq_ok h
    obtain ⟨a1, a2⟩ := readOffset_ok_len h1
    obtain ⟨b1, b2, b3⟩ := readOffsetsN_ok_len n d1 d2 os' h2
    cases h
    exact ⟨congrArg Nat.succ b1, by rw [Nat.mul_succ, ← Nat.add_assoc, b2, a1],
      by rw [Nat.mul_succ, ← Nat.add_assoc, b3, a2]⟩

theorem readOffsetsN_scope (n : Nat) (dr : DR) :
    Ok (readOffsetsN n dr) (fun p => p.2.scope ≤ dr.scope) :=
  fun p h => Nat.le.intro (readOffsetsN_ok_len n dr p.2 p.1 h).2.1

theorem decOffsetItems_scope (vec : Bool) (S : Nat) : ∀ (offs : List Nat) (items : List Des)
    (prev : Nat) (dr : DR),
    Ok (decOffsetItems vec S prev offs items dr) (fun p => p.2.scope = dr.scope)
  | [], items, prev, dr => by rw [decOffsetItems]; exact Ok.pure rfl
  | _ :: _, [], prev, dr => by rw [decOffsetItems]; exact Ok.error
  | off :: rest, it :: its, prev, dr => by
    rw [decOffsetItems]
    exact Ok.guard (Ok.guard (inSub_cons_scope (decOffsetItems_scope vec S rest its _)))

theorem decVector_scope (items : List Des) (fl : Nat) (dr : DR) :
    Ok (decVector items fl dr) (fun p => p.2.scope ≤ dr.scope) :=
  Ok.ite (fun _ => (decFixedItems_scope fl items dr).mono fun _ => Nat.le_of_eq) fun _ =>
    Ok.bind (readOffsetsN_scope _ dr) fun p h1 =>
      Ok.guard ((decOffsetItems_scope true _ p.1 items 0 p.2).mono fun _ h => h ▸ h1)

theorem decList_scope (add : DR → R (Val × DR)) (fl lim : Nat) (dr : DR) :
    Ok (decList add fl lim dr) (fun p => p.2.scope ≤ dr.scope) :=
  Ok.ite (fun _ => Ok.pure (Nat.le_refl _)) fun _ => Ok.ite
    (fun _ => Ok.guard (Ok.guard ((decFixedItems_scope fl _ dr).mono fun _ => Nat.le_of_eq)))
    fun _ => Ok.bind (readOffset_scope dr) fun p h1 => Ok.guard (Ok.guard (Ok.guard
      (Ok.bind (readOffsetsN_scope _ p.2) fun q h2 =>
        (decOffsetItems_scope false _ _ _ 0 q.2).mono fun _ h => h ▸ Nat.le_trans h2 h1)))

theorem decFixedLenContainer_scope : ∀ (fields : List Des) (dr : DR),
    (∀ f ∈ fields, Mono f.run) → Ok (decFixedLenContainer fields dr) (fun p => p.2.scope ≤ dr.scope)
  | [], dr, _ => Ok.pure (Nat.le_refl _)
  | f :: fs, dr, hm => by
    rw [decFixedLenContainer]
    exact Ok.bind ((hm f List.mem_cons_self).ok dr) fun p h1 =>
      Ok.bind (decFixedLenContainer_scope fs p.2 fun g hg => hm g (List.mem_cons_of_mem _ hg))
        fun _ h2 => Ok.pure (Nat.le_trans h2 h1)

theorem decContainerFixed_scope : ∀ (fields : List Des) (dr : DR),
    Ok (decContainerFixed fields dr) (fun p => p.2.2.2.scope ≤ dr.scope)
  | [], dr => Ok.pure (Nat.le_refl _)
  | f :: fs, dr => by
    rw [decContainerFixed]
    exact Ok.ite
      (fun _ => Ok.bind (inSub_scope dr _ _) fun p h1 =>
        Ok.bind (decContainerFixed_scope fs p.2) fun _ h2 => Ok.pure (h1 ▸ h2))
      fun _ => Ok.bind (readOffset_scope dr) fun p h1 =>
        Ok.bind (decContainerFixed_scope fs p.2) fun _ h2 => Ok.pure (Nat.le_trans h2 h1)

theorem decContainerDyn_scope (S : Nat) : ∀ (offs : List Nat) (dyn : List Des) (dr : DR),
    Ok (decContainerDyn S offs dyn dr) (fun p => p.2.scope = dr.scope)
  | [], dyn, dr => by rw [decContainerDyn]; exact Ok.pure rfl
  | _ :: _, [], dr => by rw [decContainerDyn]; exact Ok.error
  | off :: rest, f :: fs, dr => by
    rw [decContainerDyn]
    exact Ok.guard (inSub_cons_scope (decContainerDyn_scope S rest fs))

theorem decContainer_scope (fields : List Des) (dr : DR) :
    Ok (decContainer fields dr) (fun p => p.2.scope ≤ dr.scope) :=
  Ok.bind (decContainerFixed_scope fields dr) fun p h1 => Ok.ite (fun _ => Ok.pure h1) fun _ =>
    Ok.guard (Ok.bind (decContainerDyn_scope _ _ _ p.2.2.2) fun _ h2 => Ok.pure (h2 ▸ h1))

theorem decUnion_scope {select : Nat → R (Option Des)}
    (hsel : ∀ s, Ok (select s) (fun dest => ∀ d, dest = some d → Mono d.run)) (dr : DR) :
    Ok (decUnion select dr) (fun p => p.2.scope ≤ dr.scope) :=
  Ok.bind (read_scope dr 1) fun p h1 => Ok.bind (hsel _) fun dest hd => by
    cases dest with
    | none => exact Ok.guard (Ok.guard (Ok.pure h1))
    | some d =>
      exact Ok.guard (Ok.bind ((hd d rfl).ok p.2) fun _ h2 => Ok.pure (Nat.le_trans h2 h1))

/-! ### the flat composition -/

theorem flatFieldDes_mono : ∀ (fs : List Ty) (p : Val) (i : Nat),
    (∀ t ∈ fs, ∀ q, Mono (flatDecode t q)) → ∀ f ∈ flatFieldDes fs p i, Mono f.run
  | [], p, i, _, f, hf => by rw [flatFieldDes] at hf; cases hf
  | t :: ts, p, i, h, f, hf => by
    rw [flatFieldDes] at hf
    rcases List.mem_cons.mp hf with rfl | hf'
    · exact h t List.mem_cons_self _
    · exact flatFieldDes_mono ts p (i + 1) (fun t' ht' => h t' (List.mem_cons_of_mem _ ht')) f hf'

theorem flatSelect_mono : ∀ (opts : List Ty) (k : Nat), (∀ t ∈ opts, ∀ q, Mono (flatDecode t q)) →
    Ok (flatSelect opts k) (fun dest => ∀ d, dest = some d → Mono d.run)
  | [], k, _ => by rw [flatSelect]; exact Ok.error
  | t :: ts, 0, hm => by
    rw [flatSelect]
    exact Ok.pure fun d hd => by cases hd; exact hm t List.mem_cons_self _
  | t :: ts, k + 1, hm => by
    rw [flatSelect]
    exact flatSelect_mono ts k fun t' ht' => hm t' (List.mem_cons_of_mem _ ht')

/-- a destination slice or root slice turned into the value -/
theorem then_val {x : R (α × DR)} {dr : DR} {f : α × DR → R (Val × DR)}
    (hx : Ok x (fun p => p.2.scope ≤ dr.scope)) (hf : ∀ p, ∃ v, f p = .ok (v, p.2)) :
    Ok (x >>= f) (fun p => p.2.scope ≤ dr.scope) :=
  Ok.bind hx fun p h => by
    obtain ⟨v, hv⟩ := hf p
    rw [hv]; exact Ok.pure h

theorem flatDecode_mono (t : Ty) : ∀ (prior : Val), Mono (flatDecode t prior) := by
  suffices h : ∀ p dr, Ok (flatDecode t p dr) (fun q => q.2.scope ≤ dr.scope) from
    fun p dr a dr' e => h p dr (a, dr') e
  induction t using Ty.induct with
  | uint b => intro p dr; rw [flatDecode]; exact then_val (read_scope dr b) fun _ => ⟨_, rfl⟩
  | bool =>
    intro p dr
    rw [flatDecode]
    exact Ok.bind (read_scope dr 1) fun _ h => Ok.guard (Ok.pure h)
  | bytesN n =>
    intro p dr
    rw [flatDecode]
    exact Ok.ite (fun _ => then_val (read_scope dr 32) fun _ => ⟨_, rfl⟩)
      fun _ => then_val (readFull_scope _ dr) fun _ => ⟨_, rfl⟩
  | bitvector n =>
    intro p dr
    rw [flatDecode]
    exact then_val (Ok.bind (readFull_scope _ dr) fun _ h =>
      Ok.ite (fun _ => Ok.pure h) fun _ => Ok.error) fun _ => ⟨_, rfl⟩
  | bitlist n =>
    intro p dr
    rw [flatDecode]
    exact then_val (Ok.guard (Ok.bind (readFull_scope _ dr) fun _ h =>
      Ok.ite (fun _ => Ok.pure h) fun _ => Ok.error)) fun _ => ⟨_, rfl⟩
  | vector e n _ =>
    intro p dr
    rw [flatDecode]
    exact Ok.ite (fun _ => then_val (readFull_scope _ dr) fun _ => ⟨_, rfl⟩) fun _ =>
      Ok.ite (fun _ => then_val (readRoots_scope _ n dr) fun _ => ⟨_, rfl⟩)
        fun _ => then_val (decVector_scope _ _ dr) fun _ => ⟨_, rfl⟩
  | list e lim _ =>
    intro p dr
    rw [flatDecode]
    exact Ok.ite (fun _ => then_val (Ok.guard (readFull_scope _ dr)) fun _ => ⟨_, rfl⟩) fun _ =>
      Ok.ite (fun _ => then_val (readRootsLimited_scope _ lim dr) fun _ => ⟨_, rfl⟩)
        fun _ => then_val (decList_scope _ _ lim dr) fun _ => ⟨_, rfl⟩
  | container fs ih =>
    intro p dr
    rw [flatDecode]
    have hm : ∀ t ∈ fs, ∀ q, Mono (flatDecode t q) := fun t ht q d a d' e => ih t ht q d (a, d') e
    exact Ok.ite
      (fun _ => then_val (decFixedLenContainer_scope _ dr (flatFieldDes_mono fs p 0 hm))
        fun _ => ⟨_, rfl⟩)
      fun _ => then_val (decContainer_scope _ dr) fun _ => ⟨_, rfl⟩
  | union hasNone opts ih =>
    intro p dr
    rw [flatDecode]
    have hm : ∀ t ∈ opts, ∀ q, Mono (flatDecode t q) := fun t ht q d a d' e => ih t ht q d (a, d') e
    refine Ok.bind (decUnion_scope (fun s => ?_) dr) ?_
    · exact Ok.guard (Ok.ite (fun _ => Ok.pure fun _ hd => nomatch hd) fun _ => flatSelect_mono opts _ hm)
    · rintro ⟨⟨sel, ov⟩, d⟩ h
      cases ov <;> exact Ok.pure h

end ZtypV.FlatCostProofs
