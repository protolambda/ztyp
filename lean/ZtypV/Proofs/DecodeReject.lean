/-
C03, rejection: what a read on an arbitrary reader returns, and for each type constructor the
malformations its decoder refuses, stated on an arbitrary reader `dr`; the top-level reader
`DR.new bs bs.length` is the instance the property file uses.
-/
import ZtypV.Proofs.DecodeSound
namespace ZtypV.DecodeProofs
open ZtypV ZtypV.View

theorem isOk_ex {α : Type} {x : R α} (h : x.isOk = true) : ∃ n, x = .ok n := by
  cases x with
  | ok a => exact ⟨a, rfl⟩
  | error e => cases h

def isOther {α : Type} : R α → Bool
  | .error .other => true
  | _ => false

theorem isOther_eq {α : Type} {x : R α} (h : isOther x = true) : x = .error .other := by
  cases x with
  | ok a => cases h
  | error e =>
    cases e with
    | other => rfl
    | nav => cases h
    | panic => cases h

theorem decodeTop_eq_error {h : HashFn} {t : Ty} {bs : Bytes} {e : Err}
    (hd : decode h t (DR.new bs bs.length) = .error e) : decodeTop h t bs = .error e := by
  unfold decodeTop; rw [hd]; rfl

/-! ### the reader -/

theorem read_cases (dr : DR) (n : Nat) :
    dr.read n = .error .other ∨
    dr.read n = .ok (dr.avail.take n, { dr with i := dr.i + n, avail := dr.avail.drop n }) := by
  unfold DR.read
  by_cases h0 : n = 0
  · subst h0; exact Or.inr rfl
  · by_cases h1 : dr.i + n > dr.max
    · rw [if_neg h0, if_pos h1]; exact Or.inl rfl
    · by_cases h2 : dr.avail.length < n
      · rw [if_neg h0, if_neg h1, if_pos h2]; exact Or.inl rfl
      · rw [if_neg h0, if_neg h1, if_neg h2]; exact Or.inr rfl

theorem read_bind_error {α : Type} {dr : DR} {n : Nat} {f : Bytes × DR → R α}
    (hf : ∀ dr', f (dr.avail.take n, dr') = .error .other) : (dr.read n >>= f) = .error .other := by
  rcases read_cases dr n with hr | hr
  · rw [hr]; rfl
  · rw [hr]; exact hf _

theorem readOffset_bind_error {α : Type} {dr : DR} {f : Nat × DR → R α}
    (hf : ∀ dr', f (leNat (dr.avail.take 4), dr') = .error .other) :
    (dr.readOffset >>= f) = .error .other := by
  unfold DR.readOffset
  rcases read_cases dr 4 with hr | hr
  · rw [hr]; rfl
  · rw [hr]; exact hf _

theorem ite_eq_error {α : Type} {c : Prop} [Decidable c] {e : Err} {b : R α}
    (hb : ¬ c → b = .error e) : (if c then .error e else b) = .error e := by
  by_cases hc : c
  · exact if_pos hc
  · rw [if_neg hc]; exact hb hc

/-! ### malformations refused by the decoder of each constructor -/

variable {h : HashFn} {dr : DR}

theorem decode_bool_reject {x : UInt8} {rest : Bytes} (ha : dr.avail = x :: rest) (hx : x > 1) :
    decode h .bool dr = .error .other := by
  unfold decode
  refine read_bind_error fun dr' => ?_
  rw [ha]
  exact if_pos hx

/-- `last` is the last byte of the scope; a scope that the stream cannot fill is refused too -/
theorem decode_bitvector_padding {k : Nat} {last : UInt8} (hk : k % 8 ≠ 0)
    (hl : (dr.avail.take dr.scope).getLast? = some last)
    (hp : last.toNat % 2 ^ (k % 8) ≠ last.toNat) : decode h (.bitvector k) dr = .error .other := by
  have hs0 : dr.scope ≠ 0 := fun h0 => by rw [h0] at hl; cases hl
  unfold decode
  refine ite_eq_error fun _ => read_bind_error fun dr' => ?_
  dsimp only
  rw [hl]
  exact if_pos (by rw [decide_eq_true hs0, decide_eq_true hk]; exact decide_eq_true hp)

theorem decode_bitlist_no_delimiter {lim : Nat}
    (hl : dr.scope = 0 ∨ (dr.avail.take dr.scope).getLast? = some 0) :
    decode h (.bitlist lim) dr = .error .other := by
  unfold decode
  refine ite_eq_error fun hs0 => ite_eq_error fun _ => read_bind_error fun dr' => ?_
  dsimp only
  rw [hl.resolve_left hs0]
  exact if_pos rfl

/-- in the union lemmas the stream starts with the selector byte `x` -/
theorem decode_union_selector {hasNone : Bool} {opts : List Ty} {x : UInt8} {rest : Bytes}
    (ha : dr.avail = x :: rest) (hx : x.toNat ≥ opts.length + (if hasNone then 1 else 0)) :
    decode h (.union hasNone opts) dr = .error .other := by
  unfold decode
  refine ite_eq_error fun _ => read_bind_error fun dr1 => ?_
  rw [ha]
  exact if_pos hx

theorem decode_union_none_trailing {opts : List Ty} {rest : Bytes}
    (ha : dr.avail = 0 :: rest) (hs : dr.scope ≠ 1) :
    decode h (.union true opts) dr = .error .other := by
  unfold decode
  refine ite_eq_error fun _ => read_bind_error fun dr1 => ?_
  rw [ha]
  exact ite_eq_error fun _ => (if_pos rfl).trans (if_pos hs)

theorem decodeOpt_fixed_size {opts : List Ty} {k rem : Nat} {t : Ty}
    (ht : opts[k]? = some t) (hf : t.isFixed = true) (hlen : t.fixedSize ≠ rem) :
    decodeOpt h opts k rem dr = .error .other := by
  rw [decodeOpt_eq, ht]
  exact if_pos (by rw [hf, Bool.true_and]; exact bne_iff_ne.mpr hlen)

/-- the selected option has a fixed size other than what is left of the scope; an out-of-range
    selector is refused before the option is looked at -/
theorem decode_union_fixed_size {hasNone : Bool} {opts : List Ty} {x : UInt8} {rest : Bytes}
    {t : Ty} (ha : dr.avail = x :: rest) (hsel : (hasNone && x.toNat == 0) = false)
    (ht : opts[if hasNone then x.toNat - 1 else x.toNat]? = some t) (hf : t.isFixed = true)
    (hlen : t.fixedSize ≠ dr.scope - 1) : decode h (.union hasNone opts) dr = .error .other := by
  unfold decode
  refine ite_eq_error fun _ => read_bind_error fun dr1 => ?_
  rw [ha]
  refine ite_eq_error fun _ => (if_neg (ne_true_of_eq_false hsel)).trans ?_
  exact congrArg (· >>= _) (decodeOpt_fixed_size ht hf hlen)

/-- first loop of the container: the first offset must be the size of the fixed part -/
theorem decodeFixedPart_first_offset {t : Ty} {ts : List Ty} {prev scope : Nat}
    (hf : t.isFixed = false) (ho : leNat (dr.avail.take 4) ≠ prev) :
    decodeFixedPart h (t :: ts) prev true scope dr = .error .other := by
  rw [decodeFixedPart, if_neg (ne_true_of_eq_false hf)]
  refine readOffset_bind_error fun dr' => ite_eq_error fun _ => ?_
  exact if_pos (by rw [Bool.true_and]; exact decide_eq_true ho)

theorem decode_container_first_offset {t : Ty} {ts : List Ty}
    (hf : t.isFixed = false) (ho : leNat (dr.avail.take 4) ≠ Ty.fixedPart (t :: ts)) :
    decode h (.container (t :: ts)) dr = .error .other := by
  unfold decode
  refine ite_eq_error fun _ => ?_
  rw [decodeFixedPart_first_offset hf ho]
  rfl

theorem decode_list_first_offset {e : Ty} {lim : Nat}
    (hf : e.isFixed = false) (hs : dr.scope ≠ 0)
    (ho : leNat (dr.avail.take 4) % 4 ≠ 0 ∨ leNat (dr.avail.take 4) = 0 ∨
      leNat (dr.avail.take 4) > dr.scope) :
    decode h (.list e lim) dr = .error .other := by
  have hb : ¬ isBasicElem e = true := fun hb => by
    obtain ⟨b, rfl⟩ := basic_is_uint hb
    cases hf
  unfold decode
  rw [if_neg hb, if_neg hs, if_neg (ne_true_of_eq_false hf)]
  exact readOffset_bind_error fun dr' => ite_eq_error fun hm => if_pos (ho.resolve_left hm)

theorem decode_vector_length {e : Ty} {k : Nat} (hf : e.isFixed = true)
    (hlen : k * e.fixedSize ≠ dr.scope) : decode h (.vector e k) dr = .error .other := by
  unfold decode
  by_cases hb : isBasicElem e = true
  · rw [if_pos hb]; exact if_pos hlen
  · rw [if_neg hb, if_pos hf]; exact if_pos hlen

theorem decode_list_over_limit {e : Ty} {lim : Nat} (hf : e.isFixed = true)
    (hlen : dr.scope / e.fixedSize > lim) : decode h (.list e lim) dr = .error .other := by
  unfold decode
  by_cases hb : isBasicElem e = true
  · rw [if_pos hb]; exact if_pos hlen
  · by_cases hs : dr.scope = 0
    · rw [hs, Nat.zero_div] at hlen; cases hlen
    · by_cases h0 : e.fixedSize = 0
      · rw [h0, Nat.div_zero] at hlen; cases hlen
      · rw [if_neg hb, if_neg hs, if_pos hf, if_neg h0]; exact if_pos hlen

end ZtypV.DecodeProofs
