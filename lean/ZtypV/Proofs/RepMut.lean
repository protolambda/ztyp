/-
C04 "typed mutations behave like a plain value model", the single-step core:
every typed MUTATOR of the view model (`Set`, `Append`, `Pop`, `Change`, the parent-side hook
write `hookSet`) and the typed getter preserve the representation relation `Rep` and agree
with the plain value operation of Model/Sim.lean (`valSet`, `valAppend`, `valPop`, `valChange`,
`valElem`), error cases included (an error is never a panic, and the value is unchanged
because the value-level operation returns `none`).  `Length()` of a list backing is the length of
the value (`rep_listLength`).

For every hash function `h`, under the one-level depth side condition `DepthOk t`
(Proofs/RepMutBase.lean; implied by `View.inRange t`), `hasType t v` and `Rep h t v n`; `t.wf`
is needed for packed uint series and unions only.  Each theorem is a case analysis on the type
and the value over the per-kind lemmas (element nodes; uint series and bitfields).
-/
import ZtypV.Proofs.RepMutPacked
namespace ZtypV
open ZtypV.View ZtypV.Sim
open ZtypV.RepMut

/-! ### the parent-side write-back -/

/-- `hookSet h pt pn slot b` (what `SetBacking` propagation calls on the parent): for parents
    with element-node slots it is `valSet` on the value level -/
theorem hookSet_rep (h : HashFn) (pt : Ty) (v : Val) (pn : Node) (i : Nat) (x : Val) (b : Node)
    (_hw : pt.wf = true) (hd : DepthOk pt) (ht : hasType pt v = true) (hr : Rep h pt v pn)
    (hc : packedSlot pt = false)
    (hx : hasType (slotTy pt i) x = true) (hb : Rep h (slotTy pt i) x b) :
    match valSet pt v i x with
    | some v' => ∃ n', hookSet h pt pn i b = .ok n' ∧ Rep h pt v' n' ∧ hasType pt v' = true
    | none => ∃ e, hookSet h pt pn i b = .error e ∧ e ≠ .panic := by
  show MutSpec h pt (valSet pt v i x) (hookSet h pt pn i b)
  cases pt with
  | uint _ | bool | bytesN _ | union _ _ => cases v <;> exact mutSpec_err h _
  | bitvector _ | bitlist _ => cases hc
  | vector e k =>
    cases v <;> try cases ht
    exact hookSet_vector h e k _ pn i x b hd hc ht hr hx hb
  | list e lim =>
    cases v <;> try cases ht
    exact hookSet_list h e lim _ pn i x b hd hc ht hr hx hb
  | container fs =>
    cases v <;> try cases ht
    exact hookSet_container h fs _ pn i x b hd ht hr hx hb

/-! ### `Set` -/

/-- `Set(i, x)` on every view kind: packed uint element rewritten inside its chunk, element
    node for complex series and containers, bit rewritten inside its chunk for bitfields.
    `en` is the backing of the new element (used only when the slots hold nodes). -/
theorem set_rep (h : HashFn) (t : Ty) (v : Val) (n : Node) (i : Nat) (x : Val) (en : Node)
    (hw : t.wf = true) (hd : DepthOk t) (ht : hasType t v = true) (hr : Rep h t v n)
    (hx : hasType (slotTy t i) x = true)
    (hen : packedSlot t = false → Rep h (slotTy t i) x en) :
    match valSet t v i x with
    | some v' => ∃ n', Mut.set h t n i x en = .ok n' ∧ Rep h t v' n' ∧ hasType t v' = true
    | none => ∃ e, Mut.set h t n i x en = .error e ∧ e ≠ .panic := by
  by_cases hc : packedSlot t = false
  · rw [set_eq_hookSet h t n i x en hc]
    exact hookSet_rep h t v n i x en hw hd ht hr hc hx (hen hc)
  · show MutSpec h t (valSet t v i x) (Mut.set h t n i x en)
    cases t with
    | uint _ | bool | bytesN _ | union _ _ | container _ => exact absurd rfl hc
    | bitvector k =>
      cases v <;> try cases ht
      exact set_bitvector h k _ n i x en hd hr hx
    | bitlist lim =>
      cases v <;> try cases ht
      exact set_bitlist h lim _ n i x en hd hr hx
    | vector e k =>
      cases v <;> try cases ht
      cases e <;> try (exact absurd rfl hc)
      exact set_vector_basic h _ k _ n i x en hw hd ht hr hx
    | list e lim =>
      cases v <;> try cases ht
      cases e <;> try (exact absurd rfl hc)
      exact set_list_basic h _ lim _ n i x en hw hd ht hr hx

/-! ### `Get` -/

/-- the typed getter returns a backing of the element the value model reads (for packed
    elements and bits: a fresh leaf holding the value), which can be opened as a view -/
theorem getElem_rep (h : HashFn) (t : Ty) (v : Val) (n : Node) (i : Nat)
    (hw : t.wf = true) (hd : DepthOk t) (ht : hasType t v = true) (hr : Rep h t v n) :
    match valElem t v i with
    | some (et, x) => ∃ en, getElemNode t n i = .ok (et, en) ∧ Rep h et x en ∧
        viewFromBackingOk et en = true ∧ hasType et x = true
    | none => ∃ e, getElemNode t n i = .error e ∧ e ≠ .panic := by
  show GetSpec h (valElem t v i) (getElemNode t n i)
  cases t with
  | uint _ | bool | bytesN _ | union _ _ => cases v <;> exact getSpec_err h
  | bitvector k =>
    cases v <;> try cases ht
    exact getElem_bitvector h k _ n i hd hr
  | bitlist lim =>
    cases v <;> try cases ht
    exact getElem_bitlist h lim _ n i hd hr
  | container fs =>
    cases v <;> try cases ht
    exact getElem_container h fs _ n i hd ht hr
  | vector e k =>
    cases v <;> try cases ht
    cases hbe : isBasicElem e
    · exact getElem_vector_complex h e k _ n i hd hbe ht hr
    · cases e <;> try (simp [isBasicElem] at hbe; done)
      exact getElem_vector_basic h _ k _ n i hw hd ht hr
  | list e lim =>
    cases v <;> try cases ht
    cases hbe : isBasicElem e
    · exact getElem_list_complex h e lim _ n i hd hbe ht hr
    · cases e <;> try (simp [isBasicElem] at hbe; done)
      exact getElem_list_basic h _ lim _ n i hw hd ht hr

/-! ### `Length` -/

theorem rep_listLength (h : HashFn) {e : Ty} {lim : Nat} {vs : List Val} {n : Node}
    (hd : DepthOk (.list e lim)) (hr : Rep h (.list e lim) (.seq vs) n) :
    listLength n lim = .ok vs.length := by
  cases hbe : isBasicElem e with
  | false => exact (rep_list_complex_inv h hd hbe hr).2.2.1
  | true =>
    cases e with
    | uint b => exact (rep_list_basic_inv h hd hr).2.2.1
    | _ => cases hbe

/-! ### `Append` / `Pop` -/

/-- `Append(x)` on lists and bitlists: into a partially filled chunk, into a fresh chunk, with
    expansion of summarised zero padding; over the limit it is an error -/
theorem append_rep (h : HashFn) (t : Ty) (v : Val) (n : Node) (x : Val) (en : Node)
    (hw : t.wf = true) (hd : DepthOk t) (ht : hasType t v = true) (hr : Rep h t v n)
    (hx : hasType (slotTy t 0) x = true)
    (hen : packedSlot t = false → Rep h (slotTy t 0) x en) :
    match valAppend t v x with
    | some v' => ∃ n', Mut.append h t n x en = .ok n' ∧ Rep h t v' n' ∧ hasType t v' = true
    | none => ∃ e, Mut.append h t n x en = .error e ∧ e ≠ .panic := by
  show MutSpec h t (valAppend t v x) (Mut.append h t n x en)
  cases t with
  | uint _ | bool | bytesN _ | union _ _ | bitvector _ | vector _ _ | container _ =>
    cases v <;> exact mutSpec_err h _
  | bitlist lim =>
    cases v <;> try cases ht
    exact append_bitlist h lim _ n x en hd hr hx
  | list e lim =>
    cases v <;> try cases ht
    cases hbe : isBasicElem e
    · exact append_list_complex h e lim _ n x en hd hbe ht hr hx (hen hbe)
    · cases e <;> try (simp [isBasicElem] at hbe; done)
      exact append_list_basic h _ lim _ n x en hw hd ht hr hx

/-- `Pop()` on lists and bitlists: the last element is cleared inside its chunk (the bottom
    node becomes padding again when that empties the chunk), complex lists write the zero
    leaf; popping an empty list is an error -/
theorem pop_rep (h : HashFn) (t : Ty) (v : Val) (n : Node)
    (hw : t.wf = true) (hd : DepthOk t) (ht : hasType t v = true) (hr : Rep h t v n) :
    match valPop t v with
    | some v' => ∃ n', Mut.pop h t n = .ok n' ∧ Rep h t v' n' ∧ hasType t v' = true
    | none => ∃ e, Mut.pop h t n = .error e ∧ e ≠ .panic := by
  show MutSpec h t (valPop t v) (Mut.pop h t n)
  cases t with
  | uint _ | bool | bytesN _ | union _ _ | bitvector _ | vector _ _ | container _ =>
    cases v <;> exact mutSpec_err h _
  | bitlist lim =>
    cases v <;> try cases ht
    exact pop_bitlist h lim _ n hd hr
  | list e lim =>
    cases v <;> try cases ht
    cases hbe : isBasicElem e
    · exact pop_list_complex h e lim _ n hd hbe ht hr
    · cases e <;> try (simp [isBasicElem] at hbe; done)
      exact pop_list_basic h _ lim _ n hw hd ht hr

/-! ### `Change` -/

/-- `UnionView.Change(sel, value)` against `valChange`: the selector range check and "a nil
    value only for selector 0" are errors on both sides; otherwise the new backing represents
    `.union sel x`.  The selector is a `uint8` in Go (`hsel`).  `content` is the backing of the
    new value (`none` for a nil value).  `hfitA` / `hfitB` say that the caller passes a nil
    value exactly where the selected option is the None option — Go's `Change` does NOT check
    this (see `RepMut.change_none_slot_accepts_value`, `RepMut.change_typed_slot_accepts_nil`). -/
theorem change_rep (h : HashFn) (hasNone : Bool) (opts : List Ty) (sel : Nat) (x : Val)
    (content : Option Node)
    (hw : (Ty.union hasNone opts).wf = true) (hsel : sel < 256)
    (hnil : x = .none → content = none)
    (hval : x ≠ .none → ∃ c, content = some c ∧
      ∀ ot, unionOpt hasNone opts sel = some ot → hasType ot x = true ∧ Rep h ot x c)
    (hfitA : x = .none → sel = 0 → hasNone = true)
    (hfitB : x ≠ .none → ¬ (hasNone = true ∧ sel = 0)) :
    match valChange (.union hasNone opts) sel x with
    | some v' => ∃ n', Mut.change (.union hasNone opts) sel content = .ok n' ∧
        Rep h (.union hasNone opts) v' n' ∧ hasType (.union hasNone opts) v' = true
    | none => ∃ e, Mut.change (.union hasNone opts) sel content = .error e ∧ e ≠ .panic := by
  show MutSpec h (.union hasNone opts) (valChange (.union hasNone opts) sel x)
    (Mut.change (.union hasNone opts) sel content)
  by_cases hxn : x = .none
  · rw [hnil hxn, hxn]
    exact change_union_nil h hasNone opts sel hw hsel (hfitA hxn)
  · obtain ⟨c, hc, hrep⟩ := hval hxn
    rw [hc]
    exact change_union_some h hasNone opts sel x c hw hsel hxn hrep (hfitB hxn)

/-- `Change` on anything but a union is an error on both sides -/
theorem change_rep_other (t : Ty) (sel : Nat) (x : Val) (content : Option Node)
    (hnu : ∀ hn o, t ≠ .union hn o) :
    valChange t sel x = none ∧ Mut.change t sel content = .error .other := by
  cases t <;> first | exact ⟨rfl, rfl⟩ | exact absurd rfl (hnu _ _)

/-! ### non-vacuity: the hypotheses are satisfiable on concrete inputs -/

/-- `List[uint64, 4]` holding `[7]`: one packed chunk below the length mix-in -/
private def exT1 : Ty := .list (.uint 8) 4
private def exV1 : Val := .seq [.num 7]
private def exN1 : Node := .pair (.leaf (chunkOf (leBytes 8 7))) (lengthNode 1)

private theorem exT1_depth : DepthOk exT1 := by
  simp only [exT1, DepthOk, seriesDepth, isBasicElem, if_true, Ty.fixedSize, bottomNodes, perNode]
  decide

private theorem exRep1 (h : HashFn) : Rep h exT1 exV1 exN1 := by
  simp only [exT1, exV1, exN1, Rep, isBasicElem, if_true]
  refine ⟨by decide, _, rfl, ?_⟩
  have h0 : seriesDepth (.uint 8) 4 = 0 := by decide
  have h1 : packedNodes (serList (Ty.uint 8) [Val.num 7]).flatten
      = [.leaf (chunkOf (leBytes 8 7))] := by decide
  rw [h0, h1]
  simp only [SeqShape]

/-- `Container{bool, bool}` holding `(true, false)` -/
private def exT2 : Ty := .container [.bool, .bool]
private def exV2 : Val := .seq [.bool true, .bool false]
private def exN2 : Node := .pair (.leaf (chunkOf [1])) (.leaf (chunkOf [0]))

private theorem exRep2 (h : HashFn) : Rep h exT2 exV2 exN2 := by
  simp only [exT2, exV2, exN2, Rep]
  refine ⟨[.leaf (chunkOf [1]), .leaf (chunkOf [0])], ?_, ?_⟩
  · simp [RepFields, Rep]
  · have h1 : coverDepth [Ty.bool, Ty.bool].length = 1 := by decide
    rw [h1]
    simp [SeqShape]

-- `Set(0, 9)` / `Append(9)` / `Pop()` / `Get(0)` on the packed list
example (h : HashFn) := set_rep h exT1 exV1 exN1 0 (.num 9) (.leaf z0) (by decide) exT1_depth
  (by decide) (exRep1 h) (by decide) (fun hc => absurd hc (by decide))
example (h : HashFn) := append_rep h exT1 exV1 exN1 (.num 9) (.leaf z0) (by decide) exT1_depth
  (by decide) (exRep1 h) (by decide) (fun hc => absurd hc (by decide))
example (h : HashFn) := pop_rep h exT1 exV1 exN1 (by decide) exT1_depth (by decide) (exRep1 h)
example (h : HashFn) := getElem_rep h exT1 exV1 exN1 0 (by decide) exT1_depth (by decide) (exRep1 h)
example : valSet exT1 exV1 0 (.num 9) = some (.seq [.num 9]) := rfl
example : valAppend exT1 exV1 (.num 9) = some (.seq [.num 7, .num 9]) := rfl
example : valPop exT1 exV1 = some (.seq []) := rfl

-- `Set(1, true)` and the hook write-back into slot 1 of the container, `Get(1)`
example (h : HashFn) := set_rep h exT2 exV2 exN2 1 (.bool true) (.leaf (chunkOf [1])) (by decide)
  (by simp only [exT2, DepthOk]; decide) (by decide) (exRep2 h) (by decide)
  (fun _ => by simp only [exT2, slotTy]; exact rep_bool_leaf h true)
example (h : HashFn) := hookSet_rep h exT2 exV2 exN2 1 (.bool true) (.leaf (chunkOf [1])) (by decide)
  (by simp only [exT2, DepthOk]; decide) (by decide) (exRep2 h) (by decide) (by decide)
  (by simp only [exT2, slotTy]; exact rep_bool_leaf h true)
example (h : HashFn) := getElem_rep h exT2 exV2 exN2 1 (by decide)
  (by simp only [exT2, DepthOk]; decide) (by decide) (exRep2 h)

-- `Change(1, uint8 5)` and `Change(0, nil)` on `Union[None, uint8]`
example (h : HashFn) := change_rep h true [.uint 1] 1 (.num 5) (some (.leaf (chunkOf (leBytes 1 5))))
  (by decide) (by decide) (fun hx => by cases hx)
  (fun _ => ⟨_, rfl, fun ot hot => by
    have : ot = .uint 1 := by simpa [unionOpt] using hot.symm
    subst this
    exact ⟨by decide, rep_uint_leaf h 1 5⟩⟩)
  (fun hx => by cases hx) (fun _ hh => by simp at hh)
example (h : HashFn) := change_rep h true [.uint 1] 0 .none none
  (by decide) (by decide) (fun _ => rfl) (fun hx => absurd rfl hx) (fun _ _ => rfl)
  (fun hx => absurd rfl hx)

end ZtypV

#print axioms ZtypV.hookSet_rep
#print axioms ZtypV.set_rep
#print axioms ZtypV.getElem_rep
#print axioms ZtypV.append_rep
#print axioms ZtypV.pop_rep
#print axioms ZtypV.change_rep
