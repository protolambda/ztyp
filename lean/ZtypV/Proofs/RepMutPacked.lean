/-
C04, packed slots (uint series, bitfields): `Set`, `Get`, `Append`, `Pop` preserve `Rep` and
agree with the value-level operations.  Tree navigation comes from Proofs/Shape.lean, the
sub-chunk rewriting from Proofs/RepMutBytes.lean (`PackedWrite`); the `Append` / `Pop` procedures
are treated once for both packings (`tp_list_append`, `tp_list_pop`).
-/
import ZtypV.Proofs.RepMutBytes
import ZtypV.Proofs.RepMutComplex
namespace ZtypV
open ZtypV.View ZtypV.Sim
namespace RepMut

/-! ### the tree procedures shared by uint series and bitfields (`tp_…`) -/

theorem packed_get (h : HashFn) {d : Nat} {n : Node} {X : Bytes} {j : Nat}
    (hs : SeqShape h d n (packedNodes X)) (hd : d < 64) (hj : j < chunkCount X) :
    subtreeGet n d j = .ok (.leaf (chunkAt X j)) := by
  have hj' : j < (packedNodes X).length := by rw [packedNodes_chunkCount]; exact hj
  rw [shape_get h hs hj' hd, packedNodes_get]

theorem packed_list_get (h : HashFn) {d : Nat} {n : Node} {X : Bytes} {len j : Nat}
    (hs : ListShape h d n (packedNodes X) len) (hd : d + 1 < 64) (hj : j < chunkCount X) :
    subtreeGet n (d + 1) j = .ok (.leaf (chunkAt X j)) := by
  have hj' : j < (packedNodes X).length := by rw [packedNodes_chunkCount]; exact hj
  rw [listShape_get h hs hj' hd, packedNodes_get]

/-- `Set` of element `i` of a packed series: read its chunk, write the new chunk (vector-like
    view, no expansion) -/
theorem tp_seq_set (h : HashFn) {per d : Nat} {n : Node} {X X' : Bytes} {N i : Nat} {c' : Root}
    (hper : 0 < per) (hw : PackedWrite per X X' N N i c') (hi : i < N)
    (hs : SeqShape h d n (packedNodes X)) (hd : d < 64) :
    ∃ n1, subtreeGet n d (i / per) = .ok (.leaf (chunkAt X (i / per))) ∧
      subtreeSet h n d (i / per) (.leaf c') = .ok n1 ∧ SeqShape h d n1 (packedNodes X') := by
  have hj : i / per < chunkCount X := hw.count ▸ div_lt_ceilDiv hper hi
  obtain ⟨n1, hset, hs1⟩ :=
    seqShape_subtreeSet h hs (by rw [packedNodes_chunkCount]; exact hj) hd (.leaf c')
  exact ⟨n1, packed_get h hs hd hj, hset, hw.same rfl ▸ hs1⟩

/-- `tp_seq_set` for a list view: the contents are one level below the view root -/
theorem tp_list_set (h : HashFn) {per d : Nat} {n : Node} {X X' : Bytes} {N i len : Nat} {c' : Root}
    (hper : 0 < per) (hw : PackedWrite per X X' N N i c') (hi : i < N)
    (hs : ListShape h d n (packedNodes X) len) (hd : d + 1 < 64) :
    ∃ n1, subtreeGet n (d + 1) (i / per) = .ok (.leaf (chunkAt X (i / per))) ∧
      subtreeSet h n (d + 1) (i / per) (.leaf c') = .ok n1 ∧
      ListShape h d n1 (packedNodes X') len := by
  have hj : i / per < chunkCount X := hw.count ▸ div_lt_ceilDiv hper hi
  obtain ⟨n1, hset, hs1⟩ :=
    listShape_subtreeSet h hs (by rw [packedNodes_chunkCount]; exact hj) hd (.leaf c')
  exact ⟨n1, packed_list_get h hs hd hj, hset, hw.same rfl ▸ hs1⟩

/-- `Append` into / `Pop` out of an existing chunk: probe write, read, write, new length -/
theorem tp_list_write (h : HashFn) {d : Nat} {n : Node} {X : Bytes} {len j : Nat} (c' : Root)
    (len' : Nat) (hs : ListShape h d n (packedNodes X) len) (hd : d + 1 < 64)
    (hj : j < chunkCount X) :
    ∃ p w n1 n2, toPath j (d + 1) = .ok p ∧ setNode h n p true (.leaf z0) = .ok w ∧
      subtreeGet n (d + 1) j = .ok (.leaf (chunkAt X j)) ∧
      setNode h n p true (.leaf c') = .ok n1 ∧ setLength h n1 len' = .ok n2 ∧
      ListShape h d n2 ((packedNodes X).set j (.leaf c')) len' := by
  have hj' : j < (packedNodes X).length := by rw [packedNodes_chunkCount]; exact hj
  obtain ⟨p0, w, hp0, hset0, _⟩ := listShape_set h hs hj' hd (.leaf z0) true
  obtain ⟨p, n1, hp, hset, hs1⟩ := listShape_set h hs hj' hd (.leaf c') true
  obtain ⟨n2, hsl, hs2⟩ := listShape_setLength h hs1 len'
  cases hp0.symm.trans hp
  exact ⟨p0, w, n1, n2, hp0, hset0, packed_list_get h hs hd hj, hset, hsl, hs2⟩

/-- `Append` opening a fresh chunk (expanding zero padding) -/
theorem tp_list_grow (h : HashFn) {d : Nat} {n : Node} {X : Bytes} {len : Nat} (c' : Root)
    (len' : Nat) (hs : ListShape h d n (packedNodes X) len) (hd : d + 1 < 64)
    (hcap : chunkCount X < 2 ^ d) :
    ∃ p w n1 n2, toPath (chunkCount X) (d + 1) = .ok p ∧ setNode h n p true (.leaf z0) = .ok w ∧
      setNode h n p true (.leaf c') = .ok n1 ∧ setLength h n1 len' = .ok n2 ∧
      ListShape h d n2 (packedNodes X ++ [.leaf c']) len' := by
  have hcap' : (packedNodes X).length < 2 ^ d := by rw [packedNodes_chunkCount]; exact hcap
  obtain ⟨p0, w, hp0, hset0, _⟩ := listShape_append h hs hcap' hd (.leaf z0)
  obtain ⟨p, n1, hp, hset, hs1⟩ := listShape_append h hs hcap' hd (.leaf c')
  obtain ⟨n2, hsl, hs2⟩ := listShape_setLength h hs1 len'
  cases hp0.symm.trans hp
  rw [packedNodes_chunkCount] at hp0
  exact ⟨p0, w, n1, n2, hp0, hset0, hset, hsl, hs2⟩

/-- `Append` of element `N` of a packed list: probe write, read of the chunk unless it is fresh,
    write, new length.  `F` is the sub-chunk rewrite (`basicIntoChunk` / `bitIntoChunk`), `k` the
    rest of the procedure: the third conjunct has the shape of the `do` block of `Mut.append`,
    so that it rewrites there. -/
theorem tp_list_append (h : HashFn) {per d : Nat} {n : Node} {X X' : Bytes} {N : Nat} {c' : Root}
    (hper : 0 < per) (hw : PackedWrite per X X' N (N + 1) N c')
    (hs : ListShape h d n (packedNodes X) N) (hd : d + 1 < 64) (hcap : N / per < 2 ^ d) :
    ∃ p w n1 n2, toPath (N / per) (d + 1) = .ok p ∧ setNode h n p true (.leaf z0) = .ok w ∧
      (∀ (F : Root → Nat → Root) (k : Root → R Node),
        (if N % per = 0 then (pure (F z0 0) : R Root) >>= k else (do
          let c ← subtreeGet n (d + 1) (N / per)
          let r ← asLeaf c
          pure (F r (N % per))) >>= k) = k (F (chunkAt X (N / per)) (N % per))) ∧
      setNode h n p true (.leaf c') = .ok n1 ∧ setLength h n1 (N + 1) = .ok n2 ∧
      ListShape h d n2 (packedNodes X') (N + 1) := by
  have hc := hw.count
  have hc' := hw.count'
  rw [ceilDiv_succ hper] at hc'
  rw [ceilDiv_eq hper] at hc
  by_cases h0 : N % per = 0
  · -- a fresh chunk
    rw [if_pos h0] at hc
    have hz : chunkAt X (N / per) = z0 := chunkAt_of_chunkCount_le (Nat.le_of_eq hc)
    obtain ⟨p, w, n1, n2, hp, hset0, hset, hsl, hs2⟩ :=
      tp_list_grow h c' (N + 1) hs hd (by rw [hc]; exact hcap)
    rw [hc] at hp
    refine ⟨p, w, n1, n2, hp, hset0, fun F k => by rw [if_pos h0, hz, h0]; rfl, hset, hsl, ?_⟩
    rw [packedNodes_snoc_eq X X' (by rw [hc', hc]) (fun k hk => hw.miss k (by omega)), hc, hw.hit]
    exact hs2
  · -- inside the last chunk
    rw [if_neg h0] at hc
    obtain ⟨p, w, n1, n2, hp, hset0, hget, hset, hsl, hs2⟩ :=
      tp_list_write h c' (N + 1) hs hd (by rw [hc]; omega : N / per < chunkCount X)
    refine ⟨p, w, n1, n2, hp, hset0, fun F k => by rw [if_neg h0, hget]; rfl, hset, hsl, ?_⟩
    rw [← hw.same (by rw [ceilDiv_succ hper, ceilDiv_eq hper, if_neg h0])]
    exact hs2

/-- `Pop` of the last element, `N - 1`, of a packed list: the element is cleared inside its
    chunk; when that empties the chunk its position is padding again -/
theorem tp_list_pop (h : HashFn) {per d : Nat} {n : Node} {X X' : Bytes} {N : Nat} {c' : Root}
    (hper : 0 < per) (hN : 0 < N) (hw : PackedWrite per X X' N (N - 1) (N - 1) c')
    (hs : ListShape h d n (packedNodes X) N) (hd : d + 1 < 64) :
    ∃ p w n1 n2, toPath ((N - 1) / per) (d + 1) = .ok p ∧ setNode h n p true (.leaf z0) = .ok w ∧
      subtreeGet n (d + 1) ((N - 1) / per) = .ok (.leaf (chunkAt X ((N - 1) / per))) ∧
      setNode h n p true (.leaf c') = .ok n1 ∧ setLength h n1 (N - 1) = .ok n2 ∧
      ListShape h d n2 (packedNodes X') (N - 1) := by
  obtain ⟨M, rfl⟩ : ∃ M, N = M + 1 := ⟨N - 1, by omega⟩
  simp only [Nat.add_sub_cancel] at hw ⊢
  have hc := hw.count
  have hc' := hw.count'
  rw [ceilDiv_succ hper] at hc
  rw [ceilDiv_eq hper] at hc'
  obtain ⟨p, w, n1, n2, hp, hset0, hget, hset, hsl, hs2⟩ :=
    tp_list_write h c' M hs hd (by omega : M / per < chunkCount X)
  refine ⟨p, w, n1, n2, hp, hset0, hget, hset, hsl, ?_⟩
  by_cases h0 : M % per = 0
  · rw [if_pos h0] at hc'
    have hz : c' = z0 := hw.hit.symm.trans (chunkAt_of_chunkCount_le (Nat.le_of_eq hc'))
    rw [hz, ← hc', packedNodes_shrink_eq X X' (by omega) (fun k hk => hw.miss k (by omega))] at hs2
    exact listShape_dropLast_zero h hs2
  · rw [hw.same (by rw [ceilDiv_succ hper, ceilDiv_eq hper, if_neg h0])] at hs2
    exact hs2

/-! ### packed uint elements -/

theorem rep_vector_basic_iff (h : HashFn) (b k : Nat) (vs : List Val) (n : Node) :
    Rep h (.vector (.uint b) k) (.seq vs) n ↔
      vs.length = k ∧ SeqShape h (seriesDepth (.uint b) k) n (packedNodes (flat b vs)) := by
  simp only [Rep, isBasicElem, if_true, flat]

theorem rep_list_basic_iff (h : HashFn) (b lim : Nat) (vs : List Val) (n : Node) :
    Rep h (.list (.uint b) lim) (.seq vs) n ↔
      vs.length ≤ lim ∧
        ListShape h (seriesDepth (.uint b) lim) n (packedNodes (flat b vs)) vs.length := by
  simp only [Rep, isBasicElem, if_true, flat]

/-! ### `Set` on uint series -/

/-- the chunk rewrite of `Set(i, m)` inside the flattened bytes -/
theorem basic_set_write {b : Nat} (hw : (Ty.uint b).wf = true) (vs : List Val)
    (i m : Nat) (hi : i < vs.length) (hall : allHaveType (.uint b) vs = true)
    (hx : hasType (.uint b) (.num m) = true) :
    PackedWrite (perNode b) (flat b vs) (flat b (vs.set i (.num m))) vs.length vs.length i
      (basicIntoChunk b (chunkAt (flat b vs) (i / perNode b)) (i % perNode b) m) := by
  exact packedWrite_uint (uint_per hw) (flat_set b vs i m hi hall) (flat_length b vs hall)
    (by rw [flat_length b _ (allHaveType_set _ _ hx vs i hall), List.length_set])

theorem set_vector_basic (h : HashFn) (b k : Nat) (vs : List Val) (n : Node) (i : Nat)
    (x : Val) (en : Node)
    (hw : (Ty.vector (.uint b) k).wf = true) (hd : DepthOk (.vector (.uint b) k))
    (ht : hasType (.vector (.uint b) k) (.seq vs) = true)
    (hr : Rep h (.vector (.uint b) k) (.seq vs) n) (hx : hasType (.uint b) x = true) :
    MutSpec h (.vector (.uint b) k) (valSet (.vector (.uint b) k) (.seq vs) i x)
      (Mut.set h (.vector (.uint b) k) n i x en) := by
  obtain ⟨m, rfl, _⟩ := hasType_uint_elim hx
  have hb : (Ty.uint b).wf = true := by simp only [Ty.wf, Bool.and_eq_true] at hw; exact hw.2
  have hall := hasType_vector_all ht
  obtain ⟨hlen, hs⟩ := (rep_vector_basic_iff h b k vs n).mp hr
  simp only [DepthOk] at hd
  unfold valSet Mut.set
  simp only [isBasicElem, if_true, Ty.fixedSize, viewDepth, numOf]
  by_cases hi : i < vs.length
  · rw [if_pos hi, if_neg (by omega)]
    obtain ⟨n1, hget, hset, hs1⟩ :=
      tp_seq_set h (per_pos (uint_per hb)).2 (basic_set_write hb vs i m hi hall hx) hi hs hd
    refine ⟨n1, by simp only [hget, R.bind_ok, asLeaf_leaf, hset], ?_,
      valSet_hasType _ _ i _ _ ht hx (if_pos hi)⟩
    rw [rep_vector_basic_iff, List.length_set]
    exact ⟨hlen, hs1⟩
  · rw [if_neg hi, if_pos (by omega)]
    exact mutSpec_err h _

theorem rep_list_basic_inv (h : HashFn) {b lim : Nat} {vs : List Val} {n : Node}
    (hd : DepthOk (.list (.uint b) lim)) (hr : Rep h (.list (.uint b) lim) (.seq vs) n) :
    vs.length ≤ lim ∧ seriesDepth (.uint b) lim + 1 < 64 ∧ listLength n lim = .ok vs.length ∧
      ListShape h (seriesDepth (.uint b) lim) n (packedNodes (flat b vs)) vs.length := by
  obtain ⟨hlen, hs⟩ := (rep_list_basic_iff h b lim vs n).mp hr
  simp only [DepthOk] at hd
  exact ⟨hlen, hd.2, listShape_length h hs hlen (by omega), hs⟩

theorem set_list_basic (h : HashFn) (b lim : Nat) (vs : List Val) (n : Node) (i : Nat)
    (x : Val) (en : Node)
    (hw : (Ty.list (.uint b) lim).wf = true) (hd : DepthOk (.list (.uint b) lim))
    (ht : hasType (.list (.uint b) lim) (.seq vs) = true)
    (hr : Rep h (.list (.uint b) lim) (.seq vs) n) (hx : hasType (.uint b) x = true) :
    MutSpec h (.list (.uint b) lim) (valSet (.list (.uint b) lim) (.seq vs) i x)
      (Mut.set h (.list (.uint b) lim) n i x en) := by
  obtain ⟨m, rfl, _⟩ := hasType_uint_elim hx
  have hb : (Ty.uint b).wf = true := by simp only [Ty.wf] at hw; exact hw
  have hall := hasType_list_all ht
  obtain ⟨hlen, hdd, hll, hs⟩ := rep_list_basic_inv h hd hr
  unfold valSet Mut.set
  simp only [isBasicElem, if_true, Ty.fixedSize, viewDepth, numOf, hll, R.bind_ok]
  by_cases hi : i < vs.length
  · rw [if_pos hi, if_neg (by omega), if_neg (by omega)]
    obtain ⟨n1, hget, hset, hs1⟩ :=
      tp_list_set h (per_pos (uint_per hb)).2 (basic_set_write hb vs i m hi hall hx) hi hs hdd
    refine ⟨n1, by simp only [hget, R.bind_ok, asLeaf_leaf, hset], ?_,
      valSet_hasType _ _ i _ _ ht hx (if_pos hi)⟩
    rw [rep_list_basic_iff, List.length_set]
    exact ⟨hlen, hs1⟩
  · rw [if_neg hi, if_pos (by omega)]
    exact mutSpec_err h _

/-! ### `Get` on uint series -/

theorem basic_get_facts {b : Nat} (hw : (Ty.uint b).wf = true) (vs : List Val)
    (i : Nat) (hi : i < vs.length) (hall : allHaveType (.uint b) vs = true) :
    i / perNode b < chunkCount (flat b vs) ∧
      ∃ m, vs[i] = .num m ∧ m < 256 ^ b ∧
        basicFromChunk b (chunkAt (flat b vs) (i / perNode b)) (i % perNode b) = .ok (.num m) := by
  obtain ⟨h1, h2⟩ := basic_read b vs i hi (uint_per hw) hall
  obtain ⟨m, hm, hlt⟩ := hasType_uint_elim (allHaveType_getElem _ vs hall i hi)
  refine ⟨h1, m, hm, hlt, ?_⟩
  rw [← hm]; exact h2

theorem rep_uint_leaf (h : HashFn) (b m : Nat) :
    Rep h (.uint b) (.num m) (.leaf (chunkOf (leBytes b m))) := by
  simp only [Rep]

theorem getElem_vector_basic (h : HashFn) (b k : Nat) (vs : List Val) (n : Node) (i : Nat)
    (hw : (Ty.vector (.uint b) k).wf = true) (hd : DepthOk (.vector (.uint b) k))
    (ht : hasType (.vector (.uint b) k) (.seq vs) = true)
    (hr : Rep h (.vector (.uint b) k) (.seq vs) n) :
    GetSpec h (valElem (.vector (.uint b) k) (.seq vs) i) (getElemNode (.vector (.uint b) k) n i) := by
  have hb : (Ty.uint b).wf = true := by simp only [Ty.wf, Bool.and_eq_true] at hw; exact hw.2
  obtain ⟨hlen, hs⟩ := (rep_vector_basic_iff h b k vs n).mp hr
  simp only [DepthOk] at hd
  unfold valElem getElemNode
  simp only [isBasicElem, if_true, Ty.fixedSize, viewDepth]
  by_cases hi : i < vs.length
  · rw [List.getElem?_eq_getElem hi, if_neg (by omega)]
    obtain ⟨hj, m, hvm, hm, hread⟩ := basic_get_facts hb vs i hi (hasType_vector_all ht)
    simp only [packed_get h hs hd hj, R.bind_ok, asLeaf_leaf, hread, numOf, Option.map_some, hvm]
    exact ⟨_, rfl, rep_uint_leaf h b m, rfl, by simp [hasType, hm]⟩
  · rw [List.getElem?_eq_none (by omega), if_pos (by omega)]
    exact getSpec_err h

theorem getElem_list_basic (h : HashFn) (b lim : Nat) (vs : List Val) (n : Node) (i : Nat)
    (hw : (Ty.list (.uint b) lim).wf = true) (hd : DepthOk (.list (.uint b) lim))
    (ht : hasType (.list (.uint b) lim) (.seq vs) = true)
    (hr : Rep h (.list (.uint b) lim) (.seq vs) n) :
    GetSpec h (valElem (.list (.uint b) lim) (.seq vs) i) (getElemNode (.list (.uint b) lim) n i) := by
  have hb : (Ty.uint b).wf = true := by simp only [Ty.wf] at hw; exact hw
  obtain ⟨hlen, hdd, hll, hs⟩ := rep_list_basic_inv h hd hr
  unfold valElem getElemNode
  simp only [isBasicElem, if_true, Ty.fixedSize, viewDepth, hll, R.bind_ok]
  by_cases hi : i < vs.length
  · rw [List.getElem?_eq_getElem hi, if_neg (by omega), if_neg (by omega)]
    obtain ⟨hj, m, hvm, hm, hread⟩ := basic_get_facts hb vs i hi (hasType_list_all ht)
    simp only [packed_list_get h hs hdd hj, R.bind_ok, asLeaf_leaf, hread, numOf, Option.map_some,
      hvm]
    exact ⟨_, rfl, rep_uint_leaf h b m, rfl, by simp [hasType, hm]⟩
  · rw [List.getElem?_eq_none (by omega), if_pos (by omega)]
    exact getSpec_err h

/-! ### `Append` / `Pop` on uint lists -/

theorem append_list_basic (h : HashFn) (b lim : Nat) (vs : List Val) (n : Node)
    (x : Val) (en : Node)
    (hw : (Ty.list (.uint b) lim).wf = true) (hd : DepthOk (.list (.uint b) lim))
    (ht : hasType (.list (.uint b) lim) (.seq vs) = true)
    (hr : Rep h (.list (.uint b) lim) (.seq vs) n) (hx : hasType (.uint b) x = true) :
    MutSpec h (.list (.uint b) lim) (valAppend (.list (.uint b) lim) (.seq vs) x)
      (Mut.append h (.list (.uint b) lim) n x en) := by
  obtain ⟨m, rfl, _⟩ := hasType_uint_elim hx
  have hper := uint_per (by simp only [Ty.wf] at hw; exact hw)
  have hpos := (per_pos hper).2
  have hall := hasType_list_all ht
  obtain ⟨hlen, hdd, hll, hs⟩ := rep_list_basic_inv h hd hr
  unfold valAppend Mut.append
  simp only [isBasicElem, if_true, viewDepth, numOf, hll, R.bind_ok]
  -- `rw` (unlike `simp`) also reaches the `Decidable` instance of the inner `if`
  rw [show (Ty.uint b).fixedSize = b from rfl]
  by_cases hlim : vs.length < lim
  · rw [if_pos hlim, if_neg (by omega)]
    have hall' : allHaveType (.uint b) (vs ++ [.num m]) = true := allHaveType_append _ _ hx vs hall
    have hw' := packedWrite_uint hper (flat_append b vs m hall) (flat_length b vs hall)
      (by rw [flat_length b _ hall', List.length_append])
    obtain ⟨p, w, n1, n2, hp, hset0, hbot, hset, hsl, hs2⟩ := tp_list_append h hpos hw' hs hdd
      (Nat.lt_of_lt_of_le (div_lt_ceilDiv hpos hlim) (le_two_pow_coverDepth _))
    refine ⟨n2, ?_, ?_, valAppend_hasType _ _ _ _ ht hx (if_pos hlim)⟩
    · simp only [hp, R.bind_ok, hset0, hbot fun r k => basicIntoChunk b r k m, hset, hsl]
    · rw [rep_list_basic_iff, List.length_append]
      exact ⟨hlim, hs2⟩
  · rw [if_neg hlim, if_pos (by omega)]
    exact mutSpec_err h _

theorem pop_list_basic (h : HashFn) (b lim : Nat) (vs : List Val) (n : Node)
    (hw : (Ty.list (.uint b) lim).wf = true) (hd : DepthOk (.list (.uint b) lim))
    (ht : hasType (.list (.uint b) lim) (.seq vs) = true)
    (hr : Rep h (.list (.uint b) lim) (.seq vs) n) :
    MutSpec h (.list (.uint b) lim) (valPop (.list (.uint b) lim) (.seq vs))
      (Mut.pop h (.list (.uint b) lim) n) := by
  have hper := uint_per (by simp only [Ty.wf] at hw; exact hw)
  have hpos := (per_pos hper).2
  have hall := hasType_list_all ht
  obtain ⟨hlen, hdd, hll, hs⟩ := rep_list_basic_inv h hd hr
  unfold valPop Mut.pop
  simp only [isBasicElem, if_true, Ty.fixedSize, viewDepth, hll, R.bind_ok,
    List.isEmpty_iff_length_eq_zero]
  by_cases hi : vs.length = 0
  · rw [if_pos hi, if_pos hi]
    exact mutSpec_err h _
  · rw [if_neg hi, if_neg hi]
    have hall' : allHaveType (.uint b) vs.dropLast = true := allHaveType_dropLast _ vs hall
    have hw' := packedWrite_uint hper (flat_dropLast b vs (by omega) hall)
      (flat_length b vs hall) (by rw [flat_length b _ hall', List.length_dropLast])
    obtain ⟨p, w, n1, n2, hp, hset0, hget, hset, hsl, hs2⟩ :=
      tp_list_pop h hpos (by omega) hw' hs hdd
    refine ⟨n2, ?_, ?_, valPop_hasType _ _ _ ht (if_neg (by simpa using hi))⟩
    · simp only [hp, R.bind_ok, hset0, hget, asLeaf_leaf, hset, hsl]
    · rw [rep_list_basic_iff, List.length_dropLast]
      exact ⟨by omega, hs2⟩

/-! ### bitfields -/

theorem rep_bool_leaf (h : HashFn) (b : Bool) :
    Rep h .bool (.bool b) (.leaf (chunkOf [if b then 1 else 0])) := by
  simp only [Rep]

theorem bitFromChunk_packed (bs : List Bool) (i : Nat) (hi : i < bs.length) :
    bitFromChunk (chunkAt (packBits bs) (i / 256)) i = bs[i] :=
  bit_read bs i hi

theorem set_bitvector (h : HashFn) (k : Nat) (bs : List Bool) (n : Node) (i : Nat)
    (x : Val) (en : Node) (hd : DepthOk (.bitvector k))
    (hr : Rep h (.bitvector k) (.bits bs) n) (hx : hasType .bool x = true) :
    MutSpec h (.bitvector k) (valSet (.bitvector k) (.bits bs) i x)
      (Mut.set h (.bitvector k) n i x en) := by
  obtain ⟨b, rfl⟩ := hasType_bool_elim hx
  simp only [Rep] at hr
  obtain ⟨hlen, hs⟩ := hr
  simp only [DepthOk] at hd
  unfold valSet Mut.set
  simp only [viewDepth, boolOf, bitIntoChunk_mod _ i]
  by_cases hi : i < bs.length
  · rw [if_pos hi, if_neg (by omega)]
    have hw := packedWrite_bits (bupd_set bs i b hi)
    rw [List.length_set] at hw
    obtain ⟨n1, hget, hset, hs1⟩ := tp_seq_set h (by decide) hw hi hs hd
    refine ⟨n1, by simp only [hget, R.bind_ok, asLeaf_leaf, hset], ?_, ?_⟩
    · simp only [Rep, List.length_set]
      exact ⟨hlen, hs1⟩
    · simpa [hasType] using hlen
  · rw [if_neg hi, if_pos (by omega)]
    exact mutSpec_err h _

theorem rep_bitlist_inv (h : HashFn) {lim : Nat} {bs : List Bool} {n : Node}
    (hd : DepthOk (.bitlist lim)) (hr : Rep h (.bitlist lim) (.bits bs) n) :
    bs.length ≤ lim ∧ bitDepth lim + 1 < 64 ∧ listLength n lim = .ok bs.length ∧
      ListShape h (bitDepth lim) n (packedNodes (packBits bs)) bs.length := by
  simp only [Rep] at hr
  obtain ⟨hlen, hs⟩ := hr
  simp only [DepthOk] at hd
  exact ⟨hlen, hd.2, listShape_length h hs hlen (by omega), hs⟩

theorem set_bitlist (h : HashFn) (lim : Nat) (bs : List Bool) (n : Node) (i : Nat)
    (x : Val) (en : Node) (hd : DepthOk (.bitlist lim))
    (hr : Rep h (.bitlist lim) (.bits bs) n) (hx : hasType .bool x = true) :
    MutSpec h (.bitlist lim) (valSet (.bitlist lim) (.bits bs) i x)
      (Mut.set h (.bitlist lim) n i x en) := by
  obtain ⟨b, rfl⟩ := hasType_bool_elim hx
  obtain ⟨hlen, hdd, hll, hs⟩ := rep_bitlist_inv h hd hr
  unfold valSet Mut.set
  simp only [viewDepth, boolOf, hll, R.bind_ok, bitIntoChunk_mod _ i]
  by_cases hi : i < bs.length
  · rw [if_pos hi, if_neg (by omega), if_neg (by omega)]
    have hw := packedWrite_bits (bupd_set bs i b hi)
    rw [List.length_set] at hw
    obtain ⟨n1, hget, hset, hs1⟩ := tp_list_set h (by decide) hw hi hs hdd
    refine ⟨n1, by simp only [hget, R.bind_ok, asLeaf_leaf, hset], ?_, ?_⟩
    · simp only [Rep, List.length_set]
      exact ⟨hlen, hs1⟩
    · simpa [hasType] using hlen
  · rw [if_neg hi, if_pos (by omega)]
    exact mutSpec_err h _

theorem getElem_bitvector (h : HashFn) (k : Nat) (bs : List Bool) (n : Node) (i : Nat)
    (hd : DepthOk (.bitvector k)) (hr : Rep h (.bitvector k) (.bits bs) n) :
    GetSpec h (valElem (.bitvector k) (.bits bs) i) (getElemNode (.bitvector k) n i) := by
  simp only [Rep] at hr
  obtain ⟨hlen, hs⟩ := hr
  simp only [DepthOk] at hd
  unfold valElem getElemNode
  simp only [viewDepth]
  by_cases hi : i < bs.length
  · rw [List.getElem?_eq_getElem hi, if_neg (by omega)]
    have hj : i / 256 < chunkCount (packBits bs) :=
      bits_chunkCount bs ▸ div_lt_ceilDiv (by decide) hi
    simp only [packed_get h hs hd hj, R.bind_ok, asLeaf_leaf, bitFromChunk_packed bs i hi,
      Option.map_some]
    exact ⟨_, rfl, rep_bool_leaf h _, rfl, rfl⟩
  · rw [List.getElem?_eq_none (by omega), if_pos (by omega)]
    exact getSpec_err h

theorem getElem_bitlist (h : HashFn) (lim : Nat) (bs : List Bool) (n : Node) (i : Nat)
    (hd : DepthOk (.bitlist lim)) (hr : Rep h (.bitlist lim) (.bits bs) n) :
    GetSpec h (valElem (.bitlist lim) (.bits bs) i) (getElemNode (.bitlist lim) n i) := by
  obtain ⟨hlen, hdd, hll, hs⟩ := rep_bitlist_inv h hd hr
  unfold valElem getElemNode
  simp only [viewDepth, hll, R.bind_ok]
  by_cases hi : i < bs.length
  · rw [List.getElem?_eq_getElem hi, if_neg (by omega), if_neg (by omega)]
    have hj : i / 256 < chunkCount (packBits bs) :=
      bits_chunkCount bs ▸ div_lt_ceilDiv (by decide) hi
    simp only [packed_list_get h hs hdd hj, R.bind_ok, asLeaf_leaf, bitFromChunk_packed bs i hi,
      Option.map_some]
    exact ⟨_, rfl, rep_bool_leaf h _, rfl, rfl⟩
  · rw [List.getElem?_eq_none (by omega), if_pos (by omega)]
    exact getSpec_err h

theorem append_bitlist (h : HashFn) (lim : Nat) (bs : List Bool) (n : Node)
    (x : Val) (en : Node) (hd : DepthOk (.bitlist lim))
    (hr : Rep h (.bitlist lim) (.bits bs) n) (hx : hasType .bool x = true) :
    MutSpec h (.bitlist lim) (valAppend (.bitlist lim) (.bits bs) x)
      (Mut.append h (.bitlist lim) n x en) := by
  obtain ⟨b, rfl⟩ := hasType_bool_elim hx
  obtain ⟨hlen, hdd, hll, hs⟩ := rep_bitlist_inv h hd hr
  unfold valAppend Mut.append
  simp only [viewDepth, boolOf, hll, R.bind_ok, bitIntoChunk_mod _ bs.length]
  by_cases hlim : bs.length < lim
  · rw [if_pos hlim, if_neg (by omega)]
    have hw := packedWrite_bits (bupd_append bs b)
    rw [List.length_append] at hw
    obtain ⟨p, w, n1, n2, hp, hset0, hbot, hset, hsl, hs2⟩ := tp_list_append h (by decide) hw hs hdd
      (Nat.lt_of_lt_of_le (div_lt_ceilDiv (by decide) hlim) (le_two_pow_coverDepth _))
    refine ⟨n2, ?_, ?_, ?_⟩
    · simp only [hp, R.bind_ok, hset0, hbot fun r k => bitIntoChunk r k b, hset, hsl]
    · simp only [Rep, List.length_append, List.length_singleton]
      exact ⟨hlim, hs2⟩
    · simp only [hasType, decide_eq_true_eq, List.length_append, List.length_singleton]
      omega
  · rw [if_neg hlim, if_pos (by omega)]
    exact mutSpec_err h _

theorem pop_bitlist (h : HashFn) (lim : Nat) (bs : List Bool) (n : Node)
    (hd : DepthOk (.bitlist lim)) (hr : Rep h (.bitlist lim) (.bits bs) n) :
    MutSpec h (.bitlist lim) (valPop (.bitlist lim) (.bits bs)) (Mut.pop h (.bitlist lim) n) := by
  obtain ⟨hlen, hdd, hll, hs⟩ := rep_bitlist_inv h hd hr
  unfold valPop Mut.pop
  simp only [viewDepth, hll, R.bind_ok, List.isEmpty_iff_length_eq_zero,
    bitIntoChunk_mod _ (bs.length - 1)]
  by_cases hi : bs.length = 0
  · rw [if_pos hi, if_pos hi]
    exact mutSpec_err h _
  · rw [if_neg hi, if_neg hi]
    have hw := packedWrite_bits (bupd_dropLast bs (by omega))
    rw [List.length_dropLast] at hw
    obtain ⟨p, w, n1, n2, hp, hset0, hget, hset, hsl, hs2⟩ :=
      tp_list_pop h (by decide) (by omega) hw hs hdd
    refine ⟨n2, ?_, ?_, ?_⟩
    · simp only [hp, R.bind_ok, hset0, hget, asLeaf_leaf, hset, hsl]
    · simp only [Rep, List.length_dropLast]
      exact ⟨by omega, hs2⟩
    · simp only [hasType, decide_eq_true_eq, List.length_dropLast]
      omega

end RepMut
end ZtypV
