/-
Model H: relocation.  A client relocated past `n` foreign cells inserted at `s` computes in the
bigger heap what it computes alone (`run_reloc`); the heap a poke-free client leaves is such a heap
(`sim_after`).  Together: a client run after another client, in the same heap, behaves as when
run alone (copy detachment in one address space, C05).
-/
import ZtypV.Proofs.Heap
namespace ZtypV.H

theorem unsh_sh (s n x : Nat) : unsh s n (sh s n x) = x := by
  unfold sh unsh
  by_cases h : x < s
  · simp [h]
  · have : ¬ x + n < s := by omega
    simp [h, this]

theorem sh_size {s n sz : Nat} (hs : s ≤ sz) : sh s n sz = sz + n := by
  unfold sh; rw [if_neg (by omega)]

theorem unshView_shCell (s n : Nat) (c : Cell) : unshView s n (view (shCell s n c)) = view c := by
  cases c with
  | leaf r => rfl
  | pair m l r => simp [shCell, view, unshView, unsh_sh]

/-- `hp2` is `hp1` with `n` foreign cells inserted at `s`, up to memo fields -/
structure Sim (s n : Nat) (hp1 hp2 : Heap) : Prop where
  ge : s ≤ hp1.size
  size : hp2.size = hp1.size + n
  get : ∀ {x c}, hp1[x]? = some c →
    ∃ c', hp2[sh s n x]? = some c' ∧ c'.erase = (shCell s n c).erase

theorem Sim.lt_iff {s n : Nat} {hp1 hp2 : Heap} (hs : Sim s n hp1 hp2) {x : Nat} :
    sh s n x < hp2.size ↔ x < hp1.size := by
  have := hs.ge
  rw [hs.size]; unfold sh
  split <;> omega

theorem Sim.unsh_size {s n : Nat} {hp1 hp2 : Heap} (hs : Sim s n hp1 hp2) :
    unsh s n hp2.size = hp1.size := by
  rw [hs.size, ← sh_size hs.ge, unsh_sh]

theorem Sim.get_none {s n : Nat} {hp1 hp2 : Heap} (hs : Sim s n hp1 hp2) {x : Nat}
    (hx : hp1[x]? = none) : hp2[sh s n x]? = none := by
  rw [Array.getElem?_eq_none_iff] at hx ⊢
  exact Nat.le_of_not_lt (fun h => Nat.not_lt.mpr hx (hs.lt_iff.mp h))

theorem Sim.pureRoot (h : HashFn) {s n : Nat} {hp1 hp2 : Heap} (hs : Sim s n hp1 hp2) (hw1 : WF hp1)
    {x : Nat} (hx : x < hp1.size) : pureRoot h hp2 (sh s n x) = pureRoot h hp1 x := by
  have hle : x < sh s n x + 1 := by unfold sh; split <;> omega
  unfold H.pureRoot absNode
  rw [absF_map (φ := sh s n) (D := fun x => x < hp1.size) (fun x _ => ⟨hs.get_none, fun r e => ?_,
    fun m l r e => ?_⟩) _ x hx, absF_eq_absNode hw1 hle]
  · rfl
  · obtain ⟨c', hb, e'⟩ := hs.get e
    rw [hb, erase_leaf_inv e']
  · obtain ⟨c', hb, e'⟩ := hs.get e
    obtain ⟨m', rfl⟩ := erase_pair_inv e'
    have := hw1 x m l r e
    have := get_lt_size e
    exact ⟨⟨m', hb⟩, by omega, by omega⟩

theorem shCell_erase (s n : Nat) (c : Cell) : (shCell s n c).erase = shCell s n c.erase := by
  cases c <;> rfl

theorem Sim.of_sameStruct {s n : Nat} {hp1 hp2 hp1' hp2' : Heap} (hs : Sim s n hp1 hp2)
    (s1 : SameStruct hp1 hp1') (s2 : SameStruct hp2 hp2') : Sim s n hp1' hp2' := by
  refine ⟨by rw [← s1.size_eq]; exact hs.ge, by rw [← s1.size_eq, ← s2.size_eq]; exact hs.size, ?_⟩
  intro x c hx
  obtain ⟨c0, h0, e0⟩ := get_of_erase (s1.get x) hx
  obtain ⟨c2, h2, e2⟩ := hs.get h0
  obtain ⟨c2', h2', e2'⟩ := get_of_erase (s2.get _).symm h2
  exact ⟨c2', h2', by rw [e2', e2, shCell_erase, e0, ← shCell_erase]⟩

theorem Sim.push {s n : Nat} {hp1 hp2 : Heap} (hs : Sim s n hp1 hp2) (c : Cell) :
    Sim s n (hp1.push c) (hp2.push (shCell s n c)) := by
  refine ⟨by simp; have := hs.ge; omega, by simp [hs.size]; omega, ?_⟩
  intro x d hx
  rcases get_push_some hx with hx | ⟨rfl, rfl⟩
  · obtain ⟨c', h', e'⟩ := hs.get hx
    exact ⟨c', by rw [get_push_lt _ (hs.lt_iff.mpr (get_lt_size hx))]; exact h', e'⟩
  · exact ⟨_, by rw [sh_size hs.ge, ← hs.size]; exact Array.getElem?_push_size, rfl⟩

/-- the relocated client, run in the bigger heap, computes what the client computes alone -/
theorem run_reloc (h : HashFn) {s n : Nat} {q : Prog α} (hnq : NoPoke q) :
    ∀ hp1 hp2, Sim s n hp1 hp2 → Valid h hp1 → Valid h hp2 →
      (run h (reloc s n q) hp2).1 = (run h q hp1).1 := by
  induction hnq with
  | ret a => intro hp1 hp2 _ _ _; rfl
  | allocLeaf r k _ ih =>
    intro hp1 hp2 hs v1 v2
    rw [reloc, run_allocLeaf, run_allocLeaf]
    simp only [hs.unsh_size]
    exact ih hp1.size _ _ (hs.push (.leaf r)) (v1.push (.leaf _ r)) (v2.push (.leaf _ r))
  | allocPair l r k _ ih =>
    intro hp1 hp2 hs v1 v2
    rw [reloc]
    by_cases hlr : l < hp1.size ∧ r < hp1.size
    · have hl2 := hs.lt_iff.mpr hlr.1
      have hr2 := hs.lt_iff.mpr hlr.2
      rw [run_allocPair_ok h _ hlr.1 hlr.2, run_allocPair_ok h _ hl2 hr2]
      simp only [hs.unsh_size]
      exact ih hp1.size _ _ (hs.push (.pair z0 l r)) (v1.push (.pair hlr.1 hlr.2)) (v2.push (.pair hl2 hr2))
    · rw [run_allocPair_bad h _ hlr, run_allocPair_bad h _ (by rw [hs.lt_iff, hs.lt_iff]; exact hlr)]
  | read a k _ ih =>
    intro hp1 hp2 hs v1 v2
    rw [reloc]
    cases ha : hp1[a]? with
    | none =>
      rw [run_read_none h _ ha, run_read_none h _ (hs.get_none ha)]
      exact ih none hp1 hp2 hs v1 v2
    | some c =>
      obtain ⟨c', hb, e⟩ := hs.get ha
      rw [run_read_some h _ ha, run_read_some h _ hb, pre_fst, pre_fst, Option.map_some, view_of_erase e,
        unshView_shCell]
      exact ih _ hp1 hp2 hs v1 v2
  | root a k _ ih =>
    intro hp1 hp2 hs v1 v2
    rw [reloc]
    by_cases ha : a < hp1.size
    · rw [run_root_ok h _ ha, run_root_ok h _ (hs.lt_iff.mpr ha)]
      obtain ⟨e1, v1'⟩ := v1.root a
      obtain ⟨e2, v2'⟩ := v2.root (sh s n a)
      rw [e1, e2, hs.pureRoot h v1.wf ha]
      exact ih _ _ _ (hs.of_sameStruct (rootH_sameStruct h _ hp1 a) (rootH_sameStruct h _ hp2 _)) v1' v2'
    · rw [run_root_bad h _ ha, run_root_bad h _ (by rw [hs.lt_iff]; exact ha)]

/-- an extension of `hp` (what a poke-free client leaves: `run_frame`) is `hp` with the new cells
    inserted at its end -/
theorem sim_after {hp hp' : Heap} (hw : WF hp) (he : Ext hp hp') :
    Sim hp.size (hp'.size - hp.size) hp hp' := by
  refine ⟨Nat.le_refl _, by have := he.1; omega, ?_⟩
  intro x c hc
  have hx := get_lt_size hc
  obtain ⟨c', h', e'⟩ := get_of_erase (he.2 x hx) hc
  refine ⟨c', by unfold sh; rw [if_pos hx]; exact h', e'.trans ?_⟩
  cases c with
  | leaf r => rfl
  | pair m l r =>
    have := hw x m l r hc
    simp only [shCell, sh]
    rw [if_pos (by omega), if_pos (by omega)]

end ZtypV.H
