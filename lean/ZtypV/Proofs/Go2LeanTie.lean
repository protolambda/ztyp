/-
Companion of the Go→Lean translator `harness/cmd/go2lean` (static tie of the small pure
integer functions of `tree/bitlen.go`, `tree/gindex.go`, `bitfields/*.go` to the hand-written
models `ZtypV.Model.Bits64` / `ZtypV.Model.Bitfields`).

The translator prints, on every run, a Lean file that
* imports this file,
* defines in `namespace Generated.Go` one function `<pkg>_<Func>` per Go function, obtained
  mechanically from the current Go source (statement lists → nested `let`/`if`),
* states `<pkg>_<Func> args = <model function> args` for all arguments, proved by
  `go2lean_tie`, and
* runs `#tie_ok thm "label"`, which prints `TIE-OK label` only if the theorem exists, is
  `sorry`-free and depends on no axiom besides propext / Classical.choice / Quot.sound.

This file contains what the generated file relies on:
1. the Go semantics of shifts (`x << n`, `x >> n` with an unsigned count `n`: the result is 0
   when `n ≥ width`; Lean's `<<<`/`>>>` reduce the count modulo the width),
2. the few lemmas needed where a model uses an unguarded Lean shift because the count is
   provably small (`last >> (n & 7)` in `BitvectorCheckLastByte`),
3. the proof script `go2lean_tie` and the reporting command `#tie_ok`.

Not part of the compiled driver (imports `Lean` for the two macros and the `#tie_ok` command).
-/
import Lean
import ZtypV.Model.Bits64
import ZtypV.Model.Bitfields
/-- the ties proved so far: a later function's tie may rewrite its callees with them -/
register_simp_attr go2lean_ties

namespace Generated.Go

/-! ### Go shift semantics, per operand width (count as a natural number) -/

def shl8 (x : UInt8) (n : Nat) : UInt8 := if n ≥ 8 then 0 else x <<< n.toUInt8
def shr8 (x : UInt8) (n : Nat) : UInt8 := if n ≥ 8 then 0 else x >>> n.toUInt8
def shl16 (x : UInt16) (n : Nat) : UInt16 := if n ≥ 16 then 0 else x <<< n.toUInt16
def shr16 (x : UInt16) (n : Nat) : UInt16 := if n ≥ 16 then 0 else x >>> n.toUInt16
def shl32 (x : UInt32) (n : Nat) : UInt32 := if n ≥ 32 then 0 else x <<< n.toUInt32
def shr32 (x : UInt32) (n : Nat) : UInt32 := if n ≥ 32 then 0 else x >>> n.toUInt32
def shl64 (x : UInt64) (n : Nat) : UInt64 := if n ≥ 64 then 0 else x <<< n.toUInt64
def shr64 (x : UInt64) (n : Nat) : UInt64 := if n ≥ 64 then 0 else x >>> n.toUInt64

/-- the guard helpers of this file are the ones the `Bits64` model uses -/
theorem shl64_eq_model (x : UInt64) (n : Nat) : shl64 x n = ZtypV.Bits64.shl64 x n := rfl
theorem shr64_eq_model (x : UInt64) (n : Nat) : shr64 x n = ZtypV.Bits64.shr64 x n := rfl

/-! ### counts that are provably below the width -/

theorem and7_lt (n : UInt64) : (n &&& 7).toNat < 8 := by
  rw [UInt64.toNat_and]
  exact Nat.lt_succ_of_le Nat.and_le_right

/-- `last >> (n & 7)` on a byte: the guard never fires, and the count converts exactly -/
theorem shr8_and7 (x : UInt8) (n : UInt64) :
    shr8 x (n &&& 7).toNat = x >>> (n &&& 7).toUInt8 := by
  unfold shr8
  rw [if_neg (Nat.not_le_of_lt (and7_lt n))]
  congr 1

/-! ### proof script and reporting -/

/-- `go2lean_tie gen model` proves `gen args = model args` (or the stated variant):
    first by definitional unfolding alone (`rfl`: the kernel evaluates constant guards such as
    `3 ≥ 64`, sees through `step`, pairs and projections), otherwise by unfolding both sides
    and rewriting with the small-count lemmas above.  Both are kernel-checked; if neither
    works the tie is reported broken together with the two unfolded sides. -/
macro "go2lean_tie " g:ident m:ident : tactic => do
  let msg := Lean.Syntax.mkStrLit
    s!"TIE BROKEN: the translation {g.getId} of the current Go source is not equal (by unfolding) to the hand-written model {m.getId}; both sides:"
  `(tactic| first
      | rfl
      | (unfold $g $m; simp only [shr8_and7]; first | done | rfl)
      | (unfold $g $m; (try simp only [shr8_and7, go2lean_ties]); first | done | rfl)
      | (unfold $g $m; fail $msg))

/-- a statement about every byte follows from its 256 instances -/
theorem forall_uint8 {P : UInt8 → Prop} (h : ∀ i : Fin 256, P (UInt8.ofNat i.val)) (v : UInt8) : P v := by
  have := h ⟨v.toNat, v.toNat_lt⟩
  simpa using this

/-- `go2lean_tie8 gen model v`: as `go2lean_tie` for a function of the single byte `v`; when
    unfolding does not show the equality (the Go function was rewritten in another style) the
    kernel evaluates both sides on all 256 bytes. -/
macro "go2lean_tie8 " g:ident m:ident v:ident : tactic => do
  let msg := Lean.Syntax.mkStrLit
    s!"TIE BROKEN: the translation {g.getId} of the current Go source differs from the hand-written model {m.getId} on some byte"
  `(tactic| first
      | rfl
      | (unfold $g $m; simp only [shr8_and7]; first | done | rfl)
      | (revert $v; exact forall_uint8 (by decide +kernel))
      | fail $msg)

open Lean Elab Command in
/-- `#tie_ok thm "label"`: print `TIE-OK label` iff `thm` exists and its axioms are within
    propext / Classical.choice / Quot.sound (a failed proof leaves `sorryAx`); error otherwise. -/
elab "#tie_ok " thm:ident label:str : command => do
  let n ← liftCoreM <| realizeGlobalConstNoOverloadWithInfo thm
  let axs ← liftCoreM <| collectAxioms n
  let bad := axs.filter fun a => a != ``propext && a != ``Classical.choice && a != ``Quot.sound
  if bad.isEmpty then logInfo m!"TIE-OK {label.getString}"
  else throwError "TIE-FAIL {label.getString}: depends on axioms {bad}"

end Generated.Go
