/-
Merkle roots of the subtree-fill helpers (`SubtreeFillToDepth/Length/Contents`) equal the
SSZ-spec `merk` of the corresponding chunk list.

The Go code treats depth 1 apart from the deeper levels; `fillToContents_succ` and
`fillToLength_succ` state the recursion uniformly for every depth.  With them the filling by a
repeated `bottom` is the filling by the constant list (`fillToLength_eq_fillToContents`), and
`fillToLength_root`, `fillToDepth_root` are instances of `fill_root`.

First, `getNode` and `setNode` at the empty path and `getNode` along a concatenated path, which
every module about trees needs.
-/
import ZtypV.Model.Tree
namespace ZtypV

@[simp] theorem getNode_nil (n : Node) : getNode n [] = .ok n := by cases n <;> rfl

@[simp] theorem setNode_nil (h : HashFn) (n : Node) (e : Bool) (v : Node) :
    setNode h n [] e v = .ok v := by cases n <;> rfl

theorem getNode_append (n : Node) (p q : List Bool) :
    getNode n (p ++ q) = (getNode n p >>= fun m => getNode m q) := by
  induction p generalizing n with
  | nil => rw [List.nil_append, getNode_nil]; rfl
  | cons b p ih =>
    cases n with
    | leaf r => rfl
    | pair l r =>
      simp only [List.cons_append, getNode]
      split <;> exact ih _

theorem getNode_append_ok {n m : Node} {p : List Bool} (q : List Bool)
    (h : getNode n p = .ok m) : getNode n (p ++ q) = getNode m q := by
  rw [getNode_append, h]; rfl

theorem zeroNode_root (h : HashFn) (d : Nat) : (zeroNode h d).root h = zh h d := rfl

theorem merk_succ_le (h : HashFn) (d : Nat) (cs : List Root) (hle : cs.length ≤ 2 ^ d) :
    merk h (d + 1) cs = h (merk h d cs) (zh h d) := by
  simp only [merk, List.take_of_length_le hle, List.drop_of_length_le hle, merk_nil]

theorem fillToContents_nil (h : HashFn) (d : Nat) : fillToContents h d [] = .ok (zeroNode h d) := by
  rw [fillToContents.eq_def]; exact if_pos rfl

theorem fillToContents_succ (h : HashFn) (d : Nat) (ns : List Node) (h0 : 0 < ns.length)
    (hle : ns.length ≤ 2 ^ (d + 1)) :
    fillToContents h (d + 1) ns =
      if ns.length ≤ 2 ^ d then
        fillToContents h d ns >>= fun l => .ok (.pair l (zeroNode h d))
      else
        fillToContents h d (ns.take (2 ^ d)) >>= fun l =>
        fillToContents h d (ns.drop (2 ^ d)) >>= fun r => .ok (.pair l r) := by
  rw [fillToContents.eq_def]; dsimp only
  rw [if_neg (Nat.ne_of_gt h0), if_neg (Nat.not_lt.2 hle)]
  cases d with
  | succ d => rw [if_neg (Nat.succ_ne_zero d)]
  | zero =>
    -- depth 1: one or two nodes
    match ns, h0, hle with
    | [a], _, _ => rfl
    | [a, b], _, _ => rfl

/-- `h0` excludes `len = 0` at depth 1: there Go answers at once with the tree of length 1, while
    the right side would go through depth 0 with length 0, which panics. -/
theorem fillToLength_succ (h : HashFn) (b : Node) (d len : Nat) (hlt : len < 2 ^ (d + 1))
    (h0 : 0 < d + len) :
    fillToLength h b (d + 1) len =
      if len ≤ 2 ^ d then
        fillToLength h b d len >>= fun l => .ok (.pair l (zeroNode h d))
      else
        fillToLength h b d (len - 2 ^ d) >>= fun r => .ok (.pair (fillToDepth b d) r) := by
  rw [fillToLength.eq_def]; dsimp only
  rw [if_neg (Nat.lt_asymm hlt), if_neg (Nat.ne_of_lt hlt)]
  cases d with
  | succ d => simp only [if_neg (Nat.succ_ne_zero d)]
  | zero =>
    have : len = 1 := by simp only [Nat.zero_add, Nat.pow_one] at hlt h0; omega
    subst this; rfl

theorem fillToLength_full (h : HashFn) (b : Node) (d : Nat) :
    fillToLength h b d (2 ^ d) = .ok (fillToDepth b d) := by
  rw [fillToLength.eq_def]; dsimp only
  rw [if_neg (Nat.lt_irrefl _), if_pos rfl]

theorem fillToLength_eq_fillToContents (h : HashFn) (b : Node) (d : Nat) :
    ∀ len, 0 < len → fillToLength h b d len = fillToContents h d (List.replicate len b) := by
  induction d with
  | zero =>
    intro len hpos
    rw [fillToLength.eq_def, fillToContents.eq_def]; dsimp only
    rw [List.length_replicate, if_neg (Nat.ne_of_gt hpos)]
    split
    · rfl
    · have : len = 1 := by simp only [Nat.pow_zero] at *; omega
      subst this; rfl
  | succ d ih =>
    intro len hpos
    have hp : 0 < 2 ^ d := Nat.two_pow_pos d
    have h2 : 2 ^ (d + 1) = 2 ^ d + 2 ^ d := by rw [Nat.pow_succ, Nat.mul_two]
    have hlen : ∀ k, (List.replicate k b).length = k := fun _ => List.length_replicate
    have full : fillToContents h d (List.replicate (2 ^ d) b) = .ok (fillToDepth b d) := by
      rw [← ih _ hp, fillToLength_full]
    rcases Nat.lt_or_ge (2 ^ (d + 1)) len with hgt | hle
    · rw [fillToLength.eq_def, fillToContents.eq_def]; dsimp only
      rw [if_pos hgt, hlen, if_neg (Nat.ne_of_gt hpos), if_pos hgt]
    · -- both sides split the constant list at `2 ^ d`
      rw [fillToContents_succ h d _ (by rw [hlen]; exact hpos) (by rw [hlen]; exact hle), hlen]
      rcases Nat.lt_or_eq_of_le hle with hlt | heq
      · rw [fillToLength_succ h b d len hlt (Nat.lt_of_lt_of_le hpos (Nat.le_add_left _ _))]
        by_cases hl : len ≤ 2 ^ d
        · rw [if_pos hl, if_pos hl, ih len hpos]
        · rw [if_neg hl, if_neg hl, List.take_replicate, List.drop_replicate,
            Nat.min_eq_left (Nat.le_of_not_le hl), full, ih _ (Nat.sub_pos_of_lt (Nat.not_le.1 hl))]
          rfl
      · subst heq
        rw [fillToLength_full, if_neg (by omega), List.take_replicate, List.drop_replicate,
          Nat.min_eq_left (by omega), h2, Nat.add_sub_cancel, full]
        rfl

theorem fill_root (h : HashFn) (d : Nat) : ∀ (ns : List Node) (n : Node),
    fillToContents h d ns = .ok n → n.root h = merk h d (ns.map (Node.root h)) := by
  induction d with
  | zero =>
    intro ns n hf
    match ns with
    | [] => rw [fillToContents_nil] at hf; cases hf; rfl
    | [a] => cases hf; rfl
    | a :: b :: ns =>
      rw [fillToContents.eq_def] at hf; dsimp only at hf
      rw [if_neg (by simp), if_pos (by simp)] at hf; cases hf
  | succ d ih =>
    intro ns n hf
    rcases Nat.eq_zero_or_pos ns.length with h0 | h0
    · cases List.eq_nil_of_length_eq_zero h0
      rw [fillToContents_nil] at hf; cases hf; exact (merk_nil h _).symm
    by_cases hle : ns.length ≤ 2 ^ (d + 1)
    · rw [fillToContents_succ h d ns h0 hle] at hf
      by_cases hp : ns.length ≤ 2 ^ d
      · rw [if_pos hp] at hf
        cases hl : fillToContents h d ns with
        | error e => rw [hl] at hf; cases hf
        | ok l =>
          rw [hl] at hf; cases hf
          rw [merk_succ_le h d _ (by rw [List.length_map]; exact hp), ← ih ns l hl]; rfl
      · rw [if_neg hp] at hf
        cases hl : fillToContents h d (ns.take (2 ^ d)) with
        | error e => rw [hl] at hf; cases hf
        | ok l =>
          cases hr : fillToContents h d (ns.drop (2 ^ d)) with
          | error e => rw [hl, hr] at hf; cases hf
          | ok r =>
            rw [hl, hr] at hf; cases hf
            rw [merk, ← List.map_take, ← List.map_drop, ← ih _ l hl, ← ih _ r hr]; rfl
    · rw [fillToContents.eq_def] at hf; dsimp only at hf
      rw [if_neg (Nat.ne_of_gt h0), if_pos (Nat.not_le.1 hle)] at hf; cases hf

theorem fillToLength_root (h : HashFn) (b : Node) (d : Nat) :
    ∀ (len : Nat) (n : Node), 0 < len → fillToLength h b d len = .ok n →
      n.root h = merk h d (List.replicate len (b.root h)) := by
  intro len n hpos hf
  rw [fillToLength_eq_fillToContents h b d len hpos] at hf
  rw [fill_root h d _ n hf, List.map_replicate]

theorem fillToDepth_root (h : HashFn) (b : Node) (d : Nat) :
    (fillToDepth b d).root h = merk h d (List.replicate (2 ^ d) (b.root h)) :=
  fillToLength_root h b d _ _ (Nat.two_pow_pos d) (fillToLength_full h b d)

/-! ### length 0

Length 0 is NOT the empty vector: for depth ≥ 1 the Go code (and the model) builds the same tree
as for length 1 (one `bottom` at position 0); at depth 0 it panics.  Hence the hypothesis
`0 < len` above. -/

theorem fillToLength_zero_len (h : HashFn) (b : Node) (d : Nat) :
    fillToLength h b (d + 1) 0 = fillToLength h b (d + 1) 1 := by
  induction d with
  | zero => rfl
  | succ d ih =>
    rw [fillToLength_succ h b (d + 1) 0 (Nat.two_pow_pos _) (Nat.succ_pos d),
      fillToLength_succ h b (d + 1) 1 (Nat.one_lt_two_pow (Nat.succ_ne_zero _)) (Nat.succ_pos _),
      if_pos (Nat.zero_le _), if_pos (Nat.le_of_lt (Nat.one_lt_two_pow (Nat.succ_ne_zero d))), ih]

theorem fillToLength_zero_panic (h : HashFn) (b : Node) :
    fillToLength h b 0 0 = .error .panic := by
  rfl

end ZtypV
