/-
Lemmas about the basic value API (Model/BasicApi.lean): what each method computes, in terms of
Spec.lean (`serialize`, `hasType`, `htr`, `chunks`) and of `putAt` on a chunk.

Everything about a word of `w` bytes goes through `leBytes w` / `leNat`; a 256-bit value through
`leNat v.bytes32 = v.toNat`. A view is a boolean or a uint of `td` bytes (`BasicV.type_cases`), and
the uint case is handled once, through `BasicV.ofBytes td`. Positions inside a chunk are slots of
`w` bytes (`slot_fits`, `slots_disjoint`, `u8_slot` for the `uint8` offsets Go computes).
-/
import ZtypV.Model.BasicApi
import ZtypV.Model.Machine
import ZtypV.Model.Flat
import ZtypV.Proofs.SerLemmas
import ZtypV.Proofs.DecodeBasic
import ZtypV.Proofs.DecodeLeaf
import ZtypV.Proofs.RepMutBytes
namespace ZtypV.BasicApi
open ZtypV ZtypV.View ZtypV.RepMut ZtypV.DecodeProofs

theorem length_take_drop {α : Type} (x : List α) (a k : Nat) (h : a + k ≤ x.length) :
    ((x.drop a).take k).length = k := by
  rw [List.length_take, List.length_drop]; exact Nat.min_eq_left (Nat.le_sub_of_add_le' h)

/-! ### little-endian words -/

theorem leBytes_mod (k n : Nat) : leBytes k (n % 256 ^ k) = leBytes k n := by
  induction k generalizing n with
  | zero => rfl
  | succ k ih =>
    simp only [leBytes]
    have h1 : n % 256 ^ (k + 1) % 256 = n % 256 := by
      rw [Nat.pow_succ, Nat.mul_comm]; exact Nat.mod_mul_right_mod n 256 (256 ^ k)
    have h2 : n % 256 ^ (k + 1) / 256 = (n / 256) % 256 ^ k := by
      rw [Nat.pow_succ, Nat.mul_comm, Nat.mod_mul_right_div_self]
    rw [h1, h2, ih]

theorem leBytes_add (a b n : Nat) : leBytes (a + b) n = leBytes a n ++ leBytes b (n / 256 ^ a) := by
  induction a generalizing n with
  | zero => simp [leBytes]
  | succ a ih =>
    rw [show a + 1 + b = (a + b) + 1 by omega]
    simp only [leBytes, List.cons_append, ih]
    rw [Nat.div_div_eq_div_mul, Nat.pow_succ, Nat.mul_comm]

theorem leNat_append (x y : Bytes) : leNat (x ++ y) = leNat x + 256 ^ x.length * leNat y := by
  induction x with
  | nil => simp [leNat]
  | cons b bs ih =>
    simp only [List.cons_append, leNat, ih, List.length_cons, Nat.pow_succ]
    rw [Nat.mul_add, Nat.add_assoc, ← Nat.mul_assoc, Nat.mul_comm 256 (256 ^ bs.length)]

theorem leNat_single (v : UInt8) : leNat [v] = v.toNat := by simp [leNat]

theorem leBytes_one (v : UInt8) : leBytes 1 v.toNat = [v] := by
  rw [← leNat_single v]; exact leBytes_leNat [v]

theorem leNat_take_mod (x : Bytes) (w : Nat) (h : x.length = w) : leNat (x.take w) % 256 ^ w = leNat x := by
  rw [List.take_of_length_le (Nat.le_of_eq h)]
  exact Nat.mod_eq_of_lt (h ▸ leNat_lt x)

/-! `encoding/binary`: each word size instantiates `leNat_take_mod`, `leBytes_leNat`, `leNat_leBytes` -/

@[simp] theorem putUint16_length (v : UInt16) : (putUint16 v).length = 2 := leBytes_length 2 _
@[simp] theorem putUint32_length (v : UInt32) : (putUint32 v).length = 4 := leBytes_length 4 _
@[simp] theorem putUint64_length (v : UInt64) : (putUint64 v).length = 8 := leBytes_length 8 _

theorem getUint16_toNat (x : Bytes) (h : x.length = 2) : (getUint16 x).toNat = leNat x :=
  UInt16.toNat_ofNat'.trans (leNat_take_mod x 2 h)
theorem getUint32_toNat (x : Bytes) (h : x.length = 4) : (getUint32 x).toNat = leNat x :=
  UInt32.toNat_ofNat'.trans (leNat_take_mod x 4 h)
theorem getUint64_toNat (x : Bytes) (h : x.length = 8) : (getUint64 x).toNat = leNat x :=
  UInt64.toNat_ofNat'.trans (leNat_take_mod x 8 h)

theorem putUint64_get (x : Bytes) (h : x.length = 8) : putUint64 (getUint64 x) = x := by
  rw [putUint64, getUint64_toNat x h]; exact h ▸ leBytes_leNat x

theorem leNat_putUint64 (v : UInt64) : leNat (putUint64 v) = v.toNat :=
  (leNat_leBytes 8 _).trans (Nat.mod_eq_of_lt v.toNat_lt)

theorem getUint16_put (v : UInt16) : getUint16 (putUint16 v) = v :=
  UInt16.toNat_inj.mp <| (getUint16_toNat _ (putUint16_length v)).trans <|
    (leNat_leBytes 2 _).trans (Nat.mod_eq_of_lt v.toNat_lt)
theorem getUint32_put (v : UInt32) : getUint32 (putUint32 v) = v :=
  UInt32.toNat_inj.mp <| (getUint32_toNat _ (putUint32_length v)).trans <|
    (leNat_leBytes 4 _).trans (Nat.mod_eq_of_lt v.toNat_lt)
theorem getUint64_put (v : UInt64) : getUint64 (putUint64 v) = v :=
  UInt64.toNat_inj.mp <| (getUint64_toNat _ (putUint64_length v)).trans (leNat_putUint64 v)

/-! ### 256-bit values -/

@[simp] theorem U256.bytes32_length (v : U256) : v.bytes32.length = 32 := by
  simp [U256.bytes32]

theorem U256.leNat_bytes32 (v : U256) : leNat v.bytes32 = v.toNat := by
  simp only [U256.bytes32, U256.toNat, leNat_append, List.length_append, putUint64_length, leNat_putUint64]

theorem U256.toNat_lt (v : U256) : v.toNat < 256 ^ 32 := by
  have := leNat_lt v.bytes32
  rwa [U256.leNat_bytes32, U256.bytes32_length] at this

theorem U256.bytes32_eq (v : U256) : v.bytes32 = leBytes 32 v.toNat := by
  have := leBytes_leNat v.bytes32
  rw [U256.leNat_bytes32, U256.bytes32_length] at this
  exact this.symm

/-- limb `l`, written behind `n` other bytes, is what `setBytes32` reads at offset `n` -/
theorem getUint64_piece (a : Bytes) (n : Nat) (ha : a.length = n) (l : UInt64) (rest : Bytes) :
    getUint64 (((a ++ (putUint64 l ++ rest)).drop n).take 8) = l := by
  rw [List.drop_left' ha, List.take_left' (putUint64_length l), getUint64_put]

theorem U256.setBytes32_bytes32 (v : U256) (rest : Bytes) : U256.setBytes32 (v.bytes32 ++ rest) = v := by
  have e0 := getUint64_piece [] 0 rfl v.l0 (putUint64 v.l1 ++ (putUint64 v.l2 ++ (putUint64 v.l3 ++ rest)))
  have e1 := getUint64_piece (putUint64 v.l0) 8 (by simp) v.l1 (putUint64 v.l2 ++ (putUint64 v.l3 ++ rest))
  have e2 := getUint64_piece (putUint64 v.l0 ++ putUint64 v.l1) 16 (by simp) v.l2 (putUint64 v.l3 ++ rest)
  have e3 := getUint64_piece (putUint64 v.l0 ++ putUint64 v.l1 ++ putUint64 v.l2) 24 (by simp) v.l3 rest
  simp only [List.nil_append, List.append_assoc] at e0 e1 e2 e3
  simp only [U256.setBytes32, U256.bytes32, List.append_assoc, e0, e1, e2, e3]

theorem U256.setBytes32_bytes32' (v : U256) : U256.setBytes32 v.bytes32 = v := by
  simpa using U256.setBytes32_bytes32 v []

theorem U256.bytes32_setBytes32 (x : Bytes) (h : x.length = 32) : (U256.setBytes32 x).bytes32 = x := by
  have hl (a : Nat) (ha : a + 8 ≤ 32) : ((x.drop a).take 8).length = 8 := length_take_drop x a 8 (h ▸ ha)
  simp only [U256.setBytes32, U256.bytes32]
  rw [putUint64_get _ (hl 0 (by decide)), putUint64_get _ (hl 8 (by decide)),
    putUint64_get _ (hl 16 (by decide)), putUint64_get _ (hl 24 (by decide))]
  have : x = x.take (8 + 8 + 8 + 8) := (List.take_of_length_le (Nat.le_of_eq h)).symm
  simp only [List.take_add] at this
  exact this.symm

theorem U256.toNat_setBytes32 (x : Bytes) (h : x.length = 32) : (U256.setBytes32 x).toNat = leNat x := by
  rw [← U256.leNat_bytes32, U256.bytes32_setBytes32 x h]

theorem U256.bytes32_ofNat (n : Nat) : (U256.ofNat n).bytes32 = leBytes 32 n := by
  have e (m : Nat) : putUint64 (UInt64.ofNat m) = leBytes 8 m := by
    rw [putUint64, UInt64.toNat_ofNat']; exact leBytes_mod 8 m
  simp only [U256.bytes32, U256.ofNat, e]
  rw [show (32 : Nat) = 8 + (8 + (8 + 8)) by rfl, leBytes_add, leBytes_add, leBytes_add]
  simp only [Nat.div_div_eq_div_mul, List.append_assoc]

theorem U256.toNat_ofNat (n : Nat) : (U256.ofNat n).toNat = n % 2 ^ 256 := by
  rw [← U256.leNat_bytes32, U256.bytes32_ofNat, leNat_leBytes]

/-! ### writing into a root -/

@[simp] theorem z0_length : z0.length = 32 := List.length_replicate

theorem chunkOf_32 (r : Root) (h : r.length = 32) : chunkOf r = r := by
  rw [chunkOf_of_ge r (Nat.le_of_eq h.symm), List.take_of_length_le (Nat.le_of_eq h)]

theorem goCopy_z0 (bs : Bytes) : goCopy z0 bs = chunkOf bs := by
  rw [goCopy, z0_length, chunkOf, List.take_append, List.take_replicate, z0, List.drop_replicate,
    Nat.min_eq_left (Nat.sub_le ..)]

theorem putAt_length (r : Root) (a : Nat) (bs : Bytes) (hr : r.length = 32) (h : a + bs.length ≤ 32) :
    (putAt r a bs).length = 32 := spliceRoot_length r a bs hr h

theorem putAt_eq_splice (r : Root) (a : Nat) (bs : Bytes) : putAt r a bs = spliceRoot r a bs := rfl

theorem putAt_read (r : Root) (a : Nat) (bs : Bytes) (hr : a ≤ r.length) :
    ((putAt r a bs).drop a).take bs.length = bs := by
  rw [putAt, List.append_assoc, List.drop_left' (List.length_take_of_le hr)]
  exact List.take_left' rfl

theorem putAt_read_other (r : Root) (a : Nat) (bs : Bytes) (c k : Nat) (hfit : a + bs.length ≤ r.length)
    (hdis : c + k ≤ a ∨ a + bs.length ≤ c) :
    ((putAt r a bs).drop c).take k = (r.drop c).take k := by
  have ha : a ≤ r.length := Nat.le_trans (Nat.le_add_right ..) hfit
  have hl : (r.take a ++ bs).length = a + bs.length := by
    rw [List.length_append, List.length_take_of_le ha]
  rcases hdis with h | h
  · -- the piece lies inside `r.take a`
    rw [List.take_drop, List.take_drop, putAt, List.append_assoc,
      List.take_append_of_le_length (by rw [List.length_take_of_le ha]; exact h),
      List.take_take, Nat.min_eq_left h]
  · -- the piece lies inside `r.drop (a + bs.length)`
    rw [putAt, List.drop_append, List.drop_of_length_le (hl.symm ▸ h), List.nil_append, hl,
      List.drop_drop, Nat.add_sub_cancel' h]

theorem putAt_byte_getD (r : Root) (a : Nat) (x : UInt8) (q : Nat) (ha : a < r.length) :
    (putAt r a [x]).getD q 0 = if q = a then x else r.getD q 0 := by
  rw [putAt, upd_splice r a [x] ha q]
  by_cases h : q = a
  · rw [if_pos h, if_pos ⟨Nat.le_of_eq h.symm, h ▸ Nat.lt_succ_self q⟩, h, Nat.sub_self]; rfl
  · rw [if_neg h, if_neg (fun h' => h (Nat.le_antisymm (Nat.le_of_lt_succ h'.2) h'.1))]

theorem putAt_chunkOf (pre new : Bytes) (h : pre.length + new.length ≤ 32) :
    putAt (chunkOf pre) pre.length new = chunkOf (pre ++ new) := by
  rw [chunkOf_of_le pre (Nat.le_trans (Nat.le_add_right ..) h),
    chunkOf_of_le (pre ++ new) (by rw [List.length_append]; exact h), putAt,
    List.take_left' rfl, List.drop_append, List.drop_of_length_le (Nat.le_add_right ..), List.nil_append,
    List.drop_replicate, List.length_append, Nat.add_sub_cancel_left, Nat.sub_sub]

theorem putAt_z0 (bs : Bytes) (h : bs.length ≤ 32) : putAt z0 0 bs = chunkOf bs :=
  putAt_chunkOf [] bs (by rw [List.length_nil, Nat.zero_add]; exact h)

theorem trueRoot_eq : trueRoot = chunkOf [1] := by decide
theorem z0_eq_chunk : z0 = chunkOf [0] := by decide

/-! ### values against the specification -/

theorem BasicV.hasType_val (v : BasicV) : hasType v.ty v.val = true := by
  cases v with
  | u8 x => exact decide_eq_true x.toNat_lt
  | u16 x => exact decide_eq_true x.toNat_lt
  | u32 x => exact decide_eq_true x.toNat_lt
  | u64 x => exact decide_eq_true x.toNat_lt
  | u256 x => exact decide_eq_true x.toNat_lt
  | bool x => rfl

theorem BasicV.encode_eq (v : BasicV) : v.encode = serialize v.ty v.val := by
  cases v with
  | u8 x => exact (leBytes_one x).symm
  | u256 x => exact U256.bytes32_eq x
  | _ => rfl

theorem BasicV.serializeW_eq (v : BasicV) : v.serializeW = v.encode := by cases v <;> rfl

theorem BasicV.encode_length (v : BasicV) : v.encode.length = v.byteLength := by
  cases v <;> simp [BasicV.encode, BasicV.byteLength]

theorem BasicV.fixedLength_eq (v : BasicV) : v.fixedLength = v.byteLength := by cases v <;> rfl
theorem BasicV.valueByteLength_eq (v : BasicV) : v.valueByteLength = .ok v.byteLength := by cases v <;> rfl
theorem BasicV.typeByteLength_eq (v : BasicV) : v.type.typeByteLength = v.byteLength := by cases v <;> rfl
theorem BasicV.fixedSize_eq (v : BasicV) : v.ty.fixedSize = v.byteLength := by cases v <;> rfl

theorem BasicV.byteLength_le (v : BasicV) : v.byteLength ≤ 32 := by cases v <;> simp [BasicV.byteLength]

theorem BasicV.hashTreeRoot_eq_chunk (v : BasicV) : v.hashTreeRoot = chunkOf v.encode := by
  have hl : v.encode.length ≤ 32 := v.encode_length ▸ v.byteLength_le
  cases v with
  | u256 x => exact (chunkOf_32 _ x.bytes32_length).symm
  | _ => exact putAt_z0 _ hl

theorem BasicV.backing_eq (v : BasicV) : v.backing = .leaf v.hashTreeRoot := by
  cases v with
  | bool x => cases x <;> rfl
  | _ => rfl

/-! ### `uint8` sub-index arithmetic -/

theorem u8_ge_iff (i lim : UInt8) : i ≥ lim ↔ lim.toNat ≤ i.toNat := UInt8.le_iff_toNat_le

theorem slot_fits {w i n : Nat} (hw : 0 < w) : i < n / w ↔ w * i + w ≤ n := by
  rw [Nat.lt_iff_add_one_le, Nat.le_div_iff_mul_le hw, Nat.add_mul, Nat.one_mul, Nat.mul_comm]

theorem slots_disjoint (w : Nat) {i j : Nat} (h : j ≠ i) : w * j + w ≤ w * i ∨ w * i + w ≤ w * j := by
  rcases Nat.lt_or_gt_of_ne h with h | h
  · exact .inl (Nat.mul_succ w j ▸ Nat.mul_le_mul_left w h)
  · exact .inr (Nat.mul_succ w i ▸ Nat.mul_le_mul_left w h)

/-- the `uint8` offsets `c*i` and `c*i + c` of a slot inside a chunk do not wrap around -/
theorem u8_slot (c i : UInt8) (h : c.toNat * i.toNat + c.toNat ≤ 32) :
    (c * i).toNat = c.toNat * i.toNat ∧ (c * i + c).toNat = c.toNat * i.toNat + c.toNat := by
  have h1 : (c * i).toNat = c.toNat * i.toNat := by
    rw [UInt8.toNat_mul]
    exact Nat.mod_eq_of_lt (Nat.lt_of_le_of_lt (Nat.le_trans (Nat.le_add_right ..) h) (by decide))
  exact ⟨h1, by rw [UInt8.toNat_add, h1]; exact Nat.mod_eq_of_lt (Nat.lt_of_le_of_lt h (by decide))⟩

theorem u8_shl1 (i : UInt8) : i <<< 1 = 2 * i := by
  apply UInt8.toNat_inj.mp
  rw [UInt8.toNat_shiftLeft, UInt8.toNat_mul, Nat.shiftLeft_eq, Nat.mul_comm]
  rfl

theorem u8_shr3 (i : UInt8) : (i >>> 3).toNat = i.toNat / 8 ∧ (i &&& 7).toNat = i.toNat % 8 := by
  constructor
  · simp [UInt8.toNat_shiftRight, Nat.shiftRight_eq_div_pow]
  · rw [UInt8.toNat_and]
    exact Nat.and_two_pow_sub_one_eq_mod i.toNat 3

theorem u8_mask (i : UInt8) : (1 : UInt8) <<< (i &&& 7) = UInt8.ofNat (2 ^ (i.toNat % 8)) := by
  apply UInt8.toNat_inj.mp
  rw [UInt8.toNat_shiftLeft, (u8_shr3 i).2, UInt8.toNat_ofNat']
  simp [Nat.shiftLeft_eq]

/-! ### a basic value from its bytes -/

/-- the uint value of `td` bytes (what `BasicViewFromBacking / Decode / Deserialize` build) -/
def BasicV.ofBytes (td : Nat) (x : Bytes) : BasicV :=
  match td with
  | 1 => .u8 (x.getD 0 0)
  | 2 => .u16 (getUint16 x)
  | 4 => .u32 (getUint32 x)
  | 8 => .u64 (getUint64 x)
  | _ => .u256 (U256.setBytes32 x)

def uintSize (td : Nat) : Prop := td = 1 ∨ td = 2 ∨ td = 4 ∨ td = 8 ∨ td = 32

theorem uintSize.pos {td : Nat} (h : uintSize td) : 0 < td := by
  rcases h with rfl | rfl | rfl | rfl | rfl <;> decide

theorem single_of_length_one (x : Bytes) (h : x.length = 1) : x = [x.getD 0 0] := by
  match x, h with
  | [a], _ => rfl

theorem BasicV.type_cases (v : BasicV) :
    (∃ td, v.type = .uint td ∧ v.byteLength = td ∧ uintSize td) ∨ ∃ b, v = .bool b := by
  cases v with
  | u8 _ => exact .inl ⟨1, rfl, rfl, .inl rfl⟩
  | u16 _ => exact .inl ⟨2, rfl, rfl, .inr (.inl rfl)⟩
  | u32 _ => exact .inl ⟨4, rfl, rfl, .inr (.inr (.inl rfl))⟩
  | u64 _ => exact .inl ⟨8, rfl, rfl, .inr (.inr (.inr (.inl rfl)))⟩
  | u256 _ => exact .inl ⟨32, rfl, rfl, .inr (.inr (.inr (.inr rfl)))⟩
  | bool b => exact .inr ⟨b, rfl⟩

theorem BasicV.byteLength_of_type (v : BasicV) (td : Nat) (h : v.type = .uint td) : v.byteLength = td ∧ uintSize td := by
  rcases v.type_cases with ⟨td', h', hl, hs⟩ | ⟨b, rfl⟩
  · cases h'.symm.trans h; exact ⟨hl, hs⟩
  · cases h

theorem BasicV.encode_uint (v : BasicV) (td : Nat) (h : v.type = .uint td) : v.encode = leBytes td (numOf v.val) := by
  rw [BasicV.encode_eq, BasicV.ty, h]
  cases v <;> cases h <;> rfl

theorem BasicV.ofBytes_type (td : Nat) (h : uintSize td) (x : Bytes) : (BasicV.ofBytes td x).type = .uint td := by
  rcases h with rfl | rfl | rfl | rfl | rfl <;> rfl

theorem BasicV.ofBytes_of_encode (v : BasicV) (td : Nat) (h : v.type = .uint td) :
    BasicV.ofBytes td v.encode = v := by
  cases v with
  | u8 x => cases h; rfl
  | u16 x => cases h; exact congrArg BasicV.u16 (getUint16_put x)
  | u32 x => cases h; exact congrArg BasicV.u32 (getUint32_put x)
  | u64 x => cases h; exact congrArg BasicV.u64 (getUint64_put x)
  | u256 x => cases h; exact congrArg BasicV.u256 (U256.setBytes32_bytes32' x)
  | bool x => cases h

theorem BasicV.ofBytes_val (td : Nat) (h : uintSize td) (x : Bytes) (hx : x.length = td) :
    (BasicV.ofBytes td x).val = .num (leNat x) := by
  rcases h with rfl | rfl | rfl | rfl | rfl
  · rw [single_of_length_one x hx]; exact congrArg Val.num (leNat_single _).symm
  · exact congrArg Val.num (getUint16_toNat x hx)
  · exact congrArg Val.num (getUint32_toNat x hx)
  · exact congrArg Val.num (getUint64_toNat x hx)
  · exact congrArg Val.num (U256.toNat_setBytes32 x hx)

theorem BasicV.ofBytes_encode (td : Nat) (h : uintSize td) (x : Bytes) (hx : x.length = td) :
    (BasicV.ofBytes td x).encode = x := by
  rw [BasicV.encode_uint _ td (BasicV.ofBytes_type td h x), BasicV.ofBytes_val td h x hx]
  exact hx ▸ leBytes_leNat x

/-! ### `Decode` -/

theorem BasicV.decode_uint (dst : BasicV) (td : Nat) (h : dst.type = .uint td) (x : Bytes) :
    dst.decode x = if x.length ≠ td then .error .other else .ok (BasicV.ofBytes td x) := by
  cases dst <;> cases h <;> rfl

theorem BasicV.decode_bool (b : Bool) (x : Bytes) :
    (BasicV.bool b).decode x =
      if x.length ≠ 1 then .error .other
      else if x.getD 0 0 > 1 then .error .other else .ok (.bool (x.getD 0 0 > 0)) := rfl

/-! ### `BackingFromBase` -/

theorem rootPut_ok (r : Root) (a b : Nat) (bs : Bytes) (h : a + bs.length = b) (hb : b ≤ 32) :
    rootPut r a b bs = .ok (putAt r a bs) := by
  subst h
  unfold rootPut
  rw [if_pos ⟨Nat.le_add_right .., hb⟩, if_neg (by rw [Nat.add_sub_cancel_left]; exact Nat.lt_irrefl _)]

theorem rootSetIdx_ok (r : Root) (i : Nat) (x : UInt8) (h : i < 32) : rootSetIdx r i x = .ok (putAt r i [x]) :=
  if_pos h

theorem rootAt_ok (r : Root) (i : Nat) (h : i < 32) : rootAt r i = .ok (r.getD i 0) := if_pos h

theorem rootSlice_ok (r : Root) (a b : Nat) (h : a ≤ b) (hb : b ≤ 32) :
    rootSlice r a b = .ok ((r.drop a).take (b - a)) := if_pos ⟨h, hb⟩

/-- the shape of the `uint16/32/64` arms: slots of `c` bytes, `lim` of them in a chunk -/
theorem backingFromBase_word (base : Root) (c lim i : UInt8) (bs : Bytes) (hbs : bs.length = c.toNat) (hc : 0 < c.toNat)
    (hlim : lim.toNat = 32 / c.toNat) :
    (if i ≥ lim then (.ok none : R (Option Root))
     else do let r ← rootPut base (c * i).toNat (c * i + c).toNat bs; .ok (some r))
      = .ok (if i.toNat < 32 / c.toNat then some (putAt base (c.toNat * i.toNat) bs) else none) := by
  by_cases h : i.toNat < 32 / c.toNat
  · have hfit := (slot_fits hc).mp h
    obtain ⟨e1, e2⟩ := u8_slot c i hfit
    rw [if_neg (by rw [u8_ge_iff, hlim]; exact Nat.not_le_of_lt h), e1, e2,
      rootPut_ok _ _ _ _ (by rw [hbs]) hfit, if_pos h]
    rfl
  · rw [if_pos (by rw [u8_ge_iff, hlim]; exact Nat.le_of_not_lt h), if_neg h]

/-- the shape of the `uint8` and `bool` arms -/
theorem backingFromBase_byte (base : Root) (i x : UInt8) :
    (if i ≥ 32 then (.ok none : R (Option Root)) else do let r ← rootSetIdx base i.toNat x; .ok (some r))
      = .ok (if i.toNat < 32 then some (putAt base i.toNat [x]) else none) := by
  by_cases h : i.toNat < 32
  · rw [if_neg (by rw [u8_ge_iff]; exact Nat.not_le_of_lt h), rootSetIdx_ok _ _ _ h, if_pos h]; rfl
  · rw [if_pos (by rw [u8_ge_iff]; exact Nat.le_of_not_lt h), if_neg h]

theorem BasicV.backingFromBase_eq (v : BasicV) (base : Root) (hb : base.length = 32) (i : UInt8) :
    v.backingFromBase base i =
      .ok (if i.toNat < 32 / v.byteLength then some (putAt base (v.byteLength * i.toNat) v.encode) else none) := by
  cases v with
  | u8 x => rw [BasicV.byteLength, Nat.div_one, Nat.one_mul]; exact backingFromBase_byte base i x
  | bool x => rw [BasicV.byteLength, Nat.div_one, Nat.one_mul]; exact backingFromBase_byte base i (boolByte x)
  | u16 x =>
    rw [BasicV.backingFromBase, u8_shl1]
    exact backingFromBase_word base 2 16 i _ (putUint16_length x) (by decide) (by decide)
  | u32 x =>
    rw [BasicV.backingFromBase, UInt8.mul_comm i 4]
    exact backingFromBase_word base 4 8 i _ (putUint32_length x) (by decide) (by decide)
  | u64 x =>
    rw [BasicV.backingFromBase, UInt8.mul_comm i 8]
    exact backingFromBase_word base 8 4 i _ (putUint64_length x) (by decide) (by decide)
  | u256 x =>
    -- one slot: the whole chunk is replaced
    simp only [BasicV.backingFromBase, BasicV.byteLength, BasicV.encode]
    by_cases h : i = 0
    · subst h
      have : putAt base 0 x.bytes32 = x.bytes32 := by
        simp [putAt, List.drop_eq_nil_of_le (Nat.le_of_eq hb)]
      simp [this]
    · have : ¬ i.toNat < 1 := fun hh => h (UInt8.toNat_inj.mp (Nat.lt_one_iff.mp hh))
      simp [h, this]

/-! ### `BasicViewFromBacking`, `SubViewFromBacking` -/

theorem U256.setBytes32_take (x : Bytes) : U256.setBytes32 (x.take 32) = U256.setBytes32 x := by
  simp only [U256.setBytes32, List.take_drop, List.take_take]
  rfl

/-- the slice the `uint16/32/64` arms read: slot `i` of `c`-byte slots, addressed in `uint8` arithmetic -/
theorem rootSlice_slot (r : Root) (c i : UInt8) (hc : 0 < c.toNat) (h : i.toNat < 32 / c.toNat) :
    rootSlice r (c * i).toNat (c * i + c).toNat = .ok ((r.drop (c.toNat * i.toNat)).take c.toNat) := by
  have hfit := (slot_fits hc).mp h
  obtain ⟨e1, e2⟩ := u8_slot c i hfit
  rw [e1, e2, rootSlice_ok _ _ _ (Nat.le_add_right ..) hfit, Nat.add_sub_cancel_left]

theorem basicViewFromBacking_eq (td : Nat) (htd : uintSize td) (r : Root) (i : UInt8) :
    Meta.basicViewFromBacking td r i =
      if i.toNat < 32 / td then .ok (BasicV.ofBytes td ((r.drop (td * i.toNat)).take td))
      else .error .other := by
  unfold Meta.basicViewFromBacking
  rw [if_neg (Nat.pos_iff_ne_zero.mp htd.pos)]
  by_cases h : i.toNat < 32 / td
  · rw [if_neg (Nat.not_le_of_lt h), if_pos h]
    rcases htd with rfl | rfl | rfl | rfl | rfl
    · show (rootAt r i.toNat >>= fun b => Except.ok (BasicV.u8 b)) = _
      rw [rootAt_ok _ _ (by omega)]
      exact congrArg (fun b => Except.ok (BasicV.u8 b))
        (by rw [getD_take', if_pos (by decide), getD_drop', Nat.add_zero, Nat.one_mul])
    · rw [rootSlice_slot r 2 i (by decide) h]; rfl
    · rw [rootSlice_slot r 4 i (by decide) h]; rfl
    · rw [rootSlice_slot r 8 i (by decide) h]; rfl
    · rw [Nat.lt_one_iff.mp h]
      exact congrArg (fun v => Except.ok (BasicV.u256 v)) (U256.setBytes32_take r).symm
  · rw [if_pos (Nat.le_of_not_lt h), if_neg h]

theorem subViewFromBacking_eq (r : Root) (i : UInt8) :
    Meta.subViewFromBacking r i =
      .ok (if i.toNat < 32 then
             (if r.getD i.toNat 0 > 1 then none else some (.bool (r.getD i.toNat 0 == 1)))
           else none) := by
  unfold Meta.subViewFromBacking
  by_cases h : i.toNat < 32
  · rw [if_neg (by rw [u8_ge_iff]; exact Nat.not_le_of_lt h), rootAt_ok _ _ h, if_pos h]
    simp only [R.bind_ok]
    split <;> rfl
  · rw [if_pos (by rw [u8_ge_iff]; exact Nat.le_of_not_lt h), if_neg h]

/-! ### all views: lengths, roots -/

theorem BV.hasType_val (v : BV) (hw : v.wf) : hasType v.ty v.val = true := by
  cases v with
  | basic b => exact BasicV.hasType_val b
  | root r => exact beq_iff_eq.mpr hw
  | small bs => exact beq_self_eq_true _

/-- `hasType` for a root view is its Go type invariant `len = 32` -/
theorem BV.hasType_root (r : Root) : hasType (.bytesN 32) (.bytes r) = true ↔ (BV.root r).wf := by
  simp [hasType, BV.wf]

theorem BV.serializeW_eq (v : BV) : v.serializeW = serialize v.ty v.val := by
  cases v with
  | basic b => exact (BasicV.serializeW_eq b).trans (BasicV.encode_eq b)
  | _ => rfl

theorem BV.serialize_length (v : BV) (hw : v.wf) : (serialize v.ty v.val).length = v.type.typeByteLength := by
  cases v with
  | basic b =>
    show (serialize b.ty b.val).length = b.type.typeByteLength
    rw [← BasicV.encode_eq, BasicV.encode_length, BasicV.typeByteLength_eq]
  | root r => exact hw
  | small bs => rfl

theorem BV.valueByteLength_eq (v : BV) (hw : v.wf) : v.valueByteLength = .ok (serialize v.ty v.val).length := by
  rw [BV.serialize_length v hw]
  cases v with
  | basic b => exact (BasicV.valueByteLength_eq b).trans (congrArg _ (BasicV.typeByteLength_eq b).symm)
  | _ => rfl

theorem BV.typeByteLength_eq (v : BV) (hw : v.wf) :
    v.type.typeByteLength = (serialize v.ty v.val).length ∧ v.type.minByteLength = (serialize v.ty v.val).length ∧
    v.type.maxByteLength = (serialize v.ty v.val).length ∧ v.type.isFixedByteLength = true := by
  rw [BV.serialize_length v hw]
  cases v.type <;> exact ⟨rfl, rfl, rfl, rfl⟩

theorem BV.hashTreeRoot_eq_chunk (v : BV) (hw : v.wf) : v.hashTreeRoot = chunkOf (serialize v.ty v.val) := by
  cases v with
  | basic b => exact (BasicV.hashTreeRoot_eq_chunk b).trans (congrArg chunkOf (BasicV.encode_eq b))
  | root r => exact (chunkOf_32 r hw).symm
  | small bs => exact goCopy_z0 bs

theorem BV.backing_eq (v : BV) : v.backing = .leaf v.hashTreeRoot := by
  cases v with
  | basic b => exact BasicV.backing_eq b
  | _ => rfl

theorem htr_bytesN (h : HashFn) (bs : Bytes) (hl : bs.length ≤ 32) :
    htr h (.bytesN bs.length) (.bytes bs) = chunkOf bs := by
  show merk h (coverDepth ((bs.length + 31) / 32)) (chunks bs) = chunkOf bs
  cases bs with
  | nil => exact merk_nil h _
  | cons b bs =>
    -- one chunk: depth 0, and the merkle root of a single chunk is that chunk
    have hc : ((b :: bs).length + 31) / 32 = 1 :=
      Nat.div_eq_of_lt_le (Nat.add_le_add_right (Nat.succ_le_succ (Nat.zero_le _)) 31)
        (Nat.add_lt_add_right (Nat.lt_succ_of_le hl) 31)
    rw [hc, chunks_cons (b :: bs) (Nat.succ_pos _), List.drop_eq_nil_of_le hl, chunks_nil]
    rfl

/-! ### `ViewFromBacking` -/

theorem goCopy_of_le (dst src : Bytes) (h : dst.length ≤ src.length) : goCopy dst src = src.take dst.length := by
  rw [goCopy, List.drop_eq_nil_of_le h, List.append_nil]

/-- the sizes this API supports: `Uint128Type` has no view, a small byte vector fits one chunk -/
def Meta.supported : Meta → Prop
  | .uint td => uintSize td
  | .small td => td ≤ 32
  | _ => True

theorem Meta.viewFromBacking_uint (td : Nat) (h : uintSize td) (r : Root) :
    Meta.viewFromBacking (.uint td) (.leaf r) = .ok (.basic (BasicV.ofBytes td (r.take td))) := by
  rcases h with rfl | rfl | rfl | rfl | rfl
  · exact congrArg (fun b => Except.ok (BV.basic (.u8 b))) (by rw [getD_take', if_pos (by decide)])
  · rfl
  · rfl
  · rfl
  · exact congrArg (fun v => Except.ok (BV.basic (.u256 v))) (U256.setBytes32_take r).symm

/-! ### `Deserialize` -/

theorem read_len {dr dr' : DR} {n : Nat} {bs : Bytes} (h : dr.read n = .ok (bs, dr')) : bs.length = n := by
  obtain ⟨h1, h2, _⟩ := read_ok h
  rw [h2, List.length_take]; exact Nat.min_eq_left h1

theorem readByte_eq (dr : DR) : BasicV.readByte dr = (dr.read 1 >>= fun p => .ok (p.1.getD 0 0, p.2)) := by
  unfold BasicV.readByte
  cases dr.read 1 with
  | error e => rfl
  | ok p => obtain ⟨bs, dr'⟩ := p; cases bs <;> rfl

theorem Meta.deserialize_uint (td : Nat) (h : uintSize td) (dr : DR) :
    Meta.deserialize (.uint td) dr = (dr.read td >>= fun p => .ok (.basic (BasicV.ofBytes td p.1), p.2)) := by
  rcases h with rfl | rfl | rfl | rfl | rfl
  · show (BasicV.readByte dr >>= _) = _
    rw [readByte_eq]
    cases dr.read 1 <;> rfl
  · rfl
  · rfl
  · rfl
  · show ((dr.read 32 >>= _) >>= _) = _
    cases dr.read 32 <;> rfl

theorem BasicV.deserialize_uint (dst : BasicV) (td : Nat) (h : dst.type = .uint td) (dr : DR) :
    dst.deserialize dr = (dr.read td >>= fun p => .ok (BasicV.ofBytes td p.1, p.2)) := by
  cases dst <;> cases h
  · show (BasicV.readByte dr >>= _) = _
    rw [readByte_eq]
    cases dr.read 1 <;> rfl
  all_goals rfl

theorem BasicV.deserialize_bool (b : Bool) (dr : DR) :
    (BasicV.bool b).deserialize dr =
      (dr.read 1 >>= fun p => if p.1.getD 0 0 > 1 then .error .other else .ok (.bool (p.1.getD 0 0 > 0), p.2)) := by
  simp only [BasicV.deserialize, readByte_eq]
  cases dr.read 1 <;> rfl

theorem ofBytes_backing (td : Nat) (h : uintSize td) (x : Bytes) (hx : x.length = td) :
    (BasicV.ofBytes td x).backing = .leaf (chunkOf x) := by
  rw [BasicV.backing_eq, BasicV.hashTreeRoot_eq_chunk, BasicV.ofBytes_encode td h x hx]

/-! ### `PackViews` -/

def allOfType (td : Nat) (vs : List BasicV) : Prop := ∀ v ∈ vs, v.type = .uint td

theorem encode_uniform (td : Nat) (vs : List BasicV) (h : allOfType td vs) :
    ∀ l ∈ vs.map BasicV.encode, l.length = td := by
  intro l hl
  obtain ⟨v, hv, rfl⟩ := List.mem_map.mp hl
  rw [BasicV.encode_length, (BasicV.byteLength_of_type v td (h v hv)).1]

theorem packInner_eq (td : Nat) (htd : 0 < td) :
    ∀ (fuel j : Nat) (pre : Bytes) (vs : List BasicV), td * (j + fuel) ≤ 32 → pre.length = td * j →
      allOfType td vs →
      Meta.packInner fuel j (chunkOf pre) vs
        = .ok (chunkOf (pre ++ ((vs.take fuel).map BasicV.encode).flatten), vs.drop fuel) := by
  intro fuel
  induction fuel with
  | zero =>
    intro j pre vs _ _ _
    rw [Meta.packInner, List.take_zero, List.map_nil, List.flatten_nil, List.append_nil, List.drop_zero]
  | succ fuel ih =>
    intro j pre vs hroom hpre hall
    cases vs with
    | nil => rw [Meta.packInner, List.take_nil, List.map_nil, List.flatten_nil, List.append_nil, List.drop_nil]
    | cons v vs =>
      have hv := (BasicV.byteLength_of_type v td (hall v List.mem_cons_self)).1
      have hlen : v.encode.length = td := (BasicV.encode_length v).trans hv
      have hfit : td * j + td ≤ 32 :=
        Nat.le_trans (Nat.mul_succ td j ▸ Nat.mul_le_mul_left td (Nat.succ_le_succ (Nat.le_add_right j fuel))) hroom
      have hj : j < 256 :=
        Nat.lt_of_le_of_lt (Nat.le_trans (Nat.le_mul_of_pos_left j htd) (Nat.le_trans (Nat.le_add_right ..) hfit))
          (by decide)
      rw [Meta.packInner, BasicV.backingFromBase_eq v (chunkOf pre) (chunkOf_length pre) (UInt8.ofNat j),
        UInt8.toNat_ofNat', Nat.mod_eq_of_lt hj, hv, if_pos ((slot_fits htd).mpr hfit), R.bind_ok]
      dsimp only
      rw [← hpre, putAt_chunkOf pre v.encode (by rw [hlen, hpre]; exact hfit),
        ih (j + 1) (pre ++ v.encode) vs (by rw [Nat.add_right_comm]; exact hroom)
          (by rw [List.length_append, hlen, hpre, Nat.mul_succ])
          (fun w hw => hall w (List.mem_cons_of_mem _ hw))]
      rw [List.take_succ_cons, List.map_cons, List.flatten_cons, List.append_assoc, List.drop_succ_cons]

theorem chunks_append (a b : Bytes) (h0 : 0 < a.length) (hle : a.length ≤ 32) (h : a.length = 32 ∨ b = []) :
    chunks (a ++ b) = chunkOf a :: chunks b := by
  rw [chunks_cons (a ++ b) (by rw [List.length_append]; exact Nat.lt_of_lt_of_le h0 (Nat.le_add_right ..))]
  rcases h with h | rfl
  · rw [chunkOf_of_ge _ (by rw [List.length_append, h]; exact Nat.le_add_right ..), List.take_left' h,
      List.drop_left' h, chunkOf_32 a h]
  · rw [List.append_nil, List.drop_eq_nil_of_le hle]

/-- the chunk count `⌈n / p⌉` that `PackViews` computes -/
theorem ceilDiv_spec (n : Nat) {p : Nat} (hp : 0 < p) :
    n ≤ (n + p - 1) / p * p ∧ (n + p - 1) / p * p < n + p := by
  have hlt : n + p - 1 < p * ((n + p - 1) / p + 1) := Nat.lt_mul_div_succ _ hp
  rw [Nat.mul_succ, Nat.mul_comm] at hlt
  exact ⟨Nat.le_of_add_le_add_right (Nat.le_of_pred_lt hlt),
    Nat.lt_of_le_of_lt (Nat.div_mul_le_self _ _) (Nat.sub_lt (Nat.add_pos_right n hp) Nat.one_pos)⟩

theorem chunks_flatten_cons (td p : Nat) (hp : p * td = 32) (ls : List Bytes) (hu : ∀ l ∈ ls, l.length = td)
    (h0 : 0 < ls.length) :
    chunks ls.flatten = chunkOf (ls.take p).flatten :: chunks (ls.drop p).flatten := by
  have htd : 0 < td := Nat.pos_of_ne_zero (fun h => by rw [h] at hp; cases hp)
  have hp0 : 0 < p := Nat.pos_of_ne_zero (fun h => by rw [h, Nat.zero_mul] at hp; cases hp)
  have hlen : (ls.take p).flatten.length = min p ls.length * td := by
    rw [flatten_uniform_length td _ (fun l hl => hu l (List.mem_of_mem_take hl)), List.length_take]
  have hsplit : ls.flatten = (ls.take p).flatten ++ (ls.drop p).flatten := by
    rw [← List.flatten_append, List.take_append_drop]
  rw [hsplit]
  refine chunks_append _ _ (hlen ▸ Nat.mul_pos (Nat.lt_min.mpr ⟨hp0, h0⟩) htd)
    (by rw [hlen, ← hp]; exact Nat.mul_le_mul_right td (Nat.min_le_left ..)) ?_
  by_cases hge : p ≤ ls.length
  · left; rw [hlen, Nat.min_eq_left hge, hp]
  · right; rw [List.drop_eq_nil_of_le (Nat.le_of_lt (Nat.lt_of_not_le hge))]; rfl

/-- the outer loop, for any chunk count `c` with `(c - 1) * p < length ≤ c * p` -/
theorem packOuter_eq (td p : Nat) (hp : p * td = 32) :
    ∀ (c : Nat) (vs : List BasicV), allOfType td vs → vs.length ≤ c * p → c * p < vs.length + p →
      Meta.packOuter p c vs = .ok (bytesIntoNodes (vs.map BasicV.encode).flatten) := by
  intro c
  induction c with
  | zero =>
    intro vs _ h1 _
    rw [Nat.zero_mul] at h1
    rw [List.eq_nil_of_length_eq_zero (Nat.le_zero.mp h1)]
    rfl
  | succ c ih =>
    intro vs hall h1 h2
    have htd : 0 < td := Nat.pos_of_ne_zero (fun h => by rw [h] at hp; cases hp)
    have hroom : td * (0 + p) ≤ 32 := by rw [Nat.zero_add, Nat.mul_comm, hp]; exact Nat.le_refl _
    rw [Nat.succ_mul] at h1 h2
    rw [Meta.packOuter, show z0 = chunkOf [] from rfl, packInner_eq td htd p 0 [] vs hroom rfl hall, R.bind_ok]
    dsimp only
    have h2' : c * p < vs.length := Nat.lt_of_add_lt_add_right h2
    rw [ih (vs.drop p) (fun w hw => hall w (List.mem_of_mem_drop hw))
        (List.length_drop ▸ Nat.sub_le_of_le_add h1)
        (List.length_drop ▸ Nat.lt_of_lt_of_le h2' (Nat.sub_le_iff_le_add.mp (Nat.le_refl _))),
      R.bind_ok, bytesIntoNodes, bytesIntoNodes,
      chunks_flatten_cons td p hp _ (encode_uniform td vs hall)
        (by rw [List.length_map]; exact Nat.lt_of_le_of_lt (Nat.zero_le _) h2'),
      ← List.map_take, ← List.map_drop]
    rfl

/-- `PackViews` builds exactly the chunks of the concatenated little-endian encodings:
    `BytesIntoNodes` of what `construct` packs for a basic series -/
theorem packViews_eq (td : Nat) (htd : uintSize td) (vs : List BasicV) (hall : allOfType td vs) :
    Meta.packViews td vs = .ok (bytesIntoNodes (vs.map BasicV.encode).flatten) := by
  unfold Meta.packViews
  have hp : (32 / td) % 256 * td = 32 ∧ (32 / td) % 256 ≠ 0 := by
    rcases htd with rfl | rfl | rfl | rfl | rfl <;> decide
  rw [if_neg (Nat.pos_iff_ne_zero.mp htd.pos)]
  simp only [if_neg hp.2]
  obtain ⟨h1, h2⟩ := ceilDiv_spec vs.length (Nat.pos_of_ne_zero hp.2)
  exact packOuter_eq td _ hp.1 _ vs hall h1 h2

theorem encode_eq_serList (td : Nat) (vs : List BasicV) (hall : allOfType td vs) :
    vs.map BasicV.encode = serList (.uint td) (vs.map BasicV.val) := by
  rw [serList_eq_map, List.map_map]
  apply List.map_congr_left
  intro v hv
  rw [BasicV.encode_eq, BasicV.ty, hall v hv]
  rfl

theorem allHaveType_vals (td : Nat) (vs : List BasicV) (hall : allOfType td vs) :
    allHaveType (.uint td) (vs.map BasicV.val) = true := by
  induction vs with
  | nil => rfl
  | cons v vs ih =>
    have hv := BasicV.hasType_val v
    rw [BasicV.ty, hall v List.mem_cons_self] at hv
    exact Bool.and_eq_true_iff.mpr ⟨hv, ih (fun w hw => hall w (List.mem_cons_of_mem _ hw))⟩

/-! ### construction from numbers -/

/-- total version of `BasicV.ofNat` for the supported sizes -/
def BasicV.ofNatD (td n : Nat) : BasicV := (BasicV.ofNat td n).getD (.u8 0)

theorem BasicV.ofNatD_type (td n : Nat) (h : uintSize td) : (BasicV.ofNatD td n).type = .uint td := by
  rcases h with rfl | rfl | rfl | rfl | rfl <;> rfl

theorem BasicV.ofNatD_val (td n : Nat) (h : uintSize td) : (BasicV.ofNatD td n).val = .num (n % 256 ^ td) := by
  rcases h with rfl | rfl | rfl | rfl | rfl
  · exact congrArg Val.num UInt8.toNat_ofNat'
  · exact congrArg Val.num UInt16.toNat_ofNat'
  · exact congrArg Val.num UInt32.toNat_ofNat'
  · exact congrArg Val.num UInt64.toNat_ofNat'
  · exact congrArg Val.num (U256.toNat_ofNat n)

theorem BasicV.ofNatD_encode (td n : Nat) (h : uintSize td) : (BasicV.ofNatD td n).encode = leBytes td n := by
  have hv := BasicV.ofNatD_val td n h
  have he := BasicV.encode_eq (BasicV.ofNatD td n)
  rw [BasicV.ty, BasicV.ofNatD_type td n h, hv] at he
  exact he.trans (leBytes_mod td n)

theorem Meta.default_uint (td : Nat) (h : uintSize td) :
    (Meta.uint td).defaultView = some (.basic (BasicV.ofNatD td 0)) ∧
    (Meta.uint td).new = some (.basic (BasicV.ofNatD td 0)) := by
  rcases h with rfl | rfl | rfl | rfl | rfl <;> exact ⟨rfl, rfl⟩

end ZtypV.BasicApi
