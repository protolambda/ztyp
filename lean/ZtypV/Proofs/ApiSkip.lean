/-
For property family C02c: `DecodingReader.Skip` and the directly called `ReadUint32`
(Model/Api.lean) against the flat byte-list answer, for every legal delivery schedule.
-/
import ZtypV.Model.Api
import ZtypV.Proofs.IO
namespace ZtypV.Api
open ZtypV ZtypV.CodecIO

/-! ### `discard.ReadFrom` -/

/-- the copy loop drains everything that can arrive through the stack and then stops (with or
    without an error); it never spins on a legal reader -/
theorem discard_spec (fuel : Nat) (r : Rd) (acc : Nat) (hl : r.legal) (hf : r.avail.length < fuel) :
    ∃ err r', discardReadFrom fuel r acc = (.done (acc + r.avail.length) err, r') ∧
      r.Adv r.avail.length r' := by
  induction fuel generalizing r acc with
  | zero => omega
  | succ fuel ih =>
    obtain ⟨d, err, r1, e, adv, h1, h2, h3⟩ := Rd.read_spec r 8192 hl (by decide)
    rw [discardReadFrom, e]
    dsimp only
    rw [List.length_take_of_le h2]
    rcases h3 with ⟨rfl, hd⟩ | ⟨e', rfl, rfl, he⟩
    · dsimp only
      have hlen : r.avail.length = d + r1.avail.length := by
        rw [adv.avail, List.length_drop, Nat.add_sub_cancel' h2]
      rw [hlen] at hf ⊢
      obtain ⟨err, r', e1, e2⟩ := ih r1 (acc + d) adv.legal (by omega)
      exact ⟨err, r', by rw [e1, Nat.add_assoc], adv.trans e2⟩
    · exact ⟨_, _, rfl, adv⟩

/-! ### `io.CopyN` into `Discard` -/

theorem limit_shape {r : Rd} {a : Bytes} {as : List Bytes} (h : r.avails = a :: as) :
    ∃ m inner, r = .limit m inner ∧ inner.avails = as := by
  cases r with
  | base st => simp [Rd.avails] at h
  | limit m inner =>
    simp only [Rd.avails, List.cons.injEq] at h
    exact ⟨m, inner, rfl, h.2⟩

/-- the copy loop under a fresh limiter of `k` bytes drains `min k (what can arrive)` bytes from `src` -/
theorem discard_limit (fuel : Nat) (src : Rd) (k : Nat) (hl : src.legal) (hf : src.avail.length < fuel) :
    ∃ err m src', discardReadFrom fuel (.limit (k : Int) src) 0 =
        (.done (min k src.avail.length) err, .limit m src') ∧
      src'.avails = src.avails.map (List.drop (min k src.avail.length)) ∧ src'.legal := by
  have hlen : (Rd.limit (k : Int) src).avail.length = min k src.avail.length := by simp [Rd.avail]
  obtain ⟨err, r', e1, e2⟩ := discard_spec fuel (.limit (k : Int) src) 0 hl
    (by rw [hlen]; exact Nat.lt_of_le_of_lt (Nat.min_le_right ..) hf)
  rw [hlen, Nat.zero_add] at e1
  rw [hlen] at e2
  obtain ⟨m, inner, rfl, hin⟩ := limit_shape e2.avails
  exact ⟨err, m, inner, e1, hin, e2.legal⟩

/-- enough bytes can arrive: exactly `k` are discarded -/
theorem copyN_ok (fuel : Nat) (src : Rd) (k : Nat) (hl : src.legal) (hf : src.avail.length < fuel)
    (hk : k ≤ src.avail.length) :
    ∃ src', copyN fuel src (k : Int) = (.done k none, src') ∧
      src'.avails = src.avails.map (List.drop k) ∧ src'.legal := by
  obtain ⟨err, m, src', e, h1, h2⟩ := discard_limit fuel src k hl hf
  rw [Nat.min_eq_left hk] at e h1
  refine ⟨src', ?_, h1, h2⟩
  unfold copyN
  rw [e]
  simp

/-- fewer bytes can arrive: an error, whatever way the stream ends -/
theorem copyN_short (fuel : Nat) (src : Rd) (k : Nat) (hl : src.legal) (hf : src.avail.length < fuel)
    (hk : src.avail.length < k) :
    ∃ e src', copyN fuel src (k : Int) = (.done src.avail.length (some e), src') := by
  obtain ⟨err, m, src', e, -, -⟩ := discard_limit fuel src k hl hf
  rw [Nat.min_eq_right (Nat.le_of_lt hk)] at e
  have hlt : (src.avail.length : Int) < (k : Int) := Int.ofNat_lt.mpr hk
  unfold copyN
  rw [e]
  simp only [if_neg (Int.ne_of_lt hlt)]
  cases err with
  | none => exact ⟨.eof, src', by simp only [hlt, and_self, if_true]⟩
  | some e' => exact ⟨e', src', by simp only [reduceCtorEq, and_false, if_false]⟩

/-- a negative count (`int64` of a count ≥ 2^63): nothing is read, no error -/
theorem copyN_neg (fuel : Nat) (src : Rd) (n : Int) (hn : n < 0) :
    copyN (fuel + 1) src n = (.done 0 none, src) := by
  unfold copyN
  rw [discardReadFrom]
  have h0 : n ≤ 0 := by omega
  simp only [Rd.read, h0, if_true, List.length_nil, Nat.add_zero]
  simp only [Int.natCast_zero]
  have h1 : ¬ (0 : Int) = n := by omega
  have h2 : ¬ ((0 : Int) < n ∧ True) := by omega
  rw [if_neg h1, if_neg h2]

/-! ### `Skip` -/

-- as in Proofs/IO.lean: keep `whnf` from normalising the 64-bit arithmetic of `scopeUpdate`
-- inside `match` discriminants
attribute [local irreducible] scopeUpdate

theorem toInt64_small (c : UInt64) (h : c.toNat < 2 ^ 63) : toInt64 c = (c.toNat : Int) := by
  unfold toInt64; rw [if_pos h]

theorem toInt64_neg (c : UInt64) (h : 2 ^ 63 ≤ c.toNat) : toInt64 c < 0 := by
  unfold toInt64
  have := c.toNat_lt
  rw [if_neg (by omega)]
  omega

/-- the scope check of `Skip` is `scopeUpdate` -/
theorem skip_eq (dr : DR) (count : UInt64) :
    skip dr count =
      match scopeUpdate dr.i dr.max count with
      | none => (.err .scope (if ~~~(0 : UInt64) - dr.i < count then 0 else toInt64 dr.i), dr)
      | some v =>
        let r := copyN (dr.input.avail.length + 2) dr.input (toInt64 count)
        let dr2 : DR := { input := r.2, i := v, max := dr.max }
        match r.1 with
        | .spin => (.spin, dr2)
        | .done n none => (.ok n, dr2)
        | .done n (some e) => (.err e n, dr2) := by
  unfold skip
  rcases scopeUpdate_cases dr.i dr.max count with ⟨h1, hs⟩ | ⟨h1, h2, hs⟩ | ⟨h1, h2, hs⟩
  · rw [hs]
    simp only [h1, if_true]
  · rw [hs]
    simp only [h1, if_false, h2, if_true]
  · rw [hs]
    simp only [h1, if_false, h2]
    generalize copyN (dr.input.avail.length + 2) dr.input (toInt64 count) = r
    obtain ⟨a, b⟩ := r
    cases a with
    | spin => rfl
    | done n err => cases err <;> rfl

theorem skip_scope_err (dr : DR) (count : UInt64) (h : scopeUpdate dr.i dr.max count = none) :
    ∃ n, skip dr count = (.err .scope n, dr) := by
  rw [skip_eq, h]; exact ⟨_, rfl⟩

theorem skip_ok (dr : DR) (count v : UInt64) (hl : dr.input.legal)
    (h : scopeUpdate dr.i dr.max count = some v) (hc : count.toNat < 2 ^ 63)
    (ha : count.toNat ≤ dr.input.avail.length) :
    ∃ r', skip dr count = (.ok (count.toNat : Int), { input := r', i := v, max := dr.max }) ∧
      r'.avails = dr.input.avails.map (List.drop count.toNat) ∧ r'.legal := by
  obtain ⟨src', e1, e2, e3⟩ := copyN_ok (dr.input.avail.length + 2) dr.input count.toNat hl (Nat.lt_add_of_pos_right (by decide)) ha
  refine ⟨src', ?_, e2, e3⟩
  rw [skip_eq, h, toInt64_small count hc]
  simp only [e1]

theorem skip_short (dr : DR) (count v : UInt64) (hl : dr.input.legal)
    (h : scopeUpdate dr.i dr.max count = some v) (hc : count.toNat < 2 ^ 63)
    (ha : dr.input.avail.length < count.toNat) :
    ∃ e n dr', skip dr count = (.err e n, dr') := by
  obtain ⟨e, src', e1⟩ := copyN_short (dr.input.avail.length + 2) dr.input count.toNat hl (Nat.lt_add_of_pos_right (by decide)) ha
  rw [skip_eq, h, toInt64_small count hc]
  simp only [e1]
  exact ⟨e, _, _, rfl⟩

/-- counts of 2^63 and more that the scope allows: `Skip` reports success with count 0, reads
    nothing and still advances the index (such a scope can only be declared with
    `NewDecodingReader(…, scope ≥ 2^63)`) -/
theorem skip_huge (dr : DR) (count v : UInt64) (h : scopeUpdate dr.i dr.max count = some v)
    (hc : 2 ^ 63 ≤ count.toNat) :
    skip dr count = (.ok 0, { input := dr.input, i := v, max := dr.max }) := by
  rw [skip_eq, h]
  simp only [copyN_neg (dr.input.avail.length + 1) dr.input _ (toInt64_neg count hc)]
  rfl

/-! ### `api.read` runs against the flat answer -/

/-- requests inside the property: `Skip` counts below 2^63 -/
def Req2.small : Req2 → Prop
  | .skip count => count.toNat < 2 ^ 63
  | _ => True

theorem specSkip_none_of_scope (f : SFrame) (ps : List SFrame) (count : UInt64)
    (hs : scopeUpdate f.i f.max count = none) : specSkip (f :: ps) count = none := by
  unfold specSkip skipFrame
  simp only [hs, Option.map_none, ite_self]

theorem specSkip_ok (f : SFrame) (ps : List SFrame) (count v : UInt64)
    (hs : scopeUpdate f.i f.max count = some v) (ha : count.toNat ≤ f.avail.length) :
    specSkip (f :: ps) count =
      some ((count.toNat : Int), ({ f with i := v } :: ps).map (SFrame.adv count.toNat)) := by
  unfold specSkip skipFrame
  simp only [hs, ha, if_true, Option.map_some]

theorem specSkip_short (f : SFrame) (ps : List SFrame) (count : UInt64)
    (ha : ¬ count.toNat ≤ f.avail.length) :
    specSkip (f :: ps) count = none := by
  unfold specSkip skipFrame
  simp only [ha, if_false, Option.map_none]

/-- a step of `io.read` lifted to `api.read`, against the lifted flat step -/
theorem liftBase_spec (d : Dec) (hwf : d.wf) (q : Req) :
    (∃ o d', liftBase (d.step q) = .ok (o, d') ∧
      (specStep d.abs q).map (fun r => (Obs2.base r.1, r.2)) = some (o, d'.abs) ∧ d'.wf) ∨
    (∃ s, liftBase (d.step q) = .error s ∧ s ≠ .stop .spin ∧
      (specStep d.abs q).map (fun r => (Obs2.base r.1, r.2)) = none) := by
  rcases Dec.step_spec d hwf q with ⟨o, d', e1, e2, e3⟩ | ⟨e, e1, e2⟩
  · exact .inl ⟨.base o, d', by rw [e1]; rfl, by rw [e2]; rfl, e3⟩
  · exact .inr ⟨.stop (.err e), by rw [e1]; rfl, by simp, by rw [e2]; rfl⟩

theorem step2_spec (d : Dec) (hwf : d.wf) (q : Req2) (hq : q.small) :
    (∃ o d', step2 d q = .ok (o, d') ∧ specStep2 d.abs q = some (o, d'.abs) ∧ d'.wf) ∨
    (∃ s, step2 d q = .error s ∧ s ≠ .stop .spin ∧ specStep2 d.abs q = none) := by
  cases q with
  | base q => exact liftBase_spec d hwf q
  | u32 => exact liftBase_spec d hwf (.uintN 4)
  | skip count =>
    have hc : count.toNat < 2 ^ 63 := hq
    have habs := Dec.abs_cons d hwf
    show (∃ o d', skipOut d (skip d.cur count) = .ok (o, d') ∧ _) ∨ (∃ s, skipOut d (skip d.cur count) = .error s ∧ _)
    simp only [specStep2]
    cases hs : scopeUpdate d.cur.i d.cur.max count with
    | none =>
      obtain ⟨n, e1⟩ := skip_scope_err d.cur count hs
      exact .inr ⟨.skipErr .scope n, by rw [e1]; rfl, by simp,
        by rw [habs, specSkip_none_of_scope _ _ count hs]; rfl⟩
    | some v =>
      by_cases ha : count.toNat ≤ d.cur.input.avail.length
      · obtain ⟨r', e1, e2, e3⟩ := skip_ok d.cur count v hwf.2 hs hc ha
        obtain ⟨a1, a2⟩ := Dec.adv_spec d hwf e2 e3 v
        exact .inl ⟨.skipped count.toNat, _, by rw [e1]; rfl,
          by rw [habs, specSkip_ok _ _ count v hs ha, a1]; rfl, a2⟩
      · obtain ⟨e, n, dr', e1⟩ := skip_short d.cur count v hwf.2 hs hc (by omega)
        exact .inr ⟨.skipErr e n, by rw [e1]; rfl, by simp,
          by rw [habs, specSkip_short _ _ count ha]; rfl⟩

theorem run2_spec (d : Dec) (hwf : d.wf) (qs : List Req2) (hq : ∀ q ∈ qs, q.small) :
    (run2 d qs).1 = (specRun2 d.abs qs).1 ∧
    ((run2 d qs).2.isSome = (specRun2 d.abs qs).2) ∧
    (run2 d qs).2 ≠ some (.stop .spin) := by
  induction qs generalizing d with
  | nil => simp [run2, specRun2]
  | cons q qs ih =>
    have hq1 := hq q (List.mem_cons_self ..)
    have hq2 : ∀ q ∈ qs, q.small := fun q h => hq q (List.mem_cons_of_mem _ h)
    rcases step2_spec d hwf q hq1 with ⟨o, d', e1, e2, e3⟩ | ⟨s, e1, e2, e3⟩
    · obtain ⟨i1, i2, i3⟩ := ih d' e3 hq2
      simp only [run2, e1, specRun2, e2]
      exact ⟨by rw [i1], i2, i3⟩
    · simp only [run2, e1, specRun2, e3]
      refine ⟨trivial, rfl, ?_⟩
      intro h; injection h with h; exact e2 h

end ZtypV.Api
