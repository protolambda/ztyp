/-
Bit packing facts for the bitvector / bitlist decoders (C03): a byte string is `packBits` of a
bit list exactly when its padding is clean; a byte string whose last byte is non-zero is
`packBits (bits ++ [true])`, and `byteOfBits_delim_iff` says what that last byte looks like.
The byte-level facts all come from one: the low `r` bits of a byte `b` have the value `b % 2 ^ r`.
-/
import ZtypV.Model.Decode
import ZtypV.Proofs.SerLemmas
namespace ZtypV.DecodeProofs
open ZtypV ZtypV.View

def bitsOfByte (b : UInt8) : List Bool := (List.range 8).map fun i => b.toNat.testBit i

def unpackBits : Bytes → List Bool
  | [] => []
  | b :: bs => bitsOfByte b ++ unpackBits bs

@[simp] theorem bitsOfByte_length (b : UInt8) : (bitsOfByte b).length = 8 := by
  simp [bitsOfByte]

theorem unpackBits_length (bs : Bytes) : (unpackBits bs).length = 8 * bs.length := by
  induction bs with
  | nil => rfl
  | cons b bs ih =>
    rw [unpackBits, List.length_append, bitsOfByte_length, ih, List.length_cons, Nat.mul_succ,
      Nat.add_comm]

theorem unpackBits_append (a b : Bytes) : unpackBits (a ++ b) = unpackBits a ++ unpackBits b := by
  induction a with
  | nil => rfl
  | cons x xs ih => simp [unpackBits, ih]

/-! ### bits of one byte -/

theorem bitsVal_testBit_range' (n : Nat) : ∀ r s,
    bitsVal ((List.range' s r).map n.testBit) = n / 2 ^ s % 2 ^ r := by
  intro r
  induction r with
  | zero => intro s; simp [Nat.mod_one]
  | succ r ih =>
    intro s
    rw [List.range'_succ, List.map_cons, bitsVal_cons, ih, Nat.pow_succ 2 r, Nat.mul_comm (2 ^ r) 2,
      Nat.mod_mul, Nat.div_div_eq_div_mul, ← Nat.pow_succ, ← Nat.toNat_testBit]
    rw [Nat.add_comm]
    cases n.testBit s <;> rfl

theorem length_take_bitsOfByte (b : UInt8) {r : Nat} (hr : r ≤ 8) :
    ((bitsOfByte b).take r).length = r := by
  rw [List.length_take, bitsOfByte_length, Nat.min_eq_left hr]

theorem bitsVal_take_bitsOfByte (b : UInt8) {r : Nat} (hr : r ≤ 8) :
    bitsVal ((bitsOfByte b).take r) = b.toNat % 2 ^ r := by
  rw [bitsOfByte, ← List.map_take, List.take_range, Nat.min_eq_left hr, List.range_eq_range',
    bitsVal_testBit_range']
  simp

theorem byteOfBits_bitsOfByte (b : UInt8) : byteOfBits (bitsOfByte b) = b := by
  have h := bitsVal_take_bitsOfByte b (Nat.le_refl 8)
  rw [List.take_of_length_le (by simp), Nat.mod_eq_of_lt (UInt8.toNat_lt b)] at h
  rw [byteOfBits_eq, h, UInt8.ofNat_toNat]

/-! ### the last byte of a bitlist

Fewer than 8 data bits and then the delimiter bit; `byteOfBits_delim_iff` is the one description of
that byte from which the decoder's reading of it and the acceptance of an encoder's output both
follow. -/

theorem add_two_pow_iff {n v r : Nat} (hv : v < 2 ^ r) :
    n = v + 2 ^ r ↔ n ≠ 0 ∧ n.log2 = r ∧ n % 2 ^ r = v := by
  constructor
  · rintro rfl
    have h0 : v + 2 ^ r ≠ 0 := Nat.ne_of_gt (Nat.lt_of_lt_of_le (Nat.two_pow_pos r) (Nat.le_add_left _ _))
    refine ⟨h0, (Nat.log2_eq_iff h0).mpr ⟨Nat.le_add_left _ _, ?_⟩, ?_⟩
    · rw [Nat.pow_succ, Nat.mul_two]
      exact Nat.add_lt_add_right hv _
    · rw [Nat.add_mod_right, Nat.mod_eq_of_lt hv]
  · rintro ⟨h0, rfl, rfl⟩
    have hlo : 2 ^ n.log2 ≤ n := Nat.log2_self_le h0
    have hhi : n - 2 ^ n.log2 < 2 ^ n.log2 := by
      apply Nat.sub_lt_left_of_lt_add hlo
      rw [← Nat.mul_two, ← Nat.pow_succ]
      exact Nat.lt_log2_self
    rw [Nat.mod_eq_sub_mod hlo, Nat.mod_eq_of_lt hhi, Nat.sub_add_cancel hlo]

theorem byteOfBits_delim_iff (tail : List Bool) (h8 : tail.length < 8) (b : UInt8) :
    byteOfBits (tail ++ [true]) = b ↔
      b ≠ 0 ∧ byteBitIndex b = tail.length ∧ b.toNat % 2 ^ tail.length = bitsVal tail := by
  have hn : (byteOfBits (tail ++ [true])).toNat = bitsVal tail + 2 ^ tail.length := by
    rw [byteOfBits_toNat _ (by rw [List.length_append]; exact h8), bitsVal_snoc_true]
  have h0 : b ≠ 0 ↔ b.toNat ≠ 0 := not_congr UInt8.toNat_inj.symm
  rw [← UInt8.toNat_inj, hn, eq_comm, add_two_pow_iff (bitsVal_lt tail), h0]
  rfl

/-- what the decoder makes of the last byte once the delimiter is taken off -/
theorem byteOfBits_delim_sub (tail : List Bool) (h8 : tail.length < 8) :
    UInt8.ofNat ((byteOfBits (tail ++ [true])).toNat - 2 ^ tail.length) = byteOfBits tail := by
  rw [byteOfBits_toNat _ (by rw [List.length_append]; exact h8), bitsVal_snoc_true,
    Nat.add_sub_cancel, byteOfBits_eq]

theorem byte_delim (b : UInt8) (hne : b ≠ 0) :
    byteBitIndex b < 8 ∧ byteOfBits ((bitsOfByte b).take (byteBitIndex b) ++ [true]) = b := by
  have hn : b.toNat ≠ 0 := fun h0 => hne (UInt8.toNat_inj.mp h0)
  have h8 : byteBitIndex b < 8 := (Nat.log2_lt hn).2 (UInt8.toNat_lt b)
  have hl := length_take_bitsOfByte b (Nat.le_of_lt h8)
  refine ⟨h8, (byteOfBits_delim_iff _ (by rw [hl]; exact h8) b).mpr ⟨hne, hl.symm, ?_⟩⟩
  rw [hl, bitsVal_take_bitsOfByte b (Nat.le_of_lt h8)]

/-! ### decoding bit strings -/

theorem packBits_unpack_append (init : Bytes) (tail : List Bool) :
    packBits (unpackBits init ++ tail) = init ++ packBits tail := by
  induction init with
  | nil => rfl
  | cons b bs ih =>
    rw [unpackBits, List.append_assoc, packBits_append_aligned _ _ 1 (bitsOfByte_length b),
      packBits_short _ (by simp) (by simp), byteOfBits_bitsOfByte, ih]
    rfl

theorem length_unpack_take (init : Bytes) (last : UInt8) {r : Nat} (hr : r ≤ 8) :
    (unpackBits init ++ (bitsOfByte last).take r).length = 8 * init.length + r := by
  rw [List.length_append, unpackBits_length, length_take_bitsOfByte last hr]

theorem packBits_unpack_take (init : Bytes) (last : UInt8) {r : Nat} (h0 : 0 < r) (hr : r ≤ 8) :
    packBits (unpackBits init ++ (bitsOfByte last).take r)
      = init ++ [UInt8.ofNat (last.toNat % 2 ^ r)] := by
  have hl := length_take_bitsOfByte last hr
  rw [packBits_unpack_append, packBits_short _ (by rw [hl]; exact h0) (by rw [hl]; exact hr),
    byteOfBits_eq, bitsVal_take_bitsOfByte last hr]

theorem packBits_padding (bits : List Bool) (hr : bits.length % 8 ≠ 0) (last : UInt8)
    (hl : (packBits bits).getLast? = some last) :
    last.toNat % 2 ^ (bits.length % 8) = last.toNat := by
  obtain ⟨q, full, tail, rfl, hf, ht⟩ := exists_aligned_split bits
  rw [List.length_append, hf, Nat.mul_add_mod, Nat.mod_eq_of_lt ht] at hr ⊢
  rw [packBits_append_last full tail q hf (Nat.pos_of_ne_zero hr) (Nat.le_of_lt ht),
    List.getLast?_concat] at hl
  cases hl
  rw [byteOfBits_toNat tail (Nat.le_of_lt ht)]
  exact Nat.mod_eq_of_lt (bitsVal_lt tail)

theorem bitvector_bits (k : Nat) (bs : Bytes) (hlen : bs.length = (k + 7) / 8)
    (hpad : k % 8 ≠ 0 → ∀ last, bs.getLast? = some last → last.toNat % 2 ^ (k % 8) = last.toNat) :
    ∃ bits : List Bool, bits.length = k ∧ packBits bits = bs := by
  have hk : 8 * (k / 8) + k % 8 = k := Nat.div_add_mod k 8
  have hr8 : k % 8 < 8 := Nat.mod_lt k (by decide)
  generalize k / 8 = q at hk
  generalize k % 8 = r at hk hr8 hpad
  subst hk
  by_cases hr : r = 0
  · subst hr
    rw [aligned_div q 7 (by decide)] at hlen
    refine ⟨unpackBits bs, by rw [unpackBits_length, hlen]; rfl, ?_⟩
    rw [← List.append_nil (unpackBits bs), packBits_unpack_append, packBits_nil, List.append_nil]
  · have h0 : 0 < r := Nat.pos_of_ne_zero hr
    rw [aligned_ceilDiv q r h0 (Nat.le_of_lt hr8)] at hlen
    rcases List.eq_nil_or_concat bs with rfl | ⟨init, last, rfl⟩
    · cases hlen
    · rw [List.concat_eq_append] at hlen hpad ⊢
      rw [List.length_append, List.length_singleton] at hlen
      refine ⟨unpackBits init ++ (bitsOfByte last).take r, ?_, ?_⟩
      · rw [length_unpack_take _ _ (Nat.le_of_lt hr8), Nat.add_right_cancel hlen]
      · rw [packBits_unpack_take _ _ h0 (Nat.le_of_lt hr8), hpad hr last List.getLast?_concat,
          UInt8.ofNat_toNat]

/-- what the bitlist decoder keeps as contents: the bytes before the last one, and the last one
    without the delimiter unless nothing is left of it -/
def bitlistContents (init : Bytes) (last : UInt8) : Bytes :=
  if byteBitIndex last = 0 then init
  else init ++ [UInt8.ofNat (last.toNat - 2 ^ byteBitIndex last)]

theorem bitlist_bits (init : Bytes) (last : UInt8) (hne : last ≠ 0) :
    ∃ bits : List Bool, bits.length = init.length * 8 + byteBitIndex last ∧
      packBits (bits ++ [true]) = init ++ [last] ∧ packBits bits = bitlistContents init last := by
  obtain ⟨h8, hd⟩ := byte_delim last hne
  have hl := length_take_bitsOfByte last (Nat.le_of_lt h8)
  have hl8 : ((bitsOfByte last).take (byteBitIndex last)).length < 8 := by rw [hl]; exact h8
  refine ⟨unpackBits init ++ (bitsOfByte last).take (byteBitIndex last), ?_, ?_, ?_⟩
  · rw [length_unpack_take _ _ (Nat.le_of_lt h8), Nat.mul_comm]
  · rw [List.append_assoc, packBits_unpack_append,
      packBits_short _ (by rw [List.length_append]; exact Nat.succ_pos _)
        (by rw [List.length_append]; exact hl8), hd]
  · rw [packBits_unpack_append]
    unfold bitlistContents
    split
    · rename_i h0
      rw [h0, List.take_zero, packBits_nil, List.append_nil]
    · rename_i h0
      have hsub := byteOfBits_delim_sub _ hl8
      rw [hd, hl] at hsub
      rw [packBits_short _ (by rw [hl]; exact Nat.pos_of_ne_zero h0) (Nat.le_of_lt hl8), hsub]

end ZtypV.DecodeProofs
