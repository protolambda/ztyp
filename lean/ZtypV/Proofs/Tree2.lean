/-
The two-stage link model of `ZtypV.Model.Tree2` (closures built with `Link.wrap`,
interface-method descent) coincides with the one-stage functions of `ZtypV.Model.Tree`
(`getNode`, `setNode`, `summarizeInto`).

The bridge is `IsLinkOf x f k`: the first stage `x : R Link` fails exactly as the write `f` fails,
or yields a link that performs `f` and hands the result to `k`.  It is proved once for the loop
of `DeeperSetter`, one level at a time by `IsLinkOf.map`, and carried through `PairNode.Setter`,
`Root.Setter` and the raw-index entry point; every statement about setters below is read off it.
-/
import ZtypV.Model.Tree2
import ZtypV.Proofs.Tree
namespace ZtypV.TreeNav2
open ZtypV ZtypV.TreeNav

theorem bind_identity (x : R Node) : (x >>= identity) = x := by cases x <;> rfl

/-! ### getters -/

theorem getLoop_eq (n : Node) (p : List Bool) : getLoop n p = getNode n p := by
  induction p generalizing n with
  | nil => exact (getNode_nil n).symm
  | cons b bs ih =>
    cases n with
    | leaf x => cases b <;> rfl
    | pair l r => cases b <;> exact ih _

theorem getter_eq (n : Node) (p : List Bool) : n.getter p = getNode n p := by
  cases n with
  | leaf x => cases p <;> rfl
  | pair l r =>
    match p with
    | [] => rfl
    | [b] => cases b <;> exact (getNode_nil _).symm
    | b :: c :: bs => exact getLoop_eq _ _

/-! ### a write in two stages -/

/-- `x` is the first stage of the write `f`, continued by `k`: it fails as `f` fails, whatever
    is written, or it yields a link that performs `f` (which then succeeds for every value) and
    hands the result to `k`. -/
def IsLinkOf (x : R Link) (f : Node → R Node) (k : Link) : Prop :=
  match x with
  | .error er => ∀ v, f v = .error er
  | .ok k' => ∀ v, ∃ s, f v = .ok s ∧ k' v = k s

namespace IsLinkOf
variable {x : R Link} {f : Node → R Node} {k : Link}

theorem of_error (hx : IsLinkOf x f k) {er : Err} (h : x = .error er) : ∀ v, f v = .error er := by
  subst h; exact hx

theorem of_ok (hx : IsLinkOf x f k) {k' : Link} (h : x = .ok k') : ∀ v, ∃ s, f v = .ok s ∧ k' v = k s := by
  subst h; exact hx

theorem ok_apply (hx : IsLinkOf x f k) {k' : Link} (h : x = .ok k') (v : Node) : k' v = (f v >>= k) := by
  obtain ⟨s, hs, hk⟩ := hx.of_ok h v
  rw [hs]; exact hk

theorem apply (hx : IsLinkOf x f k) (v : Node) : (x >>= fun k' => k' v) = (f v >>= k) := by
  cases h : x with
  | error er => rw [hx.of_error h v]; rfl
  | ok k' => exact hx.ok_apply h v

theorem error_iff (hx : IsLinkOf x f k) (er : Err) (v : Node) : x = .error er ↔ f v = .error er := by
  constructor
  · exact fun h => hx.of_error h v
  · intro hf
    cases h : x with
    | error er' => rw [hx.of_error h v] at hf; cases hf; rfl
    | ok k' => obtain ⟨s, hs, _⟩ := hx.of_ok h v; rw [hs] at hf; cases hf

theorem ok_iff (hx : IsLinkOf x f k) (v : Node) : (∃ k', x = .ok k') ↔ ∃ s, f v = .ok s := by
  cases h : x with
  | error er => rw [hx.of_error h v]; exact ⟨fun ⟨_, hc⟩ => (nomatch hc), fun ⟨_, hc⟩ => (nomatch hc)⟩
  | ok k' => exact ⟨fun _ => (hx.of_ok h v).imp fun _ hs => hs.1, fun _ => ⟨k', rfl⟩⟩

/-- the shape of the reference semantics `LinkExpr.den`; the probe value `w` is arbitrary -/
theorem eq_den (hx : IsLinkOf x f k) (w : Node) :
    x = match f w with
      | .error er => .error er
      | .ok _ => .ok fun v => f v >>= k := by
  cases h : x with
  | error er => rw [hx.of_error h w]
  | ok k' =>
    obtain ⟨s, hs, _⟩ := hx.of_ok h w
    rw [hs]
    exact congrArg Except.ok (funext (hx.ok_apply h))

/-- the write one pair further up, when the continuation rebuilds that pair first -/
theorem map (hx : IsLinkOf x f k) {f' : Node → R Node} {k' : Link} (g : Node → Node)
    (hk : ∀ s, k s = k' (g s)) (hf : ∀ v, f' v = g <$> f v) : IsLinkOf x f' k' := by
  cases x with
  | error er => exact fun v => by rw [hf, hx v]; rfl
  | ok k₀ =>
    intro v
    obtain ⟨s, hs, hk₀⟩ := hx v
    exact ⟨g s, by rw [hf, hs]; rfl, hk₀.trans (hk s)⟩

end IsLinkOf

/-! ### `DeeperSetter` -/

theorem expandStep_cases (h : HashFn) (node : Node) (bs : List Bool) (e : Bool) :
    (∃ er, expandStep h node bs.length e = .error er ∧
        ∀ b v, setNode h node (b :: bs) e v = .error er) ∨
    ∃ l r, expandStep h node bs.length e = .ok (.pair l r) ∧
        ∀ b v, setNode h node (b :: bs) e v = setNode h (.pair l r) (b :: bs) e v := by
  cases node with
  | pair l r => exact .inr ⟨l, r, rfl, fun _ _ => rfl⟩
  | leaf x =>
    cases e with
    | false => exact .inl ⟨.nav, rfl, fun _ _ => rfl⟩
    | true =>
      by_cases hx : (x == zh h (bs.length + 1)) = true
      · refine .inr ⟨zeroNode h bs.length, zeroNode h bs.length, ?_, fun b v =>
          setNode_leaf_expand h x b bs true v hx⟩
        simp only [expandStep, bne, hx, Bool.not_true, Bool.false_eq_true, if_false]; rfl
      · refine .inl ⟨.nav, ?_, fun b v => by rw [setNode_leaf_cons, Bool.true_and, if_neg hx]⟩
        simp only [expandStep, bne, Bool.not_true, Bool.false_eq_true, if_false,
          Bool.not_eq_true _ ▸ hx, Bool.not_false, if_true]

theorem deeperLoop_pair (h : HashFn) (k : Link) (l r : Node) (b : Bool) (bs : List Bool) (e : Bool) :
    deeperLoop h k (.pair l r) (b :: bs) e =
      deeperLoop h (Link.wrap k (if b then (Node.pair l r).rebindRight else (Node.pair l r).rebindLeft))
        (if b then r else l) bs e := by
  cases b <;> rfl

theorem deeperLoop_isLinkOf (h : HashFn) (bs : List Bool) (k : Link) (node : Node) (e : Bool) :
    IsLinkOf (deeperLoop h k node bs e) (setNode h node bs e) k := by
  induction bs generalizing k node with
  | nil => exact fun v => ⟨v, setNode_nil h node e v, rfl⟩
  | cons b bs ih =>
    rcases expandStep_cases h node bs e with ⟨er, hx, hset⟩ | ⟨l, r, hx, hset⟩
    · have : deeperLoop h k node (b :: bs) e = .error er := by rw [deeperLoop, hx]
      rw [this]; exact hset b
    · have : deeperLoop h k node (b :: bs) e = deeperLoop h k (.pair l r) (b :: bs) e := by
        rw [deeperLoop, hx]; rfl
      rw [this, deeperLoop_pair]
      exact (ih _ _).map (fun c => if b then .pair l c else .pair c r) (fun s => by cases b <;> rfl)
        (fun v => (hset b v).trans (setNode_pair_cons' h l r b bs e v))

theorem deeperSetter_short (h : HashFn) (k : Link) (node : Node) (p : List Bool) (e : Bool)
    (hp : p.length < 2) : deeperSetter h k node p e = .error .panic :=
  if_pos hp

theorem deeperSetter_long (h : HashFn) (k : Link) (node : Node) (a b : Bool) (p : List Bool) (e : Bool) :
    deeperSetter h k node (a :: b :: p) e = deeperLoop h k node (b :: p) e :=
  if_neg (by simp only [List.length_cons]; omega)

/-! ### `Setter` of both node kinds -/

theorem pairSetter_isLinkOf (h : HashFn) (l r : Node) (p : List Bool) (e : Bool) :
    IsLinkOf (pairSetter h l r p e) (setNode h (.pair l r) p e) identity := by
  match p with
  | [] => exact fun v => ⟨v, rfl, rfl⟩
  | [b] =>
    exact fun v => ⟨if b then .pair l v else .pair v r,
      (setNode_pair_cons' h l r b [] e v).trans (by rw [setNode_nil]; rfl), by cases b <;> rfl⟩
  | b :: c :: bs =>
    have : pairSetter h l r (b :: c :: bs) e =
        deeperLoop h (if b then (Node.pair l r).rebindRight else (Node.pair l r).rebindLeft)
          (if b then r else l) (c :: bs) e := by
      cases b
      · exact deeperSetter_long h _ _ false c bs e
      · exact deeperSetter_long h _ _ true c bs e
    rw [this]
    exact (deeperLoop_isLinkOf h _ _ _ e).map (fun c => if b then .pair l c else .pair c r)
      (fun s => by cases b <;> rfl) (setNode_pair_cons' h l r b _ e)

theorem rootSetter_cons (h : HashFn) (x : Root) (b : Bool) (bs : List Bool) (e : Bool) :
    rootSetter h x (b :: bs) e =
      if (e && x == zh h (bs.length + 1)) = true then
        pairSetter h (zeroNode h bs.length) (zeroNode h bs.length) (b :: bs) e
      else .error .nav := by
  cases e with
  | false => rfl
  | true =>
    by_cases hx : (x == zh h (bs.length + 1)) = true
    · simp only [rootSetter, bne, List.length_cons, hx, Bool.not_true, Bool.false_eq_true, if_false,
        if_true, Bool.true_and, Nat.add_sub_cancel]
    · simp only [rootSetter, bne, List.length_cons, Bool.not_eq_true _ ▸ hx, Bool.not_false,
        Bool.false_eq_true, if_false, if_true, Bool.true_and]

theorem setter_isLinkOf (h : HashFn) (n : Node) (p : List Bool) (e : Bool) :
    IsLinkOf (n.setter h p e) (setNode h n p e) identity := by
  cases n with
  | pair l r => exact pairSetter_isLinkOf h l r p e
  | leaf x =>
    cases p with
    | nil => exact fun v => ⟨v, rfl, rfl⟩
    | cons b bs =>
      show IsLinkOf (rootSetter h x (b :: bs) e) _ _
      rw [rootSetter_cons]
      by_cases hc : (e && x == zh h (bs.length + 1)) = true
      · rw [if_pos hc, funext fun v => setNode_leaf_expand h x b bs e v hc]
        exact pairSetter_isLinkOf h _ _ _ e
      · rw [if_neg hc]
        exact fun v => by rw [setNode_leaf_cons, if_neg hc]

theorem setter_ok (h : HashFn) (n : Node) (p : List Bool) (e : Bool) (k : Link)
    (hs : n.setter h p e = .ok k) (v : Node) : k v = setNode h n p e v :=
  ((setter_isLinkOf h n p e).ok_apply hs v).trans (bind_identity _)

theorem setter_exists_of_get (h : HashFn) (n : Node) (q : List Bool) (e : Bool) (s : Node)
    (hg : getNode n q = .ok s) : ∃ k, n.setter h q e = .ok k :=
  ((setter_isLinkOf h n q e).ok_iff n).2 (setNode_ok_of_get h hg e n)

/-! ### summaries -/

theorem summaryInto_eq (h : HashFn) (n : Node) (p : List Bool) :
    summaryInto h n p = (fun s _ => setNode h n p false (.leaf (s.root h))) <$> getNode n p := by
  unfold summaryInto
  rw [getter_eq]
  cases hg : getNode n p with
  | ok s =>
    obtain ⟨k, hk⟩ := setter_exists_of_get h n p false s hg
    rw [hk]
    exact congrArg Except.ok (funext fun _ => setter_ok h n p false k hk _)
  | error er =>
    cases getNode_error_nav n p er hg
    cases hk : n.setter h p false with
    | error er' =>
      cases setNode_error_nav h n p false n er' ((setter_isLinkOf h n p false).of_error hk n); rfl
    | ok k =>
      obtain ⟨s, hs⟩ := (setNode_false_ok_iff_get h n p n).1
        (((setter_isLinkOf h n p false).ok_iff n).1 ⟨k, hk⟩)
      rw [hg] at hs; cases hs

theorem summaryInto_apply (h : HashFn) (n : Node) (p : List Bool) :
    (summaryInto h n p >>= fun sl => sl ()) = summarizeInto h n p := by
  rw [summaryInto_eq]
  cases hg : getNode n p with
  | ok s => exact (summarizeInto_of_get h hg).symm
  | error er => cases getNode_error_nav n p er hg; exact (summarizeInto_of_get_error h hg).symm

/-! ### raw indices -/

theorem setterG_isLinkOf (h : HashFn) (n : Node) (g : UInt64) (e : Bool) :
    IsLinkOf (setterG h n g e) (setG h n g e) identity := by
  unfold setterG setG
  by_cases hg : g = 0
  · rw [if_pos hg]
    simp only [if_pos hg]
    cases n with
    | pair l r => exact fun v => ⟨_, rfl, rfl⟩
    | leaf x =>
      cases e with
      | false => exact fun _ => rfl
      | true =>
        by_cases hx : (x == zh h 0) = true
        · simp only [bne, hx, Bool.not_true, Bool.false_eq_true, if_false, if_true]; exact fun _ => rfl
        · simp only [bne, Bool.not_eq_true _ ▸ hx, Bool.not_false, Bool.false_eq_true, if_false, if_true]
          exact fun _ => rfl
  · rw [if_neg hg]
    simp only [if_neg hg]
    exact setter_isLinkOf h n _ e

theorem gbits_length_lt_two (g : Nat) : (gbits g).length < 2 ↔ g < 4 := by
  rw [gbits_length]
  by_cases hg : g = 0
  · subst hg; decide
  · rw [Nat.log2_lt hg]

/-! ### concatenation of generalized indices -/

theorem foldl_bits (q : List Bool) (a : Nat) :
    q.foldl (fun a b => 2 * a + b.toNat) a = a * 2 ^ q.length + q.foldl (fun a b => 2 * a + b.toNat) 0 := by
  induction q generalizing a with
  | nil => simp
  | cons b q ih =>
    simp only [List.foldl_cons, List.length_cons]
    rw [ih (2 * a + b.toNat), ih (2 * 0 + b.toNat), Nat.pow_succ, Nat.add_mul, Nat.add_mul]
    have : 2 * a * 2 ^ q.length = a * (2 ^ q.length * 2) := by
      rw [Nat.mul_comm 2 a, Nat.mul_assoc, Nat.mul_comm 2]
    rw [this]
    simp only [Nat.mul_zero, Nat.zero_mul, Nat.zero_add, Nat.add_assoc]

theorem gindexOfPath_concat (p q : List Bool) :
    gindexOfPath (p ++ q) = gindexOfPath p * 2 ^ q.length + (gindexOfPath q - 2 ^ q.length) := by
  unfold gindexOfPath
  rw [List.foldl_append, foldl_bits q (p.foldl _ 1), foldl_bits q 1, Nat.one_mul]
  omega

end ZtypV.TreeNav2
