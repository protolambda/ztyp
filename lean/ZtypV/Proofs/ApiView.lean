/-
Lemmas for the view-level operations of Model/Api.lean: `CheckIndex` in terms of `Length()`, the
`FieldValues` loop against the iterator's output sequence, and — on backings that represent a
value (`Rep`, Proofs/Rep.lean: closed under every construction route and mutator) — `Get(j)` of a
container, `Value()` of a union, the element types of `valElem`.
-/
import ZtypV.Model.Api
import ZtypV.Proofs.Api
import ZtypV.Proofs.IterNav
import ZtypV.Proofs.ViewSer
import ZtypV.Proofs.RepView
import ZtypV.Proofs.RepMut
import ZtypV.Proofs.RepSim
namespace ZtypV.Api
open ZtypV ZtypV.View ZtypV.View.Iter

theorem tamperLength_pair (l r : Node) (ov : Nat) : tamperLength (.pair l r) ov = .ok (.pair l (lengthNode ov)) := rfl

/-- the errors of `Length()`: no length node, or a stored length above the limit -/
theorem listLength_ne_panic (n : Node) (lim : Nat) : listLength n lim ≠ .error .panic := by
  unfold listLength
  cases n with
  | leaf x => nofun
  | pair l r =>
    cases r with
    | pair a b => nofun
    | leaf x =>
      simp only [getNode, if_true, R.bind_ok, asLeaf]
      split <;> nofun

/-- `Length()` already refuses lengths above the limit: the comparison of the index with the
    limit never decides -/
theorem checkIndex_eq (n : Node) (lim i : Nat) :
    checkIndex n lim i = listLength n lim >>= fun ll => if i < ll then .ok () else .error .other := by
  unfold checkIndex
  cases hl : listLength n lim with
  | error e => rfl
  | ok ll =>
    have hle := (Iter.listLength_ok hl).2
    by_cases h : i < ll
    · simp only [R.bind_ok, if_pos h, if_neg (Nat.not_le_of_lt h),
        if_neg (Nat.not_le_of_lt (Nat.lt_of_lt_of_le h hle))]
    · simp only [R.bind_ok, if_neg h, if_pos (Nat.le_of_not_lt h)]

theorem checkIndex_ok_iff {n : Node} {lim ll : Nat} (h : listLength n lim = .ok ll) (i : Nat) :
    checkIndex n lim i = .ok () ↔ i < ll := by
  rw [checkIndex_eq, h, R.bind_ok]
  split
  · exact ⟨fun _ => ‹_›, fun _ => rfl⟩
  · exact ⟨nofun, fun h => absurd h ‹_›⟩

/-- what the `FieldValues` loop makes of the iterator's successive outputs -/
def outsToFields : List Out → R (List (Ty × Node))
  | [] => .error .panic
  | .err :: _ => .error .other
  | .done :: _ => .ok []
  | .node t n :: rest => do
    let r ← outsToFields rest
    .ok ((t, n) :: r)
  | _ :: _ => .error .other

theorem fieldValuesLoop_eq (m : Nat) (it : AnyIt) :
    fieldValuesLoop m it = outsToFields (runSteps AnyIt.next m it) := by
  induction m generalizing it with
  | zero => rfl
  | succ m ih =>
    rw [fieldValuesLoop, runSteps]
    rcases hn : it.next with ⟨o, it'⟩
    cases o <;> simp only [outsToFields, ih]

/-- the loop stops at the first `done`: the nodes before it are the result -/
theorem outsToFields_nodes {α : Type} (t : α → Ty) (c : α → Node) (rest : List Out) (l : List α) :
    outsToFields (l.map (fun a => .node (t a) (c a)) ++ .done :: rest) =
      .ok (l.map fun a => (t a, c a)) := by
  induction l with
  | nil => rfl
  | cons a l ih => rw [List.map_cons, List.cons_append, outsToFields, ih]; rfl

end ZtypV.Api

-- `Out` is both `Iter.Out` (above) and `Sim.Out`: the two halves of the file open one each
namespace ZtypV.Api
open ZtypV ZtypV.View ZtypV.Sim

/-- `Get(j)` of a container backing that represents the value, for all fields at once: the
    fields' backings `cs j` -/
theorem container_gets_rep (h : HashFn) (fs : List Ty) (vs : List Val) (n : Node)
    (hw : (Ty.container fs).wf = true) (hr : inRange (.container fs) = true)
    (ht : hasType (.container fs) (.seq vs) = true) (hrep : Rep h (.container fs) (.seq vs) n) :
    ∃ cs : Nat → Node, ∀ j (hj : j < fs.length), ∃ x, vs[j]? = some x ∧
      getElemNode (.container fs) n j = .ok (fs[j], cs j) ∧
      subtreeGet n (coverDepth fs.length) j = .ok (cs j) ∧ viewFromBackingOk fs[j] (cs j) = true ∧
      Rep h fs[j] x (cs j) ∧ viewVal fs[j] (cs j) = .ok x := by
  refine ⟨fun j => match subtreeGet n (coverDepth fs.length) j with | .ok c => c | .error _ => n,
    fun j hj => ?_⟩
  have hjv : j < vs.length := fieldsHaveType_length fs vs (by rwa [hasType] at ht) ▸ hj
  have hfj : fs[j]? = some fs[j] := List.getElem?_eq_getElem hj
  have hvj : vs[j]? = some vs[j] := List.getElem?_eq_getElem hjv
  have hg := getElem_rep h (.container fs) (.seq vs) n j hw (depthOk_of_inRange _ hr) ht hrep
  rw [show valElem (.container fs) (.seq vs) j = some (fs[j], vs[j]) by rw [valElem, hfj, hvj]; rfl] at hg
  obtain ⟨en, h1, h2, h3, h4⟩ := hg
  have hsub : subtreeGet n (coverDepth fs.length) j = .ok en := by
    rw [Iter.getElemNode_container fs n j fs[j] hfj] at h1
    cases hs : subtreeGet n (coverDepth fs.length) j <;> rw [hs] at h1 <;> cases h1
    rfl
  simp only [Ty.wf, inRange, Bool.and_eq_true] at hw hr
  simp only [hsub]
  exact ⟨vs[j], hvj, h1, trivial, h3, h2,
    rep_getters h (wfAll_get fs j fs[j] hw.2 hfj) (inRangeAll_get fs j fs[j] hr.2 hfj) h4 h2⟩

/-- `Value()` reads the selector byte back from the right leaf of a union backing -/
theorem unionValue_pair (hasNone : Bool) (opts : List Ty) (c : Node) (sel : Nat) (hsel : sel < 256) :
    unionValue hasNone opts (.pair c (.leaf (chunkOf [UInt8.ofNat sel]))) =
      if sel ≥ opts.length + (if hasNone then 1 else 0) then .error .other
      else if hasNone && sel == 0 then .ok none
      else
        match opts[if hasNone then sel - 1 else sel]? with
        | some t => if viewFromBackingOk t c then .ok (some (t, c)) else .error .other
        | none => .error .panic := by
  have h : (UInt8.ofNat sel).toNat = sel := by rw [UInt8.toNat_ofNat']; exact Nat.mod_eq_of_lt hsel
  simp only [unionValue, getNode_pair_true, getNode_pair_false, getNode_nil, R.bind_ok, asLeaf_leaf,
    chunkOf_single_drop, Bool.false_eq_true, if_false, chunkOf_single_getD, h]
  rfl

theorem valElem_wf (t : Ty) (v : Val) (i : Nat) (et : Ty) (x : Val) (hw : t.wf = true)
    (he : valElem t v i = some (et, x)) : et.wf = true := by
  unfold valElem at he
  split at he <;>
    simp only [Option.map_eq_some_iff, Option.bind_eq_bind, Option.bind_eq_some_iff,
      Option.pure_def, Option.some.injEq, Prod.mk.injEq, reduceCtorEq] at he
  · obtain ⟨_, _, rfl, _⟩ := he
    simp only [Ty.wf, Bool.and_eq_true] at hw
    exact hw.2
  · obtain ⟨_, _, rfl, _⟩ := he
    exact hw
  · obtain ⟨ft, hf, _, _, rfl, _⟩ := he
    simp only [Ty.wf, Bool.and_eq_true] at hw
    exact wfAll_get _ i _ hw.2 hf
  · obtain ⟨_, _, rfl, _⟩ := he
    rfl
  · obtain ⟨_, _, rfl, _⟩ := he
    rfl

end ZtypV.Api
