/-
C02 round trip, decoder completeness for vectors and lists (the converse of Proofs/DecodeSeries.lean, Offsets.lean and DecodeSeq.lean).
The item loops are treated over an arbitrary list of parts, each of which the element decoder
accepts in a sub-scope of its own (`SubOk`); `serList_subOk` provides that for the encodings of
typed values.  In the table `serVarParts` writes the first offset is `4·len`, the offsets are
monotone and below 2^32, and every sub-scope is exactly one element's encoding.
-/
import ZtypV.Proofs.DecodeCompleteBase
namespace ZtypV.DecodeProofs
open ZtypV ZtypV.View

/-! ### items in sub-scopes -/

/-- `f`, run in a sub-scope holding exactly `p`, consumes `p` and leaves the parent's scope as
    it was -/
def SubOk (f : DR → R (Node × DR)) (p : Bytes) : Prop :=
  ∀ (dr : DR) (rest : Bytes), dr.avail = p ++ rest → p.length ≤ dr.scope →
    Ok (dr.inSub p.length f) (fun r => r.2.avail = rest ∧ r.2.scope = dr.scope)

theorem serList_subOk {h : HashFn} {e : Ty} (he : Complete h e) :
    ∀ (vs : List Val), allHaveType e vs = true → (serList e vs).flatten.length < 2 ^ 32 →
      ∀ p ∈ serList e vs, SubOk (fun d => decode h e d) p := by
  intro vs
  induction vs with
  | nil => intro _ _ p hp; cases hp
  | cons v vs ih =>
    intro hvs hlt p hp
    rw [allHaveType, Bool.and_eq_true] at hvs
    rw [serList_cons] at hp
    rw [serList_cons, List.flatten_cons, List.length_append] at hlt
    cases hp with
    | head =>
      exact fun dr rest hav hsc => inSub_decode_complete he hvs.1
        (Nat.lt_of_le_of_lt (Nat.le_add_right _ _) hlt) hav hsc
    | tail _ hp => exact ih hvs.2 (Nat.lt_of_le_of_lt (Nat.le_add_left _ _) hlt) p hp

/-! ### series of fixed-size elements -/

theorem fixedItems_complete {f : DR → R (Node × DR)} {size : Nat} :
    ∀ (ps : List Bytes) (dr : DR) (rest : Bytes), (∀ p ∈ ps, SubOk f p) →
      (∀ p ∈ ps, p.length = size) → size ≤ dr.scope → dr.avail = ps.flatten ++ rest →
      Ok (decodeFixedItems f size ps.length dr)
        (fun r => r.1.length = ps.length ∧ r.2.avail = rest) := by
  intro ps
  induction ps with
  | nil =>
    intro dr rest _ _ _ hav
    rw [List.length_nil, decodeFixedItems]
    exact Ok.pure ⟨rfl, hav⟩
  | cons p ps ih =>
    intro dr rest hf hsz hsc hav
    rw [List.flatten_cons, List.append_assoc] at hav
    obtain ⟨hfp, hfs⟩ := List.forall_mem_cons.mp hf
    obtain ⟨rfl, hszs⟩ := List.forall_mem_cons.mp hsz
    rw [List.length_cons, decodeFixedItems]
    apply Ok.bind (hfp dr _ hav hsc)
    rintro ⟨x, d1⟩ ⟨ha, hs⟩
    dsimp only
    apply Ok.bind (ih d1 rest hfs hszs (Nat.le_trans hsc (Nat.le_of_eq hs.symm)) ha)
    rintro ⟨xs, d2⟩ ⟨hl2, ha2⟩
    exact Ok.pure ⟨congrArg (· + 1) hl2, ha2⟩

/-! ### offset tables -/

theorem natOffsets_mono : ∀ (ps : List Bytes) (start p : Nat), p ≤ start →
    Mono p (natOffsets start ps) := by
  intro ps
  induction ps with
  | nil => intro _ _ _; trivial
  | cons q ps ih =>
    intro start p hp
    exact ⟨hp, ih _ _ (Nat.le_add_right _ _)⟩

theorem serVarParts_cons (p : Bytes) (ps : List Bytes) :
    serVarParts (p :: ps) = leBytes 4 (4 * (ps.length + 1)) ++
      (((natOffsets (4 * (ps.length + 1) + p.length) ps).map (leBytes 4)).flatten ++
        (p :: ps).flatten) := by
  rw [serVarParts, List.length_cons, offsetsOf, offsetsOf_eq_map, List.flatten_cons,
    List.append_assoc]

theorem readOffsets_complete : ∀ (os : List Nat) (prev : Nat) (dr : DR) (rest : Bytes),
    Mono prev os → (∀ o ∈ os, o < 2 ^ 32) → 4 * os.length ≤ dr.scope →
    dr.avail = (os.map (leBytes 4)).flatten ++ rest →
    Ok (readOffsets os.length prev dr)
      (fun r => r.1 = os ∧ r.2.avail = rest ∧ dr.scope = 4 * os.length + r.2.scope) := by
  intro os
  induction os with
  | nil =>
    intro prev dr rest _ _ _ hav
    rw [List.length_nil, readOffsets]
    exact Ok.pure ⟨rfl, hav, (Nat.zero_add _).symm⟩
  | cons o os ih =>
    intro prev dr rest hm hlt hi hav
    rw [List.map_cons, List.flatten_cons, List.append_assoc] at hav
    obtain ⟨hlo, hlos⟩ := List.forall_mem_cons.mp hlt
    rw [List.length_cons, readOffsets]
    apply Ok.bind (readOffset_complete hav hlo
      (Nat.le_trans (Nat.le_mul_of_pos_right 4 (Nat.succ_pos _)) hi))
    rintro ⟨o', d1⟩ ⟨rfl, ha, hs1⟩
    dsimp only at hs1 ⊢
    rw [← hs1, List.length_cons, Nat.mul_succ] at hi
    apply Ok.ite_err (Nat.not_lt.mpr hm.1)
    apply Ok.bind (ih o' d1 rest hm.2 hlos (Nat.le_of_add_le_add_right hi) ha)
    rintro ⟨os', d2⟩ ⟨rfl, ha2, hs2⟩
    refine Ok.pure ⟨rfl, ha2, ?_⟩
    rw [← hs1, hs2, Nat.mul_succ, Nat.add_right_comm]

/-- items delimited by the offsets of their own encodings: every sub-scope is exactly one
    part, the last one ends at `scope` -/
theorem offsetItems_complete {f : DR → R (Node × DR)} (scope : Nat) :
    ∀ (ps : List Bytes) (p : Bytes) (o : Nat) (dr : DR) (rest : Bytes),
      (∀ q ∈ p :: ps, SubOk f q) → o + (p :: ps).flatten.length = scope →
      (p :: ps).flatten.length ≤ dr.scope → dr.avail = (p :: ps).flatten ++ rest →
      Ok (decodeOffsetItems f scope (o :: natOffsets (o + p.length) ps) dr)
        (fun r => r.1.length = ps.length + 1 ∧ r.2.avail = rest) := by
  intro ps
  induction ps with
  | nil =>
    intro p o dr rest hf hsum hsc hav
    rw [show [p].flatten = p from List.append_nil p] at hsum hsc hav
    subst hsum
    rw [natOffsets, decodeOffsetItems]
    apply Ok.ite_err (Nat.not_lt.mpr (Nat.le_add_right _ _))
    rw [Nat.add_sub_cancel_left]
    apply Ok.bind (hf p List.mem_cons_self dr rest hav hsc)
    rintro ⟨x, d1⟩ ⟨ha, _⟩
    exact Ok.pure ⟨rfl, ha⟩
  | cons p' ps ih =>
    intro p o dr rest hf hsum hsc hav
    obtain ⟨hfp, hfs⟩ := List.forall_mem_cons.mp hf
    rw [List.flatten_cons, List.length_append] at hsum hsc
    rw [List.flatten_cons, List.append_assoc] at hav
    rw [natOffsets, decodeOffsetItems, Nat.add_sub_cancel_left]
    apply Ok.bind (hfp dr _ hav (Nat.le_trans (Nat.le_add_right _ _) hsc))
    rintro ⟨x, d1⟩ ⟨ha, hs⟩
    dsimp only
    apply Ok.bind (ih p' (o + p.length) d1 rest hfs ((Nat.add_assoc _ _ _).trans hsum)
      (Nat.le_trans (Nat.le_add_left _ _) (Nat.le_trans hsc (Nat.le_of_eq hs.symm))) ha)
    rintro ⟨xs, d2⟩ ⟨hl2, ha2⟩
    exact Ok.pure ⟨congrArg (· + 1) hl2, ha2⟩

/-- on the encoding `serVarParts` of `k + 1` parts the three steps of the decoder (first offset,
    the remaining offsets, the items) all succeed -/
theorem varSeries_complete {f : DR → R (Node × DR)} (qs : List Bytes) (k : Nat)
    (hk : qs.length = k + 1) (dr : DR) (rest : Bytes) (hf : ∀ q ∈ qs, SubOk f q)
    (hlt : (serVarParts qs).length < 2 ^ 32) (hsc : dr.scope = (serVarParts qs).length)
    (hav : dr.avail = serVarParts qs ++ rest) :
    Ok dr.readOffset (fun r1 => r1.1 = 4 * (k + 1) ∧
      Ok (readOffsets k r1.1 r1.2) (fun r2 =>
        Ok (decodeOffsetItems f dr.scope (r1.1 :: r2.1) r2.2)
          (fun r3 => r3.1.length = k + 1 ∧ r3.2.avail = rest))) := by
  cases qs with
  | nil => cases hk
  | cons p ps =>
    obtain rfl : ps.length = k := Nat.succ.inj hk
    rw [serVarParts_length, List.length_cons] at hlt hsc
    rw [serVarParts_cons, List.append_assoc, List.append_assoc] at hav
    apply Ok.mono (readOffset_complete hav (Nat.lt_of_le_of_lt (Nat.le_add_right _ _) hlt)
      (hsc ▸ Nat.le_trans (Nat.le_mul_of_pos_right 4 (Nat.succ_pos _)) (Nat.le_add_right _ _)))
    rintro ⟨first, d1⟩ ⟨rfl, ha1, hs1⟩
    refine ⟨rfl, ?_⟩
    have hs1' : d1.scope = 4 * ps.length + (p :: ps).flatten.length :=
      Nat.add_right_cancel (hs1.trans (hsc.trans (by rw [Nat.mul_succ, Nat.add_right_comm])))
    have hro := readOffsets_complete _ (4 * (ps.length + 1)) d1 _
      (natOffsets_mono ps _ _ (Nat.le_add_right _ _))
      (fun o ho => Nat.lt_of_le_of_lt (natOffsets_le _ _ o ho) (by
        rw [List.flatten_cons, List.length_append, ← Nat.add_assoc] at hlt
        exact hlt))
      (by rw [natOffsets_length, hs1']; exact Nat.le_add_right _ _) ha1
    rw [natOffsets_length] at hro
    apply Ok.mono hro
    rintro ⟨os, d2⟩ ⟨rfl, ha2, hs2⟩
    exact offsetItems_complete dr.scope ps p _ d2 rest hf hsc.symm
      (Nat.le_of_eq (Nat.add_left_cancel (hs2.symm.trans hs1')).symm) ha2

/-! ### vector -/

theorem serialize_vector (e : Ty) (k : Nat) (vs : List Val) :
    serialize (.vector e k) (.seq vs)
      = if e.isFixed then (serList e vs).flatten else serVarParts (serList e vs) := by
  unfold serialize
  rfl

theorem vector_complete {h : HashFn} {e : Ty} (he : Complete h e) (hwe : e.wf = true) (k : Nat)
    (hk : 1 ≤ k) : Complete h (.vector e k) := by
  intro v dr rest hv hlt hsc hi hav
  obtain ⟨vs, rfl, rfl, hvs⟩ := hasType_vector_elim hv
  unfold decode
  by_cases hb : isBasicElem e = true
  · rw [if_pos hb]
    obtain ⟨b, rfl⟩ := basic_is_uint hb
    have hfx : (Ty.uint b).isFixed = true := rfl
    rw [serialize_vector, if_pos hfx] at hsc hav
    have hr := read_complete hav (Nat.le_of_eq hsc.symm)
    rw [← hsc] at hr
    rw [serList_flatten_length_fixed hfx vs hvs] at hsc
    apply Ok.ite_err (fun hne => hne hsc.symm)
    apply Ok.bind hr
    rintro ⟨bs, dr'⟩ ⟨rfl, h2, -, -⟩
    dsimp only
    refine Ok.orNil_bind ?_ (fun _ => Ok.pure h2)
    exact fill_basic_ok h (wf_uint hwe) (Nat.le_refl _) (serList_flatten_length_fixed hfx vs hvs)
  · rw [if_neg hb]
    by_cases hf : e.isFixed = true
    · rw [if_pos hf]
      rw [serialize_vector, if_pos hf] at hlt hsc hav
      have hsub := serList_subOk he vs hvs hlt
      rw [serList_flatten_length_fixed hf vs hvs] at hsc
      apply Ok.ite_err (fun hne => hne hsc.symm)
      have hit := fixedItems_complete (serList e vs) dr rest hsub (serList_fixed_length hf vs hvs)
        (hsc ▸ Nat.le_mul_of_pos_left _ hk) hav
      rw [serList_length] at hit
      apply Ok.bind hit
      rintro ⟨ns, dr'⟩ ⟨hl, h2⟩
      exact Ok.orNil_bind (fill_nodes_ok h ns vs.length (Nat.le_of_eq hl)) (fun _ => Ok.pure h2)
    · rw [if_neg hf, if_neg (Nat.ne_of_gt hk)]
      rw [serialize_vector, if_neg hf] at hlt hsc hav
      cases vs with
      | nil => exact absurd hk (by decide)
      | cons v0 vs' =>
        have hsub := serList_subOk he _ hvs (Nat.lt_of_le_of_lt (Nat.le_add_left _ _)
          (serVarParts_length _ ▸ hlt))
        apply Ok.bind (varSeries_complete _ vs'.length (serList_length e _) dr rest hsub hlt hsc hav)
        rintro ⟨first, d1⟩ ⟨rfl, h2⟩
        dsimp only
        apply Ok.ite_err (fun hne => hne (Nat.mul_comm _ _))
        apply Ok.bind h2
        rintro ⟨os, d2⟩ h3
        apply Ok.bind h3
        rintro ⟨ns, d3⟩ ⟨hl, ha3⟩
        exact Ok.orNil_bind (fill_nodes_ok h ns _ (Nat.le_of_eq hl)) (fun _ => Ok.pure ha3)

/-! ### list -/

theorem serialize_list (e : Ty) (lim : Nat) (vs : List Val) :
    serialize (.list e lim) (.seq vs)
      = if e.isFixed then (serList e vs).flatten else serVarParts (serList e vs) := by
  unfold serialize
  rfl

theorem serialize_list_nil (e : Ty) (lim : Nat) : serialize (.list e lim) (.seq []) = [] := by
  rw [serialize_list, serList]
  cases e.isFixed <;> rfl

theorem list_complete {h : HashFn} {e : Ty} (he : Complete h e) (hwe : e.wf = true) (lim : Nat) :
    Complete h (.list e lim) := by
  intro v dr rest hv hlt hsc hi hav
  obtain ⟨vs, rfl, hvl, hvs⟩ := hasType_list_elim hv
  unfold decode
  by_cases hb : isBasicElem e = true
  · rw [if_pos hb]
    obtain ⟨b, rfl⟩ := basic_is_uint hb
    have hfx : (Ty.uint b).isFixed = true := rfl
    rw [serialize_list, if_pos hfx] at hsc hav
    have hr := read_complete hav (Nat.le_of_eq hsc.symm)
    rw [← hsc] at hr
    have hfl := serList_flatten_length_fixed hfx vs hvs
    rw [hfl] at hsc
    have hdiv : dr.scope / (Ty.uint b).fixedSize = vs.length :=
      (congrArg (· / (Ty.uint b).fixedSize) hsc).trans
        (Nat.mul_div_cancel _ (fixedSize_pos _ hwe hfx))
    dsimp only
    rw [hdiv]
    apply Ok.ite_err (Nat.not_lt.mpr hvl)
    apply Ok.ite_err (fun hne => hne hsc.symm)
    refine Ok.ite (fun h0 => ?_) (fun _ => ?_)
    · obtain rfl := List.eq_nil_of_length_eq_zero h0
      exact Ok.pure hav
    · apply Ok.bind hr
      rintro ⟨bs, dr'⟩ ⟨rfl, h2, -, -⟩
      dsimp only
      refine Ok.orNil_bind ?_ (fun _ => Ok.pure h2)
      exact fill_basic_ok h (wf_uint hwe) hvl hfl
  · rw [if_neg hb]
    cases vs with
    | nil =>
      rw [serialize_list_nil] at hsc hav
      exact Ok.ite (fun _ => Ok.pure hav) (fun hne => absurd hsc hne)
    | cons v0 vs' =>
      rw [List.length_cons] at hvl
      by_cases hf : e.isFixed = true
      · rw [serialize_list, if_pos hf] at hlt hsc hav
        have hsub := serList_subOk he _ hvs hlt
        have hfl := serList_flatten_length_fixed hf (v0 :: vs') hvs
        rw [List.length_cons] at hfl
        rw [hfl] at hsc
        have hpos := fixedSize_pos e hwe hf
        have hne : dr.scope ≠ 0 := by
          rw [hsc]; exact Nat.ne_of_gt (Nat.mul_pos (Nat.succ_pos _) hpos)
        rw [if_neg hne, if_pos hf]
        apply Ok.ite_err (Nat.ne_of_gt hpos)
        have hdiv : dr.scope / e.fixedSize = vs'.length + 1 :=
          (congrArg (· / e.fixedSize) hsc).trans (Nat.mul_div_cancel _ hpos)
        rw [hdiv]
        apply Ok.ite_err (Nat.not_lt.mpr hvl)
        apply Ok.ite_err (fun hne => hne hsc.symm)
        have hit := fixedItems_complete (serList e (v0 :: vs')) dr rest hsub
          (serList_fixed_length hf _ hvs)
          (hsc ▸ Nat.le_mul_of_pos_left _ (Nat.succ_pos _)) hav
        rw [serList_length, List.length_cons] at hit
        apply Ok.bind hit
        rintro ⟨ns, dr'⟩ ⟨hl, h2⟩
        exact Ok.orNil_bind (fill_nodes_ok h ns lim (hl ▸ hvl)) (fun _ => Ok.pure h2)
      · rw [serialize_list, if_neg hf] at hlt hsc hav
        have hlen := serVarParts_length (serList e (v0 :: vs'))
        rw [serList_length, List.length_cons] at hlen
        have hsub := serList_subOk he _ hvs (Nat.lt_of_le_of_lt (Nat.le_add_left _ _)
          (serVarParts_length _ ▸ hlt))
        have h4 : 0 < 4 * (vs'.length + 1) := Nat.mul_pos (Nat.succ_pos 3) (Nat.succ_pos _)
        have hle : 4 * (vs'.length + 1) ≤ dr.scope := by
          rw [hsc, hlen]; exact Nat.le_add_right _ _
        rw [if_neg (Nat.ne_of_gt (Nat.lt_of_lt_of_le h4 hle)), if_neg hf]
        apply Ok.bind (varSeries_complete _ vs'.length (serList_length e _) dr rest hsub hlt hsc hav)
        rintro ⟨first, d1⟩ ⟨rfl, h2⟩
        dsimp only
        apply Ok.ite_err (fun hne => hne (Nat.mul_mod_right 4 _))
        apply Ok.ite_err (fun hor => hor.elim (Nat.ne_of_gt h4) (Nat.not_lt.mpr hle))
        rw [Nat.mul_div_cancel_left _ (Nat.succ_pos 3)]
        apply Ok.ite_err (Nat.not_lt.mpr hvl)
        apply Ok.bind h2
        rintro ⟨os, d2⟩ h3
        apply Ok.bind h3
        rintro ⟨ns, d3⟩ ⟨hl, ha3⟩
        exact Ok.orNil_bind (fill_nodes_ok h ns lim (hl ▸ hvl)) (fun _ => Ok.pure ha3)

end ZtypV.DecodeProofs
