/-
View-level lemmas shared by the read-side proofs: the side conditions `inRange`, `offsetFree`,
`SizeOk`; the arithmetic of series packed several elements to a chunk and the read of a packed
element; induction over typed values (`typed_induct`); lengths of encodings; the offset writers
of `Serialize`.
-/
import ZtypV.Model.View
import ZtypV.Proofs.FillGet
import ZtypV.Proofs.SerSize
namespace ZtypV.View

/-! ### the supported range of types

`tree.ToGindex64` rejects depth ≥ 64 and list/bitlist views navigate one level above their
contents (length mix-in); list limits are `uint64` in Go.  `Ty.wf` does not bound limits, so the
C02 theorems carry this decidable side condition.  It holds whenever every limit / length /
field count is at most `2^62` (`inRange_of_small`). -/
mutual
def inRange : Ty → Bool
  | .uint _ | .bool | .bytesN _ => true
  | .bitvector n => bitDepth n < 64
  | .bitlist lim => lim < 2 ^ 64 && bitDepth lim + 1 < 64
  | .vector e n => seriesDepth e n < 64 && inRange e
  | .list e lim => lim < 2 ^ 64 && seriesDepth e lim + 1 < 64 && inRange e
  | .container fs => coverDepth fs.length < 64 && inRangeAll fs
  | .union _ opts => inRangeAll opts
def inRangeAll : List Ty → Bool
  | [] => true
  | t :: ts => inRange t && inRangeAll ts
end

/-- the `…All` companions of the recursive predicates on types are `List.all` -/
theorem inRangeAll_eq : ∀ ts : List Ty, inRangeAll ts = ts.all inRange
  | [] => rfl
  | t :: ts => by rw [inRangeAll, List.all_cons, inRangeAll_eq ts]

theorem wfAll_eq : ∀ ts : List Ty, Ty.wfAll ts = ts.all Ty.wf
  | [] => rfl
  | t :: ts => by rw [Ty.wfAll, List.all_cons, wfAll_eq ts]

theorem all_get {α : Type} {p : α → Bool} {l : List α} (h : l.all p = true) {k : Nat} {a : α}
    (hk : l[k]? = some a) : p a = true :=
  List.all_eq_true.mp h a (List.mem_of_getElem? hk)

theorem inRangeAll_get (ts : List Ty) (k : Nat) (t : Ty) (h : inRangeAll ts = true)
    (hk : ts[k]? = some t) : inRange t = true :=
  all_get (inRangeAll_eq ts ▸ h) hk

theorem wfAll_get (ts : List Ty) (k : Nat) (t : Ty) (h : Ty.wfAll ts = true)
    (hk : ts[k]? = some t) : t.wf = true :=
  all_get (wfAll_eq ts ▸ h) hk

/-! ### leaves and single chunks -/

@[simp] theorem asLeaf_leaf (r : Root) : asLeaf (.leaf r) = .ok r := rfl

theorem chunkOf_single_drop (x : UInt8) : ((chunkOf [x]).drop 1).any (· != 0) = false := rfl

theorem chunkOf_single_getD (x : UInt8) : (chunkOf [x]).getD 0 0 = x := rfl

theorem chunkOf_zeros (k : Nat) : chunkOf (List.replicate k 0) = z0 := by
  unfold chunkOf z0
  rw [List.replicate_append_replicate, List.take_replicate]
  congr 1 <;> omega

/-! ### element types, union options -/

theorem isBasicElem_uint {e : Ty} (hb : isBasicElem e = true) : ∃ b, e = .uint b := by
  cases e <;> simp [isBasicElem] at hb
  exact ⟨_, rfl⟩

theorem not_fixed_not_basic {e : Ty} (hfx : e.isFixed = false) : isBasicElem e = false := by
  cases e <;> simp [isBasicElem, Ty.isFixed] at hfx ⊢

theorem seriesDepth_complex {e : Ty} (hb : isBasicElem e = false) (k : Nat) :
    seriesDepth e k = coverDepth k := by simp [seriesDepth, hb]

/-! ### packed series: elements of `b` bytes, `p` to a 32-byte chunk

Stated for variables with `b * p = 32`; the legal uint widths enter through `uint_per`. -/

theorem uint_perNode {b : Nat} (hb : b = 1 ∨ b = 2 ∨ b = 4 ∨ b = 8 ∨ b = 32) :
    b * perNode b = 32 := by
  rcases hb with rfl | rfl | rfl | rfl | rfl <;> rfl

theorem uint_per {b : Nat} (hw : (Ty.uint b).wf = true) : b * perNode b = 32 :=
  uint_perNode (wf_uint hw)

theorem per_pos {b p : Nat} (hp : b * p = 32) : 0 < b ∧ 0 < p :=
  ⟨Nat.pos_of_ne_zero (by rintro rfl; simp at hp), Nat.pos_of_ne_zero (by rintro rfl; simp at hp)⟩

theorem div_lt_ceilDiv {p i N : Nat} (hp : 0 < p) (hi : i < N) : i / p < (N + p - 1) / p := by
  rw [Nat.div_lt_iff_lt_mul hp]
  have := Nat.lt_div_mul_add (a := N + p - 1) hp
  omega

theorem ceilDiv_succ {p : Nat} (hp : 0 < p) (i : Nat) : (i + 1 + p - 1) / p = i / p + 1 := by
  rw [show i + 1 + p - 1 = i + p by omega, Nat.add_div_right _ hp]

theorem ceilDiv_eq {p : Nat} (hp : 0 < p) (i : Nat) :
    (i + p - 1) / p = if i % p = 0 then i / p else i / p + 1 := by
  have h := Nat.div_add_mod i p
  have hlt := Nat.mod_lt i hp
  split
  · rw [show i + p - 1 = p * (i / p) + (p - 1) by omega, Nat.mul_add_div hp,
      Nat.div_eq_of_lt (by omega : p - 1 < p)]; rfl
  · rw [show i + p - 1 = p * (i / p + 1) + (i % p - 1) by rw [Nat.mul_succ]; omega,
      Nat.mul_add_div hp, Nat.div_eq_of_lt (by omega : i % p - 1 < p)]

/-- `N` elements fill `⌈N / p⌉` chunks -/
theorem ceilDiv_bytes {b p : Nat} (hp : b * p = 32) (N : Nat) :
    (b * N + 31) / 32 = (N + p - 1) / p := by
  obtain ⟨hb0, hp0⟩ := per_pos hp
  have h31 : 31 / b = p - 1 := by
    apply Nat.div_eq_of_lt_le
    · rw [Nat.sub_mul, Nat.mul_comm p b, hp]; omega
    · rw [Nat.sub_add_cancel hp0, Nat.mul_comm p b, hp]; omega
  rw [← hp, ← Nat.div_div_eq_div_mul, Nat.mul_add_div hb0, h31, Nat.add_sub_assoc hp0]

/-- element `i` starts at byte `b * i`, which is offset `b * (i % p)` of chunk `i / p`, and
    ends inside that chunk -/
theorem packed_pos {b p : Nat} (hp : b * p = 32) (i : Nat) :
    b * i = 32 * (i / p) + b * (i % p) ∧ b * (i % p) + b ≤ 32 := by
  refine ⟨by rw [← hp, Nat.mul_assoc, ← Nat.mul_add, Nat.div_add_mod], ?_⟩
  rw [← Nat.mul_succ, ← hp]
  exact Nat.mul_le_mul_left b (Nat.mod_lt _ (per_pos hp).2)

theorem bottomNodes_eq (b k : Nat) (hb : b = 1 ∨ b = 2 ∨ b = 4 ∨ b = 8 ∨ b = 32) :
    bottomNodes b k = (k * b + 31) / 32 := by
  rw [Nat.mul_comm, ceilDiv_bytes (uint_perNode hb)]; rfl

/-- `k` bits, 8 to a byte and 32 bytes to a chunk, fill `⌈k / 256⌉` chunks -/
theorem bits_chunks (k : Nat) : ((k + 7) / 8 + 31) / 32 = (k + 255) / 256 := by
  have h1 : (k + 7) / 8 + 31 = (k + 7 + 31 * 8) / 8 := (Nat.add_mul_div_right _ _ (by decide)).symm
  rw [h1, Nat.div_div_eq_div_mul]

/-- the packed bits of a bitfield of at most `lim` bits fit the contents depth of `lim` -/
theorem bits_fit (k lim : Nat) (hle : k ≤ lim) : ((k + 7) / 8 + 31) / 32 ≤ 2 ^ bitDepth lim := by
  rw [bits_chunks]
  exact Nat.le_trans (Nat.div_le_div_right (Nat.add_le_add_right hle 255))
    (le_two_pow_coverDepth _)

/-- a packed uint series of at most `n` elements fits the contents depth of `n` -/
theorem basic_fit {b : Nat} (hp : b * perNode b = 32) {k n : Nat} (hle : k ≤ n) :
    (k * b + 31) / 32 ≤ 2 ^ seriesDepth (.uint b) n := by
  have hmono : (k * b + 31) / 32 ≤ bottomNodes b n := by
    rw [Nat.mul_comm, ceilDiv_bytes hp]
    exact Nat.div_le_div_right (Nat.sub_le_sub_right (Nat.add_le_add_right hle _) 1)
  exact Nat.le_trans hmono (le_two_pow_coverDepth _)

/-! ### typed values: components, induction -/

theorem fieldsHaveType_getElem : ∀ (fs : List Ty) (vs : List Val), fieldsHaveType fs vs = true →
    ∀ j (h1 : j < fs.length) (h2 : j < vs.length), hasType fs[j] vs[j] = true := by
  intro fs
  induction fs with
  | nil => intro vs _ j h1; simp at h1
  | cons t ts ih =>
    intro vs hft j h1 h2
    cases vs with
    | nil => simp at h2
    | cons v vs =>
      simp only [fieldsHaveType, Bool.and_eq_true] at hft
      cases j with
      | zero => exact hft.1
      | succ j => exact ih vs hft.2 j (by simpa using h1) (by simpa using h2)

/-- Induction over the typed values of well-formed types: one case for each way a value has a
    type, with the typing facts of its components unpacked. -/
theorem typed_induct {P : Ty → Val → Prop}
    (uint : ∀ b k, (b = 1 ∨ b = 2 ∨ b = 4 ∨ b = 8 ∨ b = 32) → k < 256 ^ b → P (.uint b) (.num k))
    (bool : ∀ b, P .bool (.bool b))
    (bytesN : ∀ k bs, 1 ≤ k → k ≤ 32 → bs.length = k → P (.bytesN k) (.bytes bs))
    (bitvector : ∀ k bs, bs.length = k → P (.bitvector k) (.bits bs))
    (bitlist : ∀ lim bs, bs.length ≤ lim → P (.bitlist lim) (.bits bs))
    (vector : ∀ e k vs, 1 ≤ k → e.wf = true → vs.length = k → allHaveType e vs = true →
      (∀ v ∈ vs, P e v) → P (.vector e k) (.seq vs))
    (list : ∀ e lim vs, e.wf = true → vs.length ≤ lim → allHaveType e vs = true →
      (∀ v ∈ vs, P e v) → P (.list e lim) (.seq vs))
    (container : ∀ fs vs, Ty.wfAll fs = true → fs.length = vs.length →
      fieldsHaveType fs vs = true →
      (∀ j (h1 : j < fs.length) (h2 : j < vs.length), P fs[j] vs[j]) → P (.container fs) (.seq vs))
    (unionNone : ∀ opts, P (.union true opts) (.union 0 .none))
    (unionSome : ∀ hasNone opts sel v t, unionOpt hasNone opts sel = some t → v ≠ .none →
      sel < 256 → t.wf = true → hasType t v = true → P t v → P (.union hasNone opts) (.union sel v)) :
    ∀ t v, t.wf = true → hasType t v = true → P t v := by
  intro t v
  induction v using Val.induct generalizing t with
  | num k =>
    intro hw ht
    cases t <;> try cases ht
    simp only [hasType, decide_eq_true_eq] at ht
    exact uint _ k (wf_uint hw) ht
  | bool b =>
    intro hw ht
    cases t <;> try cases ht
    exact bool b
  | bytes bs =>
    intro hw ht
    cases t <;> try cases ht
    simp only [hasType, beq_iff_eq] at ht
    simp only [Ty.wf, Bool.and_eq_true, decide_eq_true_eq] at hw
    exact bytesN _ bs hw.1 hw.2 ht
  | bits bs =>
    intro hw ht
    cases t <;> try cases ht
    · exact bitvector _ bs (by simpa only [hasType, beq_iff_eq] using ht)
    · exact bitlist _ bs (by simpa only [hasType, decide_eq_true_eq] using ht)
  | seq vs ih =>
    intro hw ht
    cases t <;> try cases ht
    · simp only [hasType, Bool.and_eq_true, beq_iff_eq] at ht
      simp only [Ty.wf, Bool.and_eq_true, decide_eq_true_eq] at hw
      exact vector _ _ vs hw.1 hw.2 ht.1 ht.2 (fun v hv =>
        ih v hv _ hw.2 (allHaveType_mem _ vs ht.2 v hv))
    · simp only [hasType, Bool.and_eq_true, decide_eq_true_eq] at ht
      simp only [Ty.wf] at hw
      exact list _ _ vs hw ht.1 ht.2 (fun v hv => ih v hv _ hw (allHaveType_mem _ vs ht.2 v hv))
    · rename_i fs
      simp only [hasType] at ht
      simp only [Ty.wf, Bool.and_eq_true] at hw
      exact container fs vs hw.2 (fieldsHaveType_length fs vs ht) ht (fun j h1 h2 =>
        ih vs[j] (List.getElem_mem h2) fs[j] (wfAll_get fs j _ hw.2 (List.getElem?_eq_getElem h1))
          (fieldsHaveType_getElem fs vs ht j h1 h2))
  | none => intro _ ht; rw [hasType_none] at ht; cases ht
  | union sel v ih =>
    intro hw ht
    cases t <;> try cases ht
    rename_i hasNone opts
    simp only [hasType] at ht
    cases ho : unionOpt hasNone opts sel with
    | none =>
      simp only [ho, Bool.and_eq_true, beq_iff_eq] at ht
      obtain ⟨⟨hn, hsel⟩, hv⟩ := ht
      subst hn; subst hsel
      cases v <;> simp at hv
      exact unionNone opts
    | some t =>
      simp only [ho] at ht
      simp only [Ty.wf, Bool.and_eq_true, decide_eq_true_eq] at hw
      obtain ⟨hlt, _, hget⟩ := unionOpt_some ho
      have hwt := wfAll_get opts _ t hw.1.2 hget
      exact unionSome hasNone opts sel v t ho
        (by intro hv; subst hv; rw [hasType_none] at ht; cases ht) (by omega) hwt ht (ih t hwt ht)

/-! ### encodings of series and containers -/

theorem basic_flatten_length (b : Nat) (vs : List Val) (ht : allHaveType (.uint b) vs = true) :
    (serList (.uint b) vs).flatten.length = vs.length * b :=
  serList_flatten_length_fixed (e := .uint b) rfl vs ht

theorem var_series_length (ps : List Bytes) (k : Nat) (hk : ps.length = k) :
    k * 4 + (ps.map List.length).sum = (serVarParts ps).length := by
  rw [serVarParts_length, List.length_flatten, hk]; omega

theorem serFields_getElem : ∀ (fs : List Ty) (vs : List Val) (j : Nat) (h1 : j < fs.length)
    (h2 : j < vs.length), (serFields fs vs)[j]'(by simp; omega) = (fs[j].isFixed, serialize fs[j] vs[j]) := by
  intro fs
  induction fs with
  | nil => intro vs j h1; simp at h1
  | cons t ts ih =>
    intro vs j h1 h2
    cases vs with
    | nil => simp at h2
    | cons v vs =>
      cases j with
      | zero => rfl
      | succ j => exact ih vs j (Nat.lt_of_succ_lt_succ h1) (Nat.lt_of_succ_lt_succ h2)

theorem vector_ser_ge (e : Ty) (k : Nat) (vs : List Val) :
    (serList e vs).flatten.length ≤ (serialize (.vector e k) (.seq vs)).length := by
  simp only [serialize]
  split
  · exact Nat.le_refl _
  · rw [serVarParts_length]; omega

theorem list_ser_ge (e : Ty) (k : Nat) (vs : List Val) :
    (serList e vs).flatten.length ≤ (serialize (.list e k) (.seq vs)).length := by
  simp only [serialize]
  split
  · exact Nat.le_refl _
  · rw [serVarParts_length]; omega

theorem elem_ser_le (e : Ty) (vs : List Val) (i : Nat) (hi : i < vs.length) :
    (serialize e vs[i]).length ≤ (serList e vs).flatten.length := by
  apply mem_le_flatten_length
  rw [← serList_getElem e vs i hi]
  exact List.getElem_mem _

theorem field_ser_le (fs : List Ty) (vs : List Val) (j : Nat) (h1 : j < fs.length)
    (h2 : j < vs.length) :
    (serialize fs[j] vs[j]).length ≤ (serContainerParts (serFields fs vs)).length := by
  rw [serContainerParts_length]
  have hm : (fs[j].isFixed, serialize fs[j] vs[j]) ∈ serFields fs vs := by
    rw [← serFields_getElem fs vs j h1 h2]
    exact List.getElem_mem _
  exact part_le_serContainerParts _ _ hm

/-- cutting the concatenated chunks at `L ≥ length` and zero-extending to `L` -/
theorem chunks_take_pad (bs : Bytes) (L : Nat) (hL : bs.length ≤ L) :
    (chunks bs).flatten.take L ++ List.replicate (L - ((chunks bs).flatten.take L).length) 0
      = bs ++ List.replicate (L - bs.length) 0 := by
  rw [chunks_flatten ((bs.length + 31) / 32) bs (by omega) (by omega), List.take_append,
    List.take_of_length_le hL, List.take_replicate, List.length_append, List.length_replicate,
    List.append_assoc, List.replicate_append_replicate]
  congr 2; omega

theorem serList_eq_map (e : Ty) (vs : List Val) : serList e vs = vs.map (serialize e) := by
  induction vs with
  | nil => rfl
  | cons v vs ih => simp [serList, ih]

/-! ### reading a packed element -/

/-- element `i` of a byte string of `b`-byte elements, `p` to a chunk, lies in chunk `i / p`
    at offset `b * (i % p)` -/
theorem packed_elem {b p : Nat} (hp : b * p = 32) (bytes : Bytes) {n i : Nat}
    (hfl : bytes.length = n * b) (hi : i < n) :
    i / p < (bytes.length + 31) / 32 ∧ i % p < p ∧
    ((chunkOf (bytes.drop (32 * (i / p)))).drop (b * (i % p))).take b
      = (bytes.drop (b * i)).take b := by
  obtain ⟨_, hp0⟩ := per_pos hp
  obtain ⟨key, h3⟩ := packed_pos hp i
  have hin : b * i + b ≤ n * b := by
    rw [← Nat.mul_succ, Nat.mul_comm n b]; exact Nat.mul_le_mul_left b hi
  refine ⟨by rw [hfl, Nat.mul_comm, ceilDiv_bytes hp]; exact div_lt_ceilDiv hp0 hi,
    Nat.mod_lt _ hp0, ?_⟩
  rw [chunkOf_drop_take _ _ _ (by rw [List.length_drop]; omega) h3, List.drop_drop, ← key]

theorem basic_read (b : Nat) (vs : List Val) (i : Nat) (hi : i < vs.length)
    (hp : b * perNode b = 32) (hall : allHaveType (.uint b) vs = true) :
    i / perNode b < ((serList (.uint b) vs).flatten.length + 31) / 32 ∧
    basicFromChunk b (chunkOf ((serList (.uint b) vs).flatten.drop (32 * (i / perNode b))))
      (i % perNode b) = .ok vs[i] := by
  obtain ⟨m, hm, hlt⟩ := hasType_uint_elim (allHaveType_getElem _ vs hall i hi)
  have hpiece : ((serList (.uint b) vs).flatten.drop (b * i)).take b = leBytes b m := by
    rw [flatten_uniform_drop_take b (serList (.uint b) vs) i (by simpa using hi)
      (serList_fixed_length (e := .uint b) rfl vs hall)]
    rw [serList_getElem _ vs i hi, hm]; simp only [serialize]
  obtain ⟨h1, h2, h3⟩ := packed_elem hp _ (basic_flatten_length b vs hall) hi
  have h2' : ¬ i % perNode b ≥ 32 / b := Nat.not_le.mpr h2
  refine ⟨h1, ?_⟩
  rw [basicFromChunk, if_neg h2', h3, hpiece, hm, leNat_leBytes, Nat.mod_eq_of_lt hlt]

theorem bit_read (bs : List Bool) (i : Nat) (hi : i < bs.length) :
    bitFromChunk (chunkOf ((packBits bs).drop (32 * (i / 256)))) i = bs[i] := by
  unfold bitFromChunk
  simp only []
  rw [packed_bit, List.getD_eq_getElem?_getD, List.getElem?_eq_getElem hi]; rfl

/-! ### offsets -/

theorem writeOffset_ok (prev size : Nat) (h : prev + size < 2 ^ 32) :
    writeOffset prev size = .ok (prev + size) := by
  unfold writeOffset
  rw [if_neg (by omega)]

theorem offs_ok : ∀ (ps : List Bytes) (prev size : Nat),
    prev + size + ps.flatten.length < 2 ^ 32 →
    serVarSeries.offs prev size ps = .ok (offsetsOf (prev + size) ps).flatten := by
  intro ps
  induction ps with
  | nil => intro prev size _; rfl
  | cons p ps ih =>
    intro prev size hlt
    rw [List.flatten_cons, List.length_append] at hlt
    rw [serVarSeries.offs, writeOffset_ok prev size (by omega), R.bind_ok,
      ih (prev + size) p.length (by omega), R.bind_ok]
    rfl

/-- `serializeComplexVarElemSeries` writes the spec layout when every offset fits `uint32` -/
theorem serVarSeries_ok (ps : List Bytes) (hlt : (serVarParts ps).length < 2 ^ 32) :
    serVarSeries ps = .ok (serVarParts ps) := by
  rw [serVarParts_length] at hlt
  unfold serVarSeries
  rw [offs_ok ps _ 0 (by omega), R.bind_ok]
  simp only [serVarParts, Nat.add_zero, Nat.mul_comm]

theorem go_ok : ∀ (ps : List (Bool × Bytes)) (prev size : Nat),
    prev + size + (serVarPart ps).length < 2 ^ 32 →
    serContainer.go prev size ps = .ok (serFixedPart (prev + size) ps) := by
  intro ps
  induction ps with
  | nil => intro prev size _; rfl
  | cons x ps ih =>
    intro prev size hlt
    obtain ⟨fx, p⟩ := x
    cases fx
    · simp only [serVarPart, List.length_append] at hlt
      rw [serContainer.go, writeOffset_ok prev size (by omega), R.bind_ok,
        ih (prev + size) p.length (by omega), R.bind_ok]
      rfl
    · simp only [serVarPart] at hlt
      rw [serContainer.go, ih prev size hlt, R.bind_ok]
      rfl

/-- the container writer produces the spec layout when every offset fits `uint32` -/
theorem serContainer_ok (fp : Nat) (ps : List (Bool × Bytes)) (hfp : fp = fixedPartLen ps)
    (hlt : (serContainerParts ps).length < 2 ^ 32) :
    serContainer fp ps = .ok (serContainerParts ps) := by
  rw [serContainerParts_length] at hlt
  unfold serContainer
  rw [go_ok ps fp 0 (by omega), R.bind_ok, ← serVarPart_eq_filter]
  simp only [serContainerParts, Nat.add_zero, hfp]

/-! ### types whose encoding contains no offsets -/

mutual
/-- no 4-byte offset is ever written when serializing a value of this type: no series of
    variable-size elements and no container with a variable-size field, anywhere inside -/
def offsetFree : Ty → Bool
  | .uint _ | .bool | .bytesN _ | .bitvector _ | .bitlist _ => true
  | .vector e _ => e.isFixed && offsetFree e
  | .list e _ => e.isFixed && offsetFree e
  | .container fs => Ty.allFixed fs && offsetFreeAll fs
  | .union _ opts => offsetFreeAll opts
def offsetFreeAll : List Ty → Bool
  | [] => true
  | t :: ts => offsetFree t && offsetFreeAll ts
end

theorem offsetFreeAll_eq : ∀ ts : List Ty, offsetFreeAll ts = ts.all offsetFree
  | [] => rfl
  | t :: ts => by rw [offsetFreeAll, List.all_cons, offsetFreeAll_eq ts]

theorem offsetFreeAll_get (ts : List Ty) (k : Nat) (t : Ty) (h : offsetFreeAll ts = true)
    (hk : ts[k]? = some t) : offsetFree t = true :=
  all_get (offsetFreeAll_eq ts ▸ h) hk

/-- the size side condition of `Serialize`: either no offsets are written at all, or the whole
    encoding (hence every offset) fits `uint32` -/
def SizeOk (t : Ty) (v : Val) : Prop := offsetFree t = true ∨ (serialize t v).length < 2 ^ 32

theorem go_ok_fixed : ∀ (ps : List (Bool × Bytes)) (prev size : Nat),
    (∀ x ∈ ps, x.1 = true) →
    serContainer.go prev size ps = .ok (serFixedPart (prev + size) ps) := by
  intro ps
  induction ps with
  | nil => intro prev size _; rfl
  | cons x ps ih =>
    intro prev size hall
    obtain ⟨fx, p⟩ := x
    have hfx : fx = true := hall (fx, p) List.mem_cons_self
    subst hfx
    rw [serContainer.go, ih prev size (fun y hy => hall y (List.mem_cons_of_mem _ hy)), R.bind_ok]
    rfl

theorem serContainer_ok_fixed (fp : Nat) (ps : List (Bool × Bytes)) (hfp : fp = fixedPartLen ps)
    (hall : ∀ x ∈ ps, x.1 = true) : serContainer fp ps = .ok (serContainerParts ps) := by
  unfold serContainer
  rw [go_ok_fixed ps fp 0 hall, R.bind_ok, ← serVarPart_eq_filter]
  simp only [serContainerParts, Nat.add_zero, hfp]

theorem serFields_allFixed : ∀ (fs : List Ty) (vs : List Val), Ty.allFixed fs = true →
    ∀ x ∈ serFields fs vs, x.1 = true := by
  intro fs
  induction fs with
  | nil => intro vs _ x hx; cases vs <;> simp [serFields] at hx
  | cons t ts ih =>
    intro vs h x hx
    cases vs with
    | nil => simp [serFields] at hx
    | cons v vs =>
      simp only [Ty.allFixed, Bool.and_eq_true] at h
      simp only [serFields, List.mem_cons] at hx
      rcases hx with rfl | hx
      · exact h.1
      · exact ih vs h.2 x hx

end ZtypV.View
