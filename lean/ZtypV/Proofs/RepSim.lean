/-
C04: one step of the object machine (`stepM`) against one step of the value machine (`stepV`),
operation by operation: same output, and the stores stay `Sim`-related.  Every step starts with
the handle lookup (`lookup_sim`, `lookup_mut`, for two handles `lookup_src`); a mutation then is
one instance of `mutate_sim`: the mutator's `RepMut.MutSpec` followed by propagation along the
hook chain (`propagate`).
-/
import ZtypV.Proofs.RepSimProp
import ZtypV.Proofs.DecodeSound
import ZtypV.Proofs.SerInj
namespace ZtypV
open ZtypV.View ZtypV.Sim

/-- the conclusion of every step lemma -/
def StepAgree (h : HashFn) (rm : Store × Out) (rv : VStore × Out) : Prop :=
  rm.2 = rv.2 ∧ Sim h rm.1 rv.1

theorem outOfErr_ne_panic {e : Err} (he : e ≠ .panic) : outOfErr e = .err := by
  cases e <;> first | rfl | exact absurd rfl he

/-- the value read off a source view (`setv` / `appv`) is the source's plain value -/
theorem srcVal_eq (h : HashFn) {so : VObj} {vso : VObjV} (hrel : ObjRel h so vso) :
    (match viewVal so.ty so.node with | .ok v => v | .error _ => Val.none) = vso.val := by
  rw [rep_getters h hrel.good.wf hrel.good.inRange hrel.typed hrel.rep]

theorem valAppend_not_list (t : Ty) (v x : Val) (hl : ∀ e lim, t ≠ .list e lim)
    (hb : ∀ lim, t ≠ .bitlist lim) : valAppend t v x = none := by
  unfold valAppend
  split
  · exact absurd rfl (hl _ _)
  · exact absurd rfl (hb _)
  · rfl

/-- type of the view the harness builds for `Change(sel, x)`: the selected option, or the first
    option when the selector is out of range (to exercise the library's range check) -/
theorem chgTy_wf {hasNone : Bool} {opts : List Ty} (hg : TyGood (.union hasNone opts)) (sel : Nat) :
    ((unionOpt hasNone opts sel).getD (opts.headD .bool)).wf = true := by
  cases ho : unionOpt hasNone opts sel with
  | some ot => exact (hg.opt ho).wf
  | none =>
    cases opts with
    | nil => rfl
    | cons a _ => exact (hg.opt_mem List.mem_cons_self).wf

/-- each disjunct of `ObsOk` bounds the encoding of the value the object shows -/
theorem ObsOk.sizeOk {h : HashFn} {o : VObj} {v : Val} (hok : ObsOk o) (hg : TyGood o.ty)
    (ht : hasType o.ty v = true) (hr : Rep h o.ty v o.node) : SizeOk o.ty v := by
  rcases hok with h1 | h1 | ⟨n, hn, hlt⟩
  · exact Or.inl h1
  · exact Or.inr (Nat.lt_of_le_of_lt (Sizes.ser_bounds o.ty v ht).2 h1)
  · rw [rep_len h hg.wf hg.inRange ht hr] at hn
    cases hn
    exact Or.inr hlt

/-- decoding the encoding of a typed value (shorter than 2^32 bytes) yields a backing of that
    value: the decoder is sound for some typed `w` with the same encoding, and encodings of
    typed values are injective -/
theorem decodeTop_rep (h : HashFn) {t : Ty} {v : Val} {n : Node} (hw : t.wf = true)
    (hv : hasType t v = true) (hlen : (serialize t v).length < 2 ^ 32)
    (hd : decodeTop h t (serialize t v) = .ok n) : Rep h t v n := by
  obtain ⟨w, hwt, hser, hc⟩ := DecodeProofs.decodeTop_sound h t (serialize t v) n (by
    intro hl
    have hf : t.isFixed = true := by cases t <;> first | rfl | simp [DecodeProofs.isLeafTy] at hl
    have := Sizes.ser_bounds t v hv
    have := Sizes.fixed_min_max t hf
    omega) hd
  cases serialize_injective t v w hw hv hwt hlen hser.symm
  exact construct_rep h hw hv hc

/-! ### an executable check of `OpOk` (for the driver and the non-vacuity examples) -/

-- structural equality test on types (the derived `BEq Ty` comes without a soundness lemma)
mutual
def tyEqB : Ty → Ty → Bool
  | .uint a, .uint b => a == b
  | .bool, .bool => true
  | .bytesN a, .bytesN b => a == b
  | .bitvector a, .bitvector b => a == b
  | .bitlist a, .bitlist b => a == b
  | .vector e a, .vector f b => a == b && tyEqB e f
  | .list e a, .list f b => a == b && tyEqB e f
  | .container fs, .container gs => tysEqB fs gs
  | .union h fs, .union k gs => h == k && tysEqB fs gs
  | _, _ => false
def tysEqB : List Ty → List Ty → Bool
  | [], [] => true
  | a :: as, b :: bs => tyEqB a b && tysEqB as bs
  | _, _ => false
end

-- two different constructors are refuted by evaluating `tyEqB`, so only the diagonal is listed
mutual
theorem tyEqB_sound : (a b : Ty) → tyEqB a b = true → a = b
  | .uint a, .uint b, h | .bytesN a, .bytesN b, h | .bitvector a, .bitvector b, h
  | .bitlist a, .bitlist b, h => by rw [eq_of_beq h]
  | .bool, .bool, _ => rfl
  | .vector e a, .vector f b, h | .list e a, .list f b, h => by
    obtain ⟨h1, h2⟩ := Bool.and_eq_true_iff.mp h
    rw [eq_of_beq h1, tyEqB_sound e f h2]
  | .container fs, .container gs, h => by rw [tysEqB_sound fs gs h]
  | .union k fs, .union l gs, h => by
    obtain ⟨h1, h2⟩ := Bool.and_eq_true_iff.mp h
    rw [eq_of_beq h1, tysEqB_sound fs gs h2]
theorem tysEqB_sound : (as bs : List Ty) → tysEqB as bs = true → as = bs
  | [], [], _ => rfl
  | a :: as, b :: bs, h => by
    obtain ⟨h1, h2⟩ := Bool.and_eq_true_iff.mp h
    rw [tyEqB_sound a b h1, tysEqB_sound as bs h2]
end

def isNoneVal : Val → Bool
  | .none => true
  | _ => false

theorem isNoneVal_iff (x : Val) : isNoneVal x = true ↔ x = .none := by
  cases x <;> simp [isNoneVal]

def opOkB (ms : Store) : Op → Bool
  | .set id i x => match ms[id]? with | some o => hasType (slotTy o.ty i) x | none => true
  | .app id x => match ms[id]? with | some o => hasType (slotTy o.ty 0) x | none => true
  | .setv id i s =>
    match ms[id]?, ms[s]? with
    | some o, some so => tyEqB so.ty (slotTy o.ty i)
    | _, _ => true
  | .appv id s =>
    match ms[id]?, ms[s]? with
    | some o, some so => tyEqB so.ty (slotTy o.ty 0)
    | _, _ => true
  | .chg id sel x =>
    match ms[id]? with
    | some o =>
      match o.ty with
      | .union hasNone opts =>
        decide (sel < 256) &&
          (if isNoneVal x then (sel != 0 || hasNone)
           else (!(hasNone && sel == 0) &&
             hasType ((unionOpt hasNone opts sel).getD (opts.headD .bool)) x))
      | _ => true
    | none => true
  | .obs id =>
    match ms[id]? with
    | some o =>
      offsetFree o.ty || decide (TySmall o.ty) ||
        (match valueByteLength o.ty o.node with | .ok n => decide (n < 2 ^ 32) | .error _ => false)
    | none => true
  | _ => true

theorem opOkB_sound (ms : Store) (op : Op) (hb : opOkB ms op = true) : OpOk ms op := by
  cases op <;> dsimp only [OpOk] <;> dsimp only [opOkB] at hb
  · intro o hm; simpa only [hm] using hb
  · intro o so hm hsrc; simp only [hm, hsrc] at hb; exact tyEqB_sound _ _ hb
  · intro o hm; simpa only [hm] using hb
  · rename_i id sel x
    intro o hasNone opts hm hty
    simp only [hm, hty, Bool.and_eq_true, decide_eq_true_eq] at hb
    obtain ⟨hsel, hrest⟩ := hb
    by_cases hx : isNoneVal x = true
    · have hxn := (isNoneVal_iff x).mp hx
      simp only [hx, if_true, Bool.or_eq_true, bne_iff_ne, ne_eq] at hrest
      refine ⟨hsel, ?_, fun hne => absurd hxn hne, fun hne => absurd hxn hne⟩
      intro _ h0
      rcases hrest with h1 | h1
      · exact absurd h0 h1
      · exact h1
    · have hxn : x ≠ .none := fun hc => hx ((isNoneVal_iff x).mpr hc)
      simp only [hx, Bool.false_eq_true, if_false, Bool.and_eq_true, Bool.not_eq_true',
        Bool.and_eq_false_iff, beq_eq_false_iff_ne, ne_eq] at hrest
      refine ⟨hsel, fun hc => absurd hc hxn, ?_, fun _ => hrest.2⟩
      intro _ hc
      rcases hrest.1 with h1 | h1
      · rw [hc.1] at h1; cases h1
      · exact h1 hc.2
  · intro o hm
    simp only [hm, Bool.or_eq_true, decide_eq_true_eq] at hb
    rcases hb with (h1 | h1) | h1
    · exact Or.inl h1
    · exact Or.inr (Or.inl h1)
    · cases hl : valueByteLength o.ty o.node with
      | error e => simp [hl] at h1
      | ok n =>
        simp only [hl, decide_eq_true_eq] at h1
        exact Or.inr (Or.inr ⟨n, hl, h1⟩)
  · intro o so hm hsrc; simp only [hm, hsrc] at hb; exact tyEqB_sound _ _ hb

def opsOkB (h : HashFn) : Store → List Op → Bool
  | _, [] => true
  | st, op :: ops => opOkB st op && opsOkB h (stepM h st op).1 ops

theorem opsOkB_sound (h : HashFn) : ∀ (ops : List Op) (ms : Store), opsOkB h ms ops = true →
    OpsOk h ms ops
  | [], _, _ => trivial
  | op :: ops, ms, hb => by
    simp only [opsOkB, Bool.and_eq_true] at hb
    exact ⟨opOkB_sound ms op hb.1, opsOkB_sound h ops _ hb.2⟩

/-! ### one step of both machines from related stores -/

section
variable {h : HashFn} {ms : Store} {vs : VStore} (hs : Sim h ms vs)
include hs

theorem mutate_sim {id : Nat} {o : VObj} {vo : VObjV} (hm : ms[id]? = some o)
    (hv : vs[id]? = some vo) {r : R Node} {f : VObjV → Option Val}
    (hspec : RepMut.MutSpec h o.ty (f vo) r) :
    StepAgree h (mutateM h ms id r) (mutateV vs id f) := by
  unfold mutateV
  simp only [hv]
  cases hf : f vo with
  | none =>
    rw [hf] at hspec
    obtain ⟨e, rfl, hne⟩ := hspec
    exact ⟨outOfErr_ne_panic hne, hs⟩
  | some nv =>
    rw [hf] at hspec
    obtain ⟨b, rfl, hr, ht⟩ := hspec
    have hlt := lookup_lt hm
    obtain ⟨hsim, hout⟩ := propagate h (ms.size + 1) ms vs id o vo b nv hs hm hv (by omega) hr ht
    unfold mutateM
    rw [← hs.1]
    refine ⟨?_, hsim⟩
    rcases hout with ⟨h1, h2⟩ | ⟨e, h1, h2, h3⟩
    · simp only [h1, h2, if_true]
    · simp only [h1, h3, outOfErr_ne_panic h2]; rfl

/-- a mutator the type does not offer answers `err`, where the value model has no result -/
theorem unsupported_sim {id : Nat} {o : VObj} {vo : VObjV} (hm : ms[id]? = some o)
    (hv : vs[id]? = some vo) {f : VObjV → Option Val} (hf : f vo = none) :
    StepAgree h (ms, .err) (mutateV vs id f) :=
  mutate_sim hs hm hv (r := .error .other) (by rw [hf]; exact RepMut.mutSpec_err h o.ty)

theorem nohandle_sim {id : Nat} (hm : ms[id]? = none) (f : VObjV → Option Val) :
    StepAgree h (ms, .nohandle) (mutateV vs id f) := by
  unfold mutateV
  rw [hs.lookup_none hm]
  exact ⟨rfl, hs⟩

theorem lookup_sim (id : Nat) {F : VObj → Store × Out} {G : VObjV → VStore × Out}
    (hsome : ∀ o v, ms[id]? = some o → vs[id]? = some ⟨o.ty, v, o.hook⟩ → TyGood o.ty →
      hasType o.ty v = true → Rep h o.ty v o.node → StepAgree h (F o) (G ⟨o.ty, v, o.hook⟩)) :
    StepAgree h (match ms[id]? with | none => (ms, .nohandle) | some o => F o)
      (match vs[id]? with | none => (vs, .nohandle) | some vo => G vo) := by
  cases hm : ms[id]? with
  | none => rw [hs.lookup_none hm]; exact ⟨rfl, hs⟩
  | some o =>
    obtain ⟨v, hv, hg, ht, hr⟩ := hs.lookup_val hm
    rw [hv]
    exact hsome o v hm hv hg ht hr

/-- `lookup_sim` when the value machine goes on with `mutateV`, which does its own lookup -/
theorem lookup_mut (id : Nat) {F : VObj → Store × Out} {f : VObjV → Option Val}
    (hsome : ∀ o v, ms[id]? = some o → vs[id]? = some ⟨o.ty, v, o.hook⟩ → TyGood o.ty →
      hasType o.ty v = true → Rep h o.ty v o.node → StepAgree h (F o) (mutateV vs id f)) :
    StepAgree h (match ms[id]? with | none => (ms, .nohandle) | some o => F o)
      (mutateV vs id f) := by
  cases hm : ms[id]? with
  | none => exact nohandle_sim hs hm f
  | some o =>
    obtain ⟨v, hv, hg, ht, hr⟩ := hs.lookup_val hm
    exact hsome o v hm hv hg ht hr

/-- `setv` / `appv` look up two handles; the view they insert is the source's own, and the value
    the object machine reads off it (for a packed slot) is the source's plain value -/
theorem lookup_src (id s : Nat) {M : VObj → Val → Node → R Node} {f : VObjV → Val → Option Val}
    (hspec : ∀ o v so sv, ms[id]? = some o → ms[s]? = some so → TyGood o.ty →
      hasType o.ty v = true → Rep h o.ty v o.node → hasType so.ty sv = true →
      Rep h so.ty sv so.node → RepMut.MutSpec h o.ty (f ⟨o.ty, v, o.hook⟩ sv) (M o sv so.node)) :
    StepAgree h
      (match ms[id]?, ms[s]? with
        | some o, some so =>
          mutateM h ms id
            (M o (match viewVal so.ty so.node with | .ok v => v | .error _ => .none) so.node)
        | _, _ => (ms, .nohandle))
      (match vs[s]? with
        | none => (vs, .nohandle)
        | some so => mutateV vs id fun o => f o so.val) := by
  cases hsrc : ms[s]? with
  | none =>
    rw [hs.lookup_none hsrc]
    cases hm : ms[id]? <;> exact ⟨rfl, hs⟩
  | some so =>
    obtain ⟨vso, hsv, hrel, _⟩ := hs.lookup hsrc
    simp only [hsv]
    cases hm : ms[id]? with
    | none => exact nohandle_sim hs hm _
    | some o =>
      obtain ⟨v, hv, hg, ht, hr⟩ := hs.lookup_val hm
      dsimp only
      rw [srcVal_eq h hrel]
      exact mutate_sim hs hm hv (hspec o v so vso.val hm hsrc hg ht hr hrel.typed hrel.rep)

theorem step_set (id i : Nat) (x : Val) (hok : OpOk ms (.set id i x)) :
    StepAgree h (stepM h ms (.set id i x)) (stepV h vs (.set id i x)) := by
  dsimp only [stepM, stepV]
  refine lookup_mut hs id fun o v hm hv hg ht hr => ?_
  have hx := hok o hm
  obtain ⟨en, hen, hxr⟩ := constructRep_all h _ x (hg.slotTy i).wf hx
  simp only [hen]
  exact mutate_sim hs hm hv (set_rep h o.ty v o.node i x en hg.wf hg.depthOk ht hr hx fun _ => hxr)

theorem step_setv (id i s : Nat) (hok : OpOk ms (.setv id i s)) :
    StepAgree h (stepM h ms (.setv id i s)) (stepV h vs (.setv id i s)) := by
  dsimp only [stepM, stepV]
  refine lookup_src hs id s (M := fun o x n => Mut.set h o.ty o.node i x n)
    (f := fun o x => valSet o.ty o.val i x) fun o v so sv hm hsrc hg ht hr hst hsr => ?_
  have hty := hok o so hm hsrc
  exact set_rep h o.ty v o.node i sv so.node hg.wf hg.depthOk ht hr (hty ▸ hst) fun _ => hty ▸ hsr

theorem step_setd (id i : Nat) :
    StepAgree h (stepM h ms (.setd id i)) (stepV h vs (.setd id i)) := by
  dsimp only [stepM, stepV]
  refine lookup_mut hs id fun o v hm hv hg ht hr => ?_
  have hw := (hg.slotTy i).wf
  obtain ⟨en, hen, hxr⟩ := defaultRep_all h _ hw
  simp only [hen, slotTyV_eq]
  exact mutate_sim hs hm hv (set_rep h o.ty v o.node i _ en hg.wf hg.depthOk ht hr
    (defaultVal_hasType _ hw) fun _ => hxr)

theorem step_app (id : Nat) (x : Val) (hok : OpOk ms (.app id x)) :
    StepAgree h (stepM h ms (.app id x)) (stepV h vs (.app id x)) := by
  dsimp only [stepM, stepV]
  refine lookup_mut hs id fun o v hm hv hg ht hr => ?_
  have hx := hok o hm
  obtain ⟨en, hen, hxr⟩ := constructRep_all h _ x (hg.slotTy 0).wf hx
  simp only [hen]
  exact mutate_sim hs hm hv (append_rep h o.ty v o.node x en hg.wf hg.depthOk ht hr hx fun _ => hxr)

theorem step_appv (id s : Nat) (hok : OpOk ms (.appv id s)) :
    StepAgree h (stepM h ms (.appv id s)) (stepV h vs (.appv id s)) := by
  dsimp only [stepM, stepV]
  refine lookup_src hs id s (M := fun o x n => Mut.append h o.ty o.node x n)
    (f := fun o x => valAppend o.ty o.val x) fun o v so sv hm hsrc hg ht hr hst hsr => ?_
  have hty := hok o so hm hsrc
  exact append_rep h o.ty v o.node sv so.node hg.wf hg.depthOk ht hr (hty ▸ hst) fun _ => hty ▸ hsr

theorem step_appd (id : Nat) :
    StepAgree h (stepM h ms (.appd id)) (stepV h vs (.appd id)) := by
  dsimp only [stepM, stepV]
  refine lookup_mut hs id fun o v hm hv hg ht hr => ?_
  have hw := (hg.slotTy 0).wf
  obtain ⟨en, hen, hxr⟩ := defaultRep_all h _ hw
  have hmain : StepAgree h
      (mutateM h ms id (Mut.append h o.ty o.node (defaultVal (slotTy o.ty 0)) en))
      (mutateV vs id fun o => valAppend o.ty o.val (defaultVal (slotTyV o.ty 0))) := by
    simp only [slotTyV_eq]
    exact mutate_sim hs hm hv (append_rep h o.ty v o.node _ en hg.wf hg.depthOk ht hr
      (defaultVal_hasType _ hw) fun _ => hxr)
  split
  · simp only [hen]; exact hmain
  · simp only [hen]; exact hmain
  · next hl hb => exact unsupported_sim hs hm hv (valAppend_not_list _ _ _ hl hb)

theorem step_pop (id : Nat) :
    StepAgree h (stepM h ms (.pop id)) (stepV h vs (.pop id)) := by
  dsimp only [stepM, stepV]
  refine lookup_mut hs id fun o v hm hv hg ht hr => ?_
  exact mutate_sim hs hm hv (pop_rep h o.ty v o.node hg.wf hg.depthOk ht hr)

theorem step_chg (id sel : Nat) (x : Val) (hok : OpOk ms (.chg id sel x)) :
    StepAgree h (stepM h ms (.chg id sel x)) (stepV h vs (.chg id sel x)) := by
  dsimp only [stepM, stepV]
  refine lookup_mut hs id fun o v hm hv hg ht hr => ?_
  obtain ⟨ty, node, hook⟩ := o
  dsimp only at hv hg ⊢
  split
  · next hasNone opts =>
    obtain ⟨hsel, hfitA, hfitB, hxt⟩ := hok _ hasNone opts hm rfl
    by_cases hxn : x = .none
    · subst hxn
      exact mutate_sim hs hm hv (change_rep h hasNone opts sel .none none hg.wf hsel
        (fun _ => rfl) (fun hne => absurd rfl hne) hfitA hfitB)
    · have hxt := hxt hxn
      obtain ⟨c, hc⟩ := construct_total h x _ (chgTy_wf hg sel) hxt
      -- the content match only asks whether `x` is `.none`: here it is `.ok (some c)`
      split
      · next heq =>
        split at heq
        · exact absurd rfl hxn
        · rw [hc] at heq; cases heq
      · next heq =>
        split at heq
        · exact absurd rfl hxn
        · rw [hc] at heq
          cases heq
          exact mutate_sim hs hm hv (change_rep h hasNone opts sel x (some c) hg.wf hsel
            (fun hx => absurd hx hxn) (fun _ => ⟨c, rfl, fun ot hot => by
              rw [hot, Option.getD_some] at hc hxt
              exact ⟨hxt, construct_rep h (hg.opt hot).wf hxt hc⟩⟩) hfitA hfitB)
  · next hnu => exact unsupported_sim hs hm hv (change_rep_other ty sel x none hnu).1

theorem step_get (p i : Nat) :
    StepAgree h (stepM h ms (.get p i)) (stepV h vs (.get p i)) := by
  dsimp only [stepM, stepV]
  refine lookup_sim hs p fun po v hm hv hg ht hr => ?_
  have hspec := getElem_rep h po.ty v po.node i hg.wf hg.depthOk ht hr
  cases he : valElem po.ty v i with
  | none =>
    rw [he] at hspec
    obtain ⟨e, hge, hne⟩ := hspec
    simp only [hge]
    exact ⟨outOfErr_ne_panic hne, hs⟩
  | some r =>
    obtain ⟨et, x⟩ := r
    rw [he] at hspec
    obtain ⟨en, hge, hrep, hvok, hxt⟩ := hspec
    simp only [hge, hvok, Bool.not_true, Bool.false_eq_true, if_false]
    refine ⟨rfl, hs.push ⟨rfl, rfl, hg.valElem he, hxt, hrep⟩ ?_⟩
    intro p' slot hp'
    by_cases hhk : hooked po.ty et = true
    · simp only [hhk, if_true, Option.some.injEq, Prod.mk.injEq] at hp'
      obtain ⟨rfl, rfl⟩ := hp'
      exact ⟨lookup_lt hm, po, hm, hooked_hookParent hhk, (valElem_slotTy he).symm⟩
    · simp only [hhk] at hp'; cases hp'

theorem step_copy (s : Nat) :
    StepAgree h (stepM h ms (.copy s)) (stepV h vs (.copy s)) := by
  dsimp only [stepM, stepV]
  refine lookup_sim hs s fun o v hm hv hg ht hr => ?_
  exact ⟨rfl, hs.push_root hg ht hr⟩

theorem step_val (p : Nat) :
    StepAgree h (stepM h ms (.val p)) (stepV h vs (.val p)) := by
  dsimp only [stepM, stepV]
  refine lookup_sim hs p fun po v hm hv hg ht hr => ?_
  obtain ⟨ty, node, hook⟩ := po
  dsimp only at hg ht hr ⊢
  have hw := hg.wf
  clear hm hv
  revert node hg
  revert ht
  revert hw
  revert v
  revert ty
  apply typed_induct
  case unionNone =>
    intro opts node hg hr
    obtain ⟨-, -, rfl⟩ := rep_union_none.mp hr
    simp only [getNode_pair_true, getNode_pair_false, getNode_nil, R.bind_ok, asLeaf_leaf,
      chunkOf_single_drop, Bool.false_eq_true, if_false, chunkOf_single_getD, if_true,
      show ¬ (UInt8.ofNat 0).toNat ≥ opts.length + 1 from Nat.not_succ_le_zero _]
    exact ⟨rfl, hs⟩
  case unionSome =>
    intro hasNone opts sel x t ho hxn hsel _ htx _ node hg hr
    obtain ⟨c, hrc, rfl⟩ := (rep_union_some ho hxn).mp hr
    have hlt := (unionOpt_some ho).1
    have hsel' : (UInt8.ofNat sel).toNat = sel := by
      rw [UInt8.toNat_ofNat']; exact Nat.mod_eq_of_lt hsel
    simp only [getNode_pair_true, getNode_pair_false, getNode_nil, R.bind_ok, asLeaf_leaf,
      chunkOf_single_drop, Bool.false_eq_true, if_false, chunkOf_single_getD, hsel']
    rw [if_neg (by omega)]
    simp only [ho, RepMut.rep_viewOk h t x c hrc, if_true]
    exact ⟨rfl, hs.push_root (hg.opt ho) htx hrc⟩
  -- any other type: both machines answer `err`
  all_goals
    intros
    exact ⟨rfl, hs⟩

theorem step_obs (id : Nat) (hok : OpOk ms (.obs id)) :
    StepAgree h (stepM h ms (.obs id)) (stepV h vs (.obs id)) := by
  dsimp only [stepM, stepV]
  refine lookup_sim hs id fun o v hm hv hg ht hr => ?_
  simp only [rep_ser_sizeOk h hg.wf hg.inRange ht ((hok o hm).sizeOk hg ht hr) hr,
    rep_getters h hg.wf hg.inRange ht hr, rep_root h hg.wf hg.noBool ht hr]
  exact ⟨rfl, hs⟩

theorem step_blen (id : Nat) :
    StepAgree h (stepM h ms (.blen id)) (stepV h vs (.blen id)) := by
  dsimp only [stepM, stepV]
  refine lookup_sim hs id fun o v hm hv hg ht hr => ?_
  simp only [rep_len h hg.wf hg.inRange ht hr]
  exact ⟨rfl, hs⟩

theorem step_rd (id i : Nat) :
    StepAgree h (stepM h ms (.rd id i)) (stepV h vs (.rd id i)) := by
  dsimp only [stepM, stepV]
  refine lookup_sim hs id fun o v hm hv hg ht hr => ?_
  have hspec := getElem_rep h o.ty v o.node i hg.wf hg.depthOk ht hr
  cases he : valElem o.ty v i with
  | none =>
    rw [he] at hspec
    obtain ⟨e, hge, hne⟩ := hspec
    simp only [hge, R.bind_error]
    exact ⟨outOfErr_ne_panic hne, hs⟩
  | some r =>
    obtain ⟨et, x⟩ := r
    rw [he] at hspec
    obtain ⟨en, hge, hrep, hvok, hxt⟩ := hspec
    have hge' := hg.valElem he
    simp only [hge, R.bind_ok, hvok, Bool.not_true, Bool.false_eq_true, if_false,
      rep_getters h hge'.wf hge'.inRange hxt hrep]
    exact ⟨rfl, hs⟩

theorem step_len (id : Nat) :
    StepAgree h (stepM h ms (.len id)) (stepV h vs (.len id)) := by
  dsimp only [stepM, stepV]
  refine lookup_sim hs id fun o v hm hv hg ht hr => ?_
  obtain ⟨ty, node, hook⟩ := o
  dsimp only at hg ht hr ⊢
  have hw := hg.wf
  have hd := hg.depthOk
  clear hm hv hg
  -- the ten ways a value can be typed, `ty` and `v` taken apart together
  revert node hd
  revert ht
  revert hw
  revert v
  revert ty
  apply typed_induct
  case bitvector =>
    intro k bs hl _ _ _
    dsimp only
    rw [hl]
    exact ⟨rfl, hs⟩
  case vector =>
    intro e k vs _ _ hl _ _ _ _ _
    dsimp only
    rw [hl]
    exact ⟨rfl, hs⟩
  case container =>
    intro fs vs _ hl _ _ _ _ _
    dsimp only
    rw [hl]
    exact ⟨rfl, hs⟩
  case bitlist =>
    intro lim bs _ node hr hd
    dsimp only
    rw [(RepMut.rep_bitlist_inv h hd hr).2.2.1]
    exact ⟨rfl, hs⟩
  case list =>
    intro e lim vs _ _ _ _ node hr hd
    dsimp only
    rw [rep_listLength h hd hr]
    exact ⟨rfl, hs⟩
  -- the types without a length: both machines answer `err`
  all_goals
    intros
    exact ⟨rfl, hs⟩

end

/-- the handle a mutation operation is applied to -/
def Sim.Op.target : Op → Option Nat
  | .set id _ _ | .setv id _ _ | .app id _ | .pop id | .chg id _ _ | .appd id | .setd id _
  | .appv id _ => some id
  | _ => none

/-- a mutation step of the value machine either leaves the store alone or is `mutateV` -/
theorem stepV_cases (h : HashFn) (vs : VStore) {op : Op} {id : Nat} (ht : op.target = some id)
    {Q : VStore × Out → Prop} (h1 : ∀ out, Q (vs, out)) (h2 : ∀ f, Q (mutateV vs id f)) :
    Q (stepV h vs op) := by
  cases op <;> cases ht
  all_goals dsimp only [stepV]
  all_goals repeat' split
  all_goals first | exact h2 _ | exact h1 _

/-- a mutation step of the object machine either leaves the store alone or is `mutateM` -/
theorem stepM_cases (h : HashFn) (ms : Store) {op : Op} {id : Nat} (ht : op.target = some id)
    {Q : Store × Out → Prop} (h1 : ∀ out, Q (ms, out)) (h2 : ∀ r, Q (mutateM h ms id r)) :
    Q (stepM h ms op) := by
  cases op <;> cases ht
  all_goals dsimp only [stepM]
  all_goals repeat' split
  all_goals first | exact h2 _ | exact h1 _

theorem mutateV_root {vs : VStore} {id : Nat} {vo : VObjV} (hv : vs[id]? = some vo)
    (hp : vo.parent = none) (f : VObjV → Option Val) (he : (mutateV vs id f).2 = .err) :
    (mutateV vs id f).1 = vs := by
  unfold mutateV at he ⊢
  simp only [hv] at he ⊢
  cases hf : f vo with
  | none => rfl
  | some nv =>
    exfalso
    simp only [hf] at he
    have hv1 : (vs.set! id { vo with val := nv })[id]? = some { vo with val := nv } :=
      Array.getElem?_setIfInBounds_self_of_lt (lookup_lt hv)
    rw [writeBack_succ _ _ id _ hv1] at he
    simp only [hp] at he
    cases he

theorem mutateM_root (h : HashFn) {ms : Store} {id : Nat} {o : VObj} (hm : ms[id]? = some o)
    (hp : o.hook = none) (r : R Node) (he : (mutateM h ms id r).2 = .err) :
    (mutateM h ms id r).1 = ms := by
  unfold mutateM at he ⊢
  cases r with
  | error e => rfl
  | ok b =>
    exfalso
    simp only [setBacking_succ h _ ms id b o hm, hp] at he
    cases he

end ZtypV

/-! ### concrete data for the non-vacuity examples of Props/C04.lean (hash: `rvExH`) -/

namespace ZtypV.C04Ex
open ZtypV ZtypV.View ZtypV.Sim

/-- `List[List[uint64, 4], 3]` holding `[[1, 2]]` -/
def exT : Ty := .list (.list (.uint 8) 4) 3
def exV : Val := .seq [.seq [.num 1, .num 2]]
def exN : Node := match construct rvExH exT exV with | .ok n => n | .error _ => .leaf z0
theorem exN_eq : construct rvExH exT exV = .ok exN := by rfl
def exMs : Store := #[{ ty := exT, node := exN, hook := none }]
def exVs : VStore := #[{ ty := exT, val := exV, parent := none }]

/-- sub-view of element 0; append through the sub-view (propagates to the root); observe the
    root; pop the root (the sub-view becomes stale); append through the stale sub-view (error:
    its slot no longer exists; it keeps its own new value); read it; out-of-range `Set` on the root -/
def exOps : List Op :=
  [.get 0 0, .app 1 (.num 3), .obs 0, .len 0, .pop 0, .app 1 (.num 4), .rd 1 3, .set 0 7 (.seq [])]

theorem exT_good : TyGood exT := by decide
theorem exV_typed : hasType exT exV = true := by decide
theorem exOps_ok : opsOkB rvExH exMs exOps = true := by decide

/-- `List[uint64, 4]` holding `[1, 2]` (packed elements) -/
def exT1 : Ty := .list (.uint 8) 4
def exV1 : Val := .seq [.num 1, .num 2]
def exN1 : Node := match construct rvExH exT1 exV1 with | .ok n => n | .error _ => .leaf z0
theorem exN1_eq : construct rvExH exT1 exV1 = .ok exN1 := by rfl
def exMs1 : Store := #[{ ty := exT1, node := exN1, hook := none }]
def exVs1 : VStore := #[{ ty := exT1, val := exV1, parent := none }]
def exOps1 : List Op := [.app 0 (.num 3), .set 0 0 (.num 9), .obs 0, .pop 0, .rd 0 5, .blen 0]
theorem exOps1_ok : opsOkB rvExH exMs1 exOps1 = true := by decide

end ZtypV.C04Ex
