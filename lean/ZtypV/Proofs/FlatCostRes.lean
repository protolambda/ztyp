/-
C20, flat side: the result component of the instrumented flat decoder `flatDecodeM`
(Model/FlatCost.lean) is the validated flat decoder `flatDecode` (Model/Flat.lean).
Helpers that take deserializers take `DesC`s on the twin side; `DesC.erase` forgets the units:
`(helperC items … dr).res = helper (items.map DesC.erase) … dr`.
The proofs push `.res` inwards (`push_res`, Proofs/CostLogic.lean) through both programs.
-/
import ZtypV.Model.FlatCost
import ZtypV.Proofs.CostLogic
import ZtypV.Proofs.FlatSound
namespace ZtypV.FlatCostProofs
open ZtypV ZtypV.View ZtypV.Flat ZtypV.DecodeProofs ZtypV.CostProofs

variable {α β : Type}

/-! ### leaves of the codec -/

theorem res_resizeC (s : Slice) (n : Nat) : (s.resizeC n).res = .ok (s.resize n) := rfl

theorem decByteVectorC_res (dst : Slice) (n : Nat) (dr : DR) :
    (decByteVectorC dst n dr).res = decByteVector dst n dr := by
  unfold decByteVectorC decByteVector; push_res [res_resizeC]

theorem decByteListC_res (dst : Slice) (n : Nat) (dr : DR) :
    (decByteListC dst n dr).res = decByteList dst n dr := by
  unfold decByteListC decByteList; push_res [res_resizeC, err]

theorem decBitVectorC_res (dst : Slice) (n : Nat) (dr : DR) :
    (decBitVectorC dst n dr).res = decBitVector dst n dr := by
  unfold decBitVectorC decBitVector; push_res [res_resizeC, err]

theorem decBitListC_res (dst : Slice) (n : Nat) (dr : DR) :
    (decBitListC dst n dr).res = decBitList dst n dr := by
  unfold decBitListC decBitList; push_res [res_resizeC, err]

theorem readRootsC_res (dst : RSlice) (n : Nat) (dr : DR) :
    (readRootsC dst n dr).res = readRoots dst n dr := by
  unfold readRootsC; push_res []

theorem readRootsLimitedC_res (dst : RSlice) (n : Nat) (dr : DR) :
    (readRootsLimitedC dst n dr).res = readRootsLimited dst n dr := by
  unfold readRootsLimitedC readRootsLimited; push_res [readRootsC_res, err]

theorem res_readOffsetsNC (n : Nat) (dr : DR) : (readOffsetsNC n dr).res = readOffsetsN n dr := rfl

/-! ### loops over deserializers -/

theorem erase_run (c : DesC) (d : DR) : (c.run d).res = c.erase.run d := rfl
theorem erase_fixedLength (c : DesC) : c.erase.fixedLength = c.fixedLength := rfl

theorem inSubC_erase (dr : DR) (count : Nat) (c : DesC) :
    (dr.inSubC count c.run).res = dr.inSub count c.erase.run :=
  inSubC_res (fun _ => rfl) dr count

theorem decFixedItemsC_res (pre size : Nat) : ∀ (items : List DesC) (dr : DR),
    (decFixedItemsC pre size items dr).res = decFixedItems size (items.map DesC.erase) dr
  | [], dr => rfl
  | it :: its, dr => by
    rw [decFixedItemsC, List.map_cons, decFixedItems]
    push_res [inSubC_erase, decFixedItemsC_res pre size its]

theorem decOffsetItemsC_res (pre : Nat) (vec : Bool) (scope : Nat) :
    ∀ (offs : List Nat) (items : List DesC) (prev : Nat) (dr : DR),
    (decOffsetItemsC pre vec scope prev offs items dr).res =
      decOffsetItems vec scope prev offs (items.map DesC.erase) dr
  | [], items, prev, dr => rfl
  | _ :: _, [], prev, dr => rfl
  | off :: rest, it :: its, prev, dr => by
    rw [decOffsetItemsC, List.map_cons, decOffsetItems]
    push_res [inSubC_erase, decOffsetItemsC_res pre vec scope rest its, err]

theorem decVectorC_res (items : List DesC) (fl : Nat) (dr : DR) :
    (decVectorC items fl dr).res = decVector (items.map DesC.erase) fl dr := by
  unfold decVectorC decVector
  push_res [decFixedItemsC_res, decOffsetItemsC_res, res_readOffsetsNC, List.length_map, err]

theorem decListC_res (addCost : Nat) (add : DR → CR (Val × DR)) (fl lim : Nat) (dr : DR) :
    (decListC addCost add fl lim dr).res = decList (fun d => (add d).res) fl lim dr := by
  unfold decListC decList
  push_res [decFixedItemsC_res, decOffsetItemsC_res, res_readOffsetsNC, List.map_replicate,
    DesC.erase, err]

theorem decFixedLenContainerC_res : ∀ (fields : List DesC) (dr : DR),
    (decFixedLenContainerC fields dr).res = decFixedLenContainer (fields.map DesC.erase) dr
  | [], dr => rfl
  | f :: fs, dr => by
    rw [decFixedLenContainerC, List.map_cons, decFixedLenContainer]
    push_res [erase_run, decFixedLenContainerC_res fs]

theorem containerFixedLenC_eq : ∀ (fields : List DesC),
    containerFixedLenC fields = containerFixedLen (fields.map DesC.erase)
  | [] => rfl
  | f :: fs => by
    rw [containerFixedLenC, List.map_cons, containerFixedLen, containerFixedLenC_eq fs]; rfl

/-- the first container loop also hands the dynamic fields on: erase them in the result
    (below with `>>=`, so that `bind_assoc` carries the erasure to the `.ok` at the end) -/
def eraseFixed (r : List (Option Val) × List Nat × List DesC × DR) :
    List (Option Val) × List Nat × List Des × DR :=
  (r.1, r.2.1, r.2.2.1.map DesC.erase, r.2.2.2)

theorem decContainerFixedC_res : ∀ (fields : List DesC) (dr : DR),
    ((decContainerFixedC fields dr).res >>= fun r => .ok (eraseFixed r)) =
      decContainerFixed (fields.map DesC.erase) dr
  | [], dr => rfl
  | f :: fs, dr => by
    rw [decContainerFixedC, List.map_cons, decContainerFixed]
    simp only [← decContainerFixedC_res fs, erase_fixedLength]
    split <;> push_res [inSubC_erase, bind_assoc, eraseFixed, List.map_cons]

theorem decContainerDynC_res (scope : Nat) : ∀ (offs : List Nat) (dyn : List DesC) (dr : DR),
    (decContainerDynC scope offs dyn dr).res = decContainerDyn scope offs (dyn.map DesC.erase) dr
  | [], dyn, dr => rfl
  | _ :: _, [], dr => rfl
  | off :: rest, f :: fs, dr => by
    rw [decContainerDynC, List.map_cons, decContainerDyn]
    push_res [inSubC_erase, decContainerDynC_res scope rest fs, err]

theorem decContainerC_res (fields : List DesC) (dr : DR) :
    (decContainerC fields dr).res = decContainer (fields.map DesC.erase) dr := by
  unfold decContainerC decContainer
  push_res [← decContainerFixedC_res, containerFixedLenC_eq, decContainerDynC_res, bind_assoc,
    eraseFixed, List.isEmpty_map, err]

/-! ### unions -/

/-- forget the units of the destination a `selectFn` returned -/
def eraseSel (r : R (Option DesC)) : R (Option Des) := r >>= fun o => .ok (o.map DesC.erase)

theorem decUnionC_res (select : Nat → CR (Option DesC)) (dr : DR) :
    (decUnionC select dr).res = decUnion (fun s => eraseSel (select s).res) dr := by
  unfold decUnionC decUnion eraseSel
  push_res [bind_assoc]
  refine bind_congr fun a => bind_congr fun o => ?_
  cases o <;> push_res [Option.map, DesC.erase, err]

/-! ### type by type -/

mutual
theorem flatDecodeM_res : (t : Ty) → ∀ (prior : Val) (dr : DR),
    (flatDecodeM t prior dr).res = flatDecode t prior dr
  | .uint b, p, dr => rfl
  | .bool, p, dr => rfl
  | .bytesN n, p, dr => by rw [flatDecodeM, flatDecode]; push_res [decByteVectorC_res]
  | .bitvector n, p, dr => by rw [flatDecodeM, flatDecode]; push_res [decBitVectorC_res]
  | .bitlist n, p, dr => by rw [flatDecodeM, flatDecode]; push_res [decBitListC_res]
  | .vector e n, p, dr => by
    rw [flatDecodeM, flatDecode]
    push_res [decByteVectorC_res, readRootsC_res, decVectorC_res, List.map_map, Function.comp_def,
      DesC.erase, flatDecodeM_res e]
  | .list e lim, p, dr => by
    rw [flatDecodeM, flatDecode]
    push_res [decByteListC_res, readRootsLimitedC_res, decListC_res, flatDecodeM_res e]
  | .container fs, p, dr => by
    rw [flatDecodeM, flatDecode]
    push_res [decFixedLenContainerC_res, decContainerC_res, flatFieldDesM_erase fs]
  | .union hasNone opts, p, dr => by
    rw [flatDecodeM, flatDecode]
    push_res [decUnionC_res, apply_ite eraseSel, flatSelectM_res opts, err]
    simp only [eraseSel]
    refine bind_congr fun a => ?_
    cases a.1.2 <;> rfl
theorem flatFieldDesM_erase : ∀ (fs : List Ty) (p : Val) (i : Nat),
    (flatFieldDesM fs p i).map DesC.erase = flatFieldDes fs p i
  | [], p, i => rfl
  | t :: ts, p, i => by
    rw [flatFieldDesM, flatFieldDes]
    simp only [List.map_cons, DesC.erase, flatDecodeM_res t, flatFieldDesM_erase ts]
theorem flatSelectM_res : ∀ (opts : List Ty) (k : Nat),
    eraseSel (flatSelectM opts k).res = flatSelect opts k
  | [], k => rfl
  | t :: ts, 0 => by
    rw [flatSelectM, flatSelect]
    push_res [eraseSel, Option.map, DesC.erase, flatDecodeM_res t]
  | t :: ts, k + 1 => by
    rw [flatSelectM, flatSelect]
    exact flatSelectM_res ts k
end

theorem flatDecodeC_fst (t : Ty) (prior : Val) (dr : DR) :
    (flatDecodeC t prior dr).1 = flatDecode t prior dr :=
  flatDecodeM_res t prior dr

end ZtypV.FlatCostProofs
