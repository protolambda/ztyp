/-
The iterators of package `view` against indexed access, for ANY backing tree.
The stack navigation of the read-only iterators (`navStep`) reaches bottom node `i` exactly like
`getNode` along the `depth`-bit path of `i`.  An iterator run `n` times (`runSteps`) has to
produce `iterSpec`; the node, packed-element and bit iterators are instances of one machine that
does.  On top: what a client sees through `AnyIt`, and where every `Get(j)` succeeds the
read-only and the index-based iterator show the same.
-/
import ZtypV.Model.Iter
import ZtypV.Proofs.ViewRange
namespace ZtypV.View.Iter
open ZtypV ZtypV.View

/-! ### arithmetic: `i xor (i-1)` and the bit paths of `i-1` and `i`

A positive `i` is written `2^t (2m+1)`.  Then `i = 2^(t+1) m + 2^t` and
`i - 1 = 2^(t+1) m + (2^t - 1)`: both are `m` above bit `t`, and below they are `10…0` and
`01…1`. -/

theorem exists_odd_part : ∀ i, 0 < i → ∃ t m, i = 2 ^ t * (2 * m + 1) := by
  intro i
  induction i using Nat.strongRecOn with
  | _ i ih =>
    intro hi
    rcases Nat.mod_two_eq_zero_or_one i with h | h
    · have h2 : i / 2 * 2 = i := Nat.div_mul_cancel (Nat.dvd_of_mod_eq_zero h)
      obtain ⟨t, m, ht⟩ := ih (i / 2) (Nat.div_lt_self hi (by decide))
        (Nat.pos_of_mul_pos_right (h2 ▸ hi))
      exact ⟨t + 1, m, by rw [Nat.pow_succ, Nat.mul_right_comm, ← ht, h2]⟩
    · exact ⟨0, i / 2, by rw [Nat.pow_zero, Nat.one_mul, ← h, Nat.div_add_mod]⟩

theorem odd_part_eq (t m : Nat) : 2 ^ t * (2 * m + 1) = 2 ^ (t + 1) * m + 2 ^ t := by
  rw [Nat.mul_add, Nat.mul_one, ← Nat.mul_assoc, Nat.pow_succ]

theorem odd_part_pred_eq (t m : Nat) :
    2 ^ t * (2 * m + 1) - 1 = 2 ^ (t + 1) * m + (2 ^ t - 1) := by
  have := Nat.two_pow_pos t
  rw [odd_part_eq]
  omega

theorem xor_pred_ones (t m : Nat) :
    (2 ^ t * (2 * m + 1)) ^^^ (2 ^ t * (2 * m + 1) - 1) = 2 ^ (t + 1) - 1 := by
  have hp : 2 ^ t < 2 ^ (t + 1) := Nat.pow_lt_pow_succ Nat.one_lt_two
  rw [odd_part_pred_eq, odd_part_eq]
  apply Nat.eq_of_testBit_eq
  intro j
  rw [Nat.testBit_xor, Nat.testBit_two_pow_mul_add _ hp, Nat.testBit_two_pow_mul_add _ (Nat.lt_of_le_of_lt (Nat.sub_le _ _) hp),
    Nat.testBit_two_pow_sub_one (t + 1)]
  by_cases hj : j < t + 1
  · rw [if_pos hj, if_pos hj, Nat.testBit_two_pow, Nat.testBit_two_pow_sub_one, decide_eq_true hj]
    by_cases hjt : t = j
    · rw [decide_eq_true hjt, decide_eq_false (by omega)]; rfl
    · rw [decide_eq_false hjt, decide_eq_true (by omega)]; rfl
  · rw [if_neg hj, if_neg hj, Bool.xor_self, decide_eq_false hj]

theorem bitLen_ones (t : Nat) : bitLen (2 ^ (t + 1) - 1) = t + 1 := by
  have hlt : 2 ^ t < 2 ^ (t + 1) := Nat.pow_lt_pow_succ Nat.one_lt_two
  have hne : 2 ^ (t + 1) - 1 ≠ 0 :=
    Nat.sub_ne_zero_of_lt (Nat.one_lt_two_pow (Nat.succ_ne_zero t))
  unfold bitLen
  rw [if_neg hne, (Nat.log2_eq_iff hne).mpr ⟨Nat.le_sub_one_of_lt hlt, Nat.sub_lt (Nat.two_pow_pos _) Nat.one_pos⟩]

theorem bitLen_xor_pred (t m : Nat) :
    bitLen ((2 ^ t * (2 * m + 1)) ^^^ (2 ^ t * (2 * m + 1) - 1)) = t + 1 := by
  rw [xor_pred_ones, bitLen_ones]

theorem bitsOf_add (i a b : Nat) : bitsOf i (a + b) = bitsOf (i >>> b) a ++ bitsOf i b := by
  induction a with
  | zero => simp
  | succ a ih =>
    rw [Nat.add_right_comm a 1 b, bitsOf_succ, bitsOf_succ, ih, Nat.testBit_shiftRight, Nat.add_comm b a]
    rfl

theorem bitsOf_mul_add (m r a b : Nat) (hr : r < 2 ^ b) :
    bitsOf (2 ^ b * m + r) (a + b) = bitsOf m a ++ bitsOf r b := by
  rw [bitsOf_add, ← bitsOf_mod (2 ^ b * m + r), Nat.mul_add_mod, bitsOf_mod,
    Nat.shiftRight_eq_div_pow, Nat.mul_add_div (Nat.two_pow_pos b), Nat.div_eq_of_lt hr,
    Nat.add_zero]

theorem bitsOf_low_zero (i t : Nat) (h : ∀ k, k < t → i.testBit k = false) :
    bitsOf i t = List.replicate t false := by
  induction t with
  | zero => rfl
  | succ t ih =>
    rw [bitsOf_succ, h t (Nat.lt_succ_self t), ih (fun k hk => h k (Nat.lt_succ_of_lt hk)),
      List.replicate_succ]

theorem bitsOf_zero_left (d : Nat) : bitsOf 0 d = List.replicate d false :=
  bitsOf_low_zero 0 d (fun k _ => Nat.zero_testBit k)

theorem bitsOf_odd_part (t m a : Nat) :
    bitsOf (2 ^ t * (2 * m + 1)) (a + (t + 1)) = bitsOf m a ++ true :: List.replicate t false := by
  rw [odd_part_eq, bitsOf_mul_add _ _ _ _ (Nat.pow_lt_pow_succ Nat.one_lt_two), bitsOf_succ,
    Nat.testBit_two_pow_self, bitsOf_low_zero (2 ^ t) t]
  intro k hk
  rw [Nat.testBit_two_pow, decide_eq_false (Nat.ne_of_gt hk)]

theorem bitsOf_pred_odd_part (t m a : Nat) :
    ∃ q, q.length = t + 1 ∧ bitsOf (2 ^ t * (2 * m + 1) - 1) (a + (t + 1)) = bitsOf m a ++ q := by
  have := Nat.pow_lt_pow_succ (n := t) Nat.one_lt_two
  exact ⟨_, bitsOf_length _ _, by rw [odd_part_pred_eq, bitsOf_mul_add _ _ _ _ (Nat.lt_of_le_of_lt (Nat.sub_le _ _) this)]⟩

theorem down_bottom (depth fuel : Nat) (node : Node) (si : Nat) (stack : Array Node)
    (h : depth ≤ si) : navStep.down depth fuel node si stack = .ok (node, stack) := by
  cases fuel with
  | zero => rfl
  | succ fuel => unfold navStep.down; rw [if_neg (Nat.not_lt_of_le h)]

/-- the "move down left" loop started at the node `node` that path `p` reaches from the anchor,
    at stack position `si = p.length`: it ends on the node that `Getter` reaches when `p` is
    continued by left turns down to `depth` (same error otherwise), keeps the stack below `si`
    and stores at `k ≥ si` the node passed at depth `k` -/
theorem down_spec (anchor : Node) (depth : Nat) : ∀ (fuel : Nat) (p : List Bool) (node : Node)
    (si : Nat) (stack : Array Node), getNode anchor p = .ok node → p.length = si → si ≤ depth →
    stack.size = depth → depth - si ≤ fuel →
    match getNode anchor (p ++ List.replicate (depth - si) false) with
    | .ok n => ∃ st', navStep.down depth fuel node si stack = .ok (n, st') ∧ st'.size = depth ∧
        (∀ k, k < si → st'[k]? = stack[k]?) ∧
        (∀ k, si ≤ k → k < depth → ∃ m, st'[k]? = some m ∧
          getNode anchor ((p ++ List.replicate (depth - si) false).take k) = .ok m)
    | .error e => navStep.down depth fuel node si stack = .error e := by
  intro fuel p node si stack hp hlen hsi hsz hf
  induction hd : depth - si generalizing fuel p node si stack with
  | zero =>
    have hds := Nat.le_of_sub_eq_zero hd
    rw [List.replicate_zero, List.append_nil, hp]
    exact ⟨stack, down_bottom _ _ _ _ _ hds, hsz, fun _ _ => rfl,
      fun k h1 h2 => absurd (Nat.lt_of_le_of_lt (Nat.le_trans hds h1) h2) (Nat.lt_irrefl _)⟩
  | succ d ih =>
    have hlt : si < depth := Nat.lt_of_sub_eq_succ hd
    obtain ⟨fuel, rfl⟩ := Nat.exists_eq_add_one_of_ne_zero
      (Nat.ne_zero_of_lt (Nat.lt_of_lt_of_le (Nat.sub_pos_of_lt hlt) hf))
    have hd' : depth - (si + 1) = d := by rw [Nat.sub_succ, hd]; rfl
    unfold navStep.down
    rw [if_pos hlt, if_neg (by rw [hsz]; exact Nat.not_le_of_lt hlt), List.replicate_succ,
      List.append_cons]
    cases node with
    | leaf r => rw [List.append_assoc, getNode_append_ok _ hp]; rfl
    | pair l r =>
      have hsz' : (stack.set! si (Node.pair l r)).size = depth := by
        rw [Array.set!, Array.size_setIfInBounds]; exact hsz
      have := ih fuel (p ++ [false]) l (si + 1) (stack.set! si (Node.pair l r))
        (by rw [getNode_append_ok _ hp, getNode_pair_false, getNode_nil])
        (by rw [List.length_append, hlen]; rfl) hlt hsz'
        (by rw [hd']; rw [hd] at hf; exact Nat.le_of_succ_le_succ hf) hd'
      revert this
      cases getNode anchor ((p ++ [false]) ++ List.replicate d false) with
      | error e => exact id
      | ok n =>
        rintro ⟨st', h1, h2, h3, h4⟩
        refine ⟨st', h1, h2, fun k hk => ?_, fun k hk1 hk2 => ?_⟩
        · rw [h3 k (Nat.lt_succ_of_lt hk), Array.set!, Array.getElem?_setIfInBounds,
            if_neg (Nat.ne_of_gt hk)]
        · by_cases hks : k = si
          · refine ⟨Node.pair l r, ?_, ?_⟩
            · rw [h3 k (hks ▸ Nat.lt_succ_self k), Array.set!, Array.getElem?_setIfInBounds,
                if_pos hks.symm, if_pos (hsz ▸ hlt)]
            · rw [List.append_assoc, List.take_left' (hlen.trans hks.symm), hp]
          · exact h4 k (Nat.lt_of_le_of_ne hk1 (Ne.symm hks)) hk2

/-- what the iterator leaves behind after serving bottom node `i`: `stack[k]` is the ancestor
    of `i` at depth `k`, for every `k < depth` -/
def StackFull (anchor : Node) (depth : Nat) (stack : Array Node) (i : Nat) : Prop :=
  stack.size = depth ∧
  ∀ k, k < depth → ∃ m, stack[k]? = some m ∧ getNode anchor ((bitsOf i depth).take k) = .ok m

/-- what the step towards bottom node `i` needs: at every depth `k` where the paths of `i-1`
    and `i` still agree, `stack[k]` is the ancestor of `i` at depth `k` (nothing for `i = 0`) -/
def StackInv (anchor : Node) (depth : Nat) (stack : Array Node) (i : Nat) : Prop :=
  stack.size = depth ∧
  (0 < i → ∀ k, k < depth → (bitsOf (i - 1) depth).take k = (bitsOf i depth).take k →
    ∃ m, stack[k]? = some m ∧ getNode anchor ((bitsOf i depth).take k) = .ok m)

theorem StackFull.inv_succ {anchor : Node} {depth : Nat} {stack : Array Node} {i : Nat}
    (h : StackFull anchor depth stack i) : StackInv anchor depth stack (i + 1) := by
  refine ⟨h.1, fun _ k hk he => ?_⟩
  rw [Nat.add_sub_cancel] at he
  rw [← he]
  exact h.2 k hk

theorem StackFull.inv_same {anchor : Node} {depth : Nat} {stack : Array Node} {i : Nat}
    (h : StackFull anchor depth stack i) : StackInv anchor depth stack i :=
  ⟨h.1, fun _ k hk _ => h.2 k hk⟩

theorem StackInv_new (anchor : Node) (depth : Nat) (x : Node) :
    StackInv anchor depth (Array.replicate depth x) 0 :=
  ⟨Array.size_replicate, fun h => absurd h (Nat.lt_irrefl 0)⟩

theorem navStep_zero (anchor : Node) (depth : Nat) (stack : Array Node) :
    navStep anchor depth stack 0 = navStep.down depth 256 anchor 0 stack := by
  unfold navStep
  rfl

theorem navStep_pos (anchor : Node) (depth : Nat) (stack : Array Node) (idx : Nat) (h : idx ≠ 0) :
    navStep anchor depth stack idx =
      match stack[(depth + 256 - bitLen (idx ^^^ (idx - 1)) % 256) % 256]? with
      | none => .error .panic
      | some (.leaf _) => .error .nav
      | some (.pair _ r) =>
        navStep.down depth 256 r
          (((depth + 256 - bitLen (idx ^^^ (idx - 1)) % 256) % 256 + 1) % 256) stack := by
  unfold navStep
  rw [if_pos h]
  simp only
  cases stack[(depth + 256 - bitLen (idx ^^^ (idx - 1)) % 256) % 256]? with
  | none => rfl
  | some up =>
    cases up with
    | leaf r => rfl
    | pair l r => rfl

/-- the uint8 stack index `depth - bitLen (i xor (i-1))` and its successor do not wrap -/
theorem stackIndex_eq (a t : Nat) (h : a + (t + 1) < 256) :
    (a + (t + 1) + 256 - (t + 1) % 256) % 256 = a ∧ (a + 1) % 256 = a + 1 := by
  have ha : a + 1 < 256 := Nat.lt_of_le_of_lt (Nat.add_le_add_left (Nat.le_add_left 1 t) a) h
  rw [Nat.mod_eq_of_lt (Nat.lt_of_le_of_lt (Nat.le_add_left _ a) h), Nat.add_right_comm,
    Nat.add_sub_cancel, Nat.add_mod_right, Nat.mod_eq_of_lt (Nat.lt_of_succ_lt ha)]
  exact ⟨rfl, Nat.mod_eq_of_lt ha⟩

/-- On any tree, under the stack invariant, the step towards bottom node `i` returns exactly the
    node indexed access reaches along the `depth`-bit path of `i` and leaves the full ancestor
    stack of `i`; if indexed access fails, the step fails with the same error (missing data is an
    error, never a wrong node). -/
theorem navStep_spec (anchor : Node) (depth : Nat) (stack : Array Node) (i : Nat)
    (hd : depth < 256) (hi : i < 2 ^ depth) (inv : StackInv anchor depth stack i) :
    match getNode anchor (bitsOf i depth) with
    | .ok n => ∃ st', navStep anchor depth stack i = .ok (n, st') ∧ StackFull anchor depth st' i
    | .error e => navStep anchor depth stack i = .error e := by
  rcases Nat.eq_zero_or_pos i with h0 | hpos
  · subst h0
    have := down_spec anchor depth 256 [] anchor 0 stack (getNode_nil _) rfl (Nat.zero_le _) inv.1
      (Nat.le_trans (Nat.sub_le _ _) (Nat.le_of_lt hd))
    rw [Nat.sub_zero, List.nil_append, ← bitsOf_zero_left] at this
    rw [navStep_zero]
    revert this
    cases getNode anchor (bitsOf 0 depth) with
    | error e => exact id
    | ok n => exact fun ⟨st', h1, h2, _, h4⟩ => ⟨st', h1, h2, fun k hk => h4 k (Nat.zero_le _) hk⟩
  · obtain ⟨t, m, rfl⟩ := exists_odd_part i hpos
    have htd : t < depth := by
      have : 2 ^ t < 2 ^ depth :=
        Nat.lt_of_le_of_lt (Nat.le_mul_of_pos_right _ (Nat.succ_pos _)) hi
      exact (Nat.pow_lt_pow_iff_right Nat.one_lt_two).mp this
    obtain ⟨a, rfl⟩ : ∃ a, depth = a + (t + 1) := ⟨depth - (t + 1), (Nat.sub_add_cancel htd).symm⟩
    rw [navStep_pos _ _ _ _ (Nat.ne_of_gt hpos), bitLen_xor_pred, (stackIndex_eq a t hd).1,
      (stackIndex_eq a t hd).2]
    -- the paths of `i - 1` and `i` agree down to depth `a`, where the stack is still valid
    obtain ⟨q, hq, hpred⟩ := bitsOf_pred_odd_part t m a
    have hpath := bitsOf_odd_part t m a
    have hshare : ∀ k, k ≤ a → (bitsOf (2 ^ t * (2 * m + 1) - 1) (a + (t + 1))).take k =
        (bitsOf (2 ^ t * (2 * m + 1)) (a + (t + 1))).take k := by
      intro k hk
      have hk' : k ≤ (bitsOf m a).length := by rw [bitsOf_length]; exact hk
      rw [hpred, hpath, List.take_append_of_le_length hk', List.take_append_of_le_length hk']
    obtain ⟨up, hup1, hup2⟩ := inv.2 hpos a (Nat.lt_add_of_pos_right (Nat.succ_pos t))
      (hshare a (Nat.le_refl _))
    rw [hpath, List.take_left' (bitsOf_length _ _)] at hup2
    rw [hup1]
    cases up with
    | leaf r => rw [hpath, getNode_append_ok _ hup2]; rfl
    | pair l r =>
      have := down_spec anchor (a + (t + 1)) 256 (bitsOf m a ++ [true]) r (a + 1) stack
        (by rw [getNode_append_ok _ hup2, getNode_pair_true, getNode_nil]) (by simp)
        (Nat.add_le_add_left (Nat.le_add_left 1 t) a) inv.1
        (Nat.le_trans (Nat.sub_le _ _) (Nat.le_of_lt hd))
      rw [Nat.add_sub_add_left, Nat.add_sub_cancel, ← List.append_cons, ← hpath] at this
      revert this
      cases getNode anchor (bitsOf (2 ^ t * (2 * m + 1)) (a + (t + 1))) with
      | error e => exact id
      | ok n =>
        rintro ⟨st', h1, h2, h3, h4⟩
        refine ⟨st', h1, h2, fun k hk => ?_⟩
        by_cases hka : k ≤ a
        · obtain ⟨x, hx1, hx2⟩ := inv.2 hpos k hk (hshare k hka)
          exact ⟨x, by rw [h3 k (Nat.lt_succ_of_le hka)]; exact hx1, hx2⟩
        · exact h4 k (Nat.lt_of_not_le hka) hk

/-! ### running an iterator, and the sequence it has to produce -/

def runSteps {σ α : Type} (next : σ → α × σ) : Nat → σ → List α
  | 0, _ => []
  | n + 1, s => (next s).1 :: runSteps next n (next s).2

theorem runSteps_map {σ τ α β : Type} (next : σ → α × σ) (next' : τ → β × τ) (g : σ → τ)
    (f : α → β) (h : ∀ s, next' (g s) = (f (next s).1, g (next s).2)) :
    ∀ n s, runSteps next' n (g s) = (runSteps next n s).map f := by
  intro n
  induction n with
  | zero => intro s; rfl
  | succ n ih => intro s; rw [runSteps, runSteps, h, List.map_cons, ih]

/-- the sequence an iterator over `length` components has to produce in `n` calls when it is
    about to serve component `k` and `get` is indexed access: the components in order, `done`
    from `length` on for ever; a failing access is reported as that error, again and again,
    and nothing is skipped -/
def iterSpec {α : Type} (get : Nat → R α) (length : Nat) : Nat → Nat → List (Step α)
  | _, 0 => []
  | k, n + 1 =>
    if k < length then
      match get k with
      | .ok a => .item a :: iterSpec get length (k + 1) n
      | .error e => .err e :: iterSpec get length k n
    else .done :: iterSpec get length k n

theorem iterSpec_done {α : Type} (get : Nat → R α) (length k : Nat) (hk : length ≤ k) :
    ∀ n, iterSpec get length k n = List.replicate n .done := by
  intro n
  induction n with
  | zero => rfl
  | succ n ih => rw [iterSpec, if_neg (Nat.not_lt_of_le hk), ih, List.replicate_succ]

theorem iterSpec_err {α : Type} (get : Nat → R α) (length k : Nat) (e : Err) (hk : k < length)
    (he : get k = .error e) : ∀ n, iterSpec get length k n = List.replicate n (.err e) := by
  intro n
  induction n with
  | zero => rfl
  | succ n ih =>
    rw [iterSpec, if_pos hk, he]
    simp only [ih, List.replicate_succ]

theorem iterSpec_ok_from {α : Type} (get : Nat → R α) (f : Nat → α) (length : Nat) :
    ∀ n d k, k + d ≤ length → (∀ j, j < d → get (k + j) = .ok (f (k + j))) →
      iterSpec get length k n =
        (List.range' k (min n d)).map (fun j => Step.item (f j)) ++
          iterSpec get length (k + d) (n - d) := by
  intro n
  induction n with
  | zero => intro d k _ _; rw [Nat.zero_min, Nat.zero_sub]; rfl
  | succ n ih =>
    intro d k hd hok
    cases d with
    | zero => rw [Nat.min_zero, Nat.sub_zero]; rfl
    | succ d =>
      have hih := ih d (k + 1) (by rw [Nat.add_right_comm]; exact hd)
        (fun j hj => by rw [Nat.add_right_comm]; exact hok (j + 1) (Nat.succ_lt_succ hj))
      rw [Nat.add_right_comm] at hih
      rw [Nat.succ_min_succ, Nat.add_sub_add_right, List.range'_succ, List.map_cons,
        List.cons_append, iterSpec, if_pos (Nat.lt_of_lt_of_le (Nat.lt_add_of_pos_right
        (Nat.succ_pos d)) hd), ← Nat.add_zero k, hok 0 (Nat.succ_pos d), Nat.add_zero]
      exact congrArg _ hih

theorem iterSpec_all_ok {α : Type} (get : Nat → R α) (f : Nat → α) (length : Nat)
    (hok : ∀ j, j < length → get j = .ok (f j)) (n : Nat) :
    iterSpec get length 0 n =
      (List.range (min n length)).map (fun j => Step.item (f j)) ++
        List.replicate (n - length) .done := by
  rw [iterSpec_ok_from get f length n length 0 (Nat.le_of_eq (Nat.zero_add _))
    (fun j hj => by rw [Nat.zero_add]; exact hok j hj), Nat.zero_add,
    iterSpec_done get length length (Nat.le_refl _), List.range_eq_range']

theorem iterSpec_first_err {α : Type} (get : Nat → R α) (f : Nat → α) (length j : Nat) (e : Err)
    (hj : j < length) (hok : ∀ k, k < j → get k = .ok (f k)) (he : get j = .error e) (n : Nat) :
    iterSpec get length 0 n =
      (List.range (min n j)).map (fun k => Step.item (f k)) ++ List.replicate (n - j) (.err e) := by
  rw [iterSpec_ok_from get f length n j 0 (by rw [Nat.zero_add]; exact Nat.le_of_lt hj)
    (fun k hk => by rw [Nat.zero_add]; exact hok k hk), Nat.zero_add,
    iterSpec_err get length j e hj he, List.range_eq_range']

/-- simulation: an iterator whose `next` preserves an invariant `Inv state k` ("about to serve
    component `k`") and answers as `get k` produces `iterSpec` -/
theorem runSteps_sim {σ α : Type} (next : σ → Step α × σ) (get : Nat → R α) (length : Nat)
    (Inv : σ → Nat → Prop)
    (hdone : ∀ s k, Inv s k → length ≤ k → next s = (.done, s))
    (hstep : ∀ s k, Inv s k → k < length →
      match get k with
      | .ok a => ∃ s', next s = (.item a, s') ∧ Inv s' (k + 1)
      | .error e => ∃ s', next s = (.err e, s') ∧ Inv s' k) :
    ∀ n s k, Inv s k → runSteps next n s = iterSpec get length k n := by
  intro n
  induction n with
  | zero => intro s k _; rfl
  | succ n ih =>
    intro s k hinv
    rw [runSteps, iterSpec]
    by_cases hk : k < length
    · rw [if_pos hk]
      have := hstep s k hinv hk
      revert this
      cases get k with
      | ok a =>
        rintro ⟨s', h1, h2⟩
        rw [h1]
        exact congrArg _ (ih s' (k + 1) h2)
      | error e =>
        rintro ⟨s', h1, h2⟩
        rw [h1]
        exact congrArg _ (ih s' k h2)
    · rw [if_neg hk, hdone s k hinv (Nat.le_of_not_lt hk)]
      exact congrArg _ (ih s k hinv)

/-! ### the three stack iterators

`nodeReadonlyIter`, `basicElemReadonlyIter` and `bitReadonlyIter` are one machine over `per`
slots in every bottom node: inside a bottom node the next slot is read from `cur`, the loaded
node; between two of them bottom node `rootIndex` is fetched with `navStep` and loaded.  They
differ in what loading is (a chunk has to be a leaf; the node iterator takes the node as it is
and has `per = 1`), in the slot reader, and in how the counters encode the position. -/

/-- the construction-time limit check: `per` slots in each of `1 << depth` bottom nodes, where
    the shift is 0 from depth 64 on -/
theorem limit_check (depth per length : Nat) :
    ¬ (if depth ≥ 64 then 0 else 2 ^ depth) * per < length ↔
      (length = 0 ∨ (depth < 64 ∧ length ≤ 2 ^ depth * per)) := by
  by_cases h64 : depth ≥ 64
  · rw [if_pos h64, Nat.zero_mul]; omega
  · rw [if_neg h64]; omega

theorem subtreeGet_eq (anchor : Node) (depth k : Nat) (hd : depth < 64) (hk : k < 2 ^ depth) :
    subtreeGet anchor depth k = getNode anchor (bitsOf k depth) := by
  unfold subtreeGet
  rw [toPath_ok k depth hd hk]
  rfl

theorem succ_divmod (k per : Nat) (hp : 0 < per) :
    (k % per + 1 < per → (k + 1) / per = k / per ∧ (k + 1) % per = k % per + 1) ∧
    (k % per + 1 = per → (k + 1) / per = k / per + 1 ∧ (k + 1) % per = 0) := by
  have h : k + 1 = per * (k / per) + (k % per + 1) := congrArg (· + 1) (Nat.div_add_mod k per).symm
  constructor
  · intro hlt
    rw [h, Nat.mul_add_div hp, Nat.mul_add_mod, Nat.div_eq_of_lt hlt, Nat.mod_eq_of_lt hlt]
    exact ⟨rfl, rfl⟩
  · intro heq
    rw [h, heq, ← Nat.mul_succ, Nat.mul_div_cancel_left _ hp, Nat.mul_mod_right]
    exact ⟨rfl, rfl⟩

/-- a counter that runs from 1 to `per` inside every bottom node -/
theorem succ_slot (k per : Nat) (hp : 0 < per) :
    (if (k + 1) % per = 0 then per else (k + 1) % per) = k % per + 1 := by
  have hsd := succ_divmod k per hp
  by_cases h1 : k % per + 1 < per
  · rw [(hsd.1 h1).2, if_neg (Nat.succ_ne_zero _)]
  · have he := Nat.le_antisymm (Nat.mod_lt k hp) (Nat.le_of_not_lt h1)
    rw [(hsd.2 he).2, if_pos rfl]
    exact he.symm

/-- indexed access to slot `k`: bottom node `k / per` (through `get`), loaded, then read -/
def slotAt {α γ : Type} (load : Node → R γ) (read : γ → Nat → R α) (per : Nat)
    (get : Nat → R Node) (k : Nat) : R α := do
  let c ← get (k / per)
  let r ← load c
  read r k

/-- the cursor of an iterator about to serve slot `k`: between bottom nodes the stack is ready
    for node `ri = k / per`; inside one, `cur` is bottom node `k / per`, loaded, and the stack is
    ready for the node after it -/
def ChunkInv {γ : Type} (load : Node → R γ) (anchor : Node) (depth per : Nat) (st : Array Node)
    (cur : γ) (ri k : Nat) : Prop :=
  StackInv anchor depth st ri ∧
  if k % per = 0 then ri = k / per
  else ri = k / per + 1 ∧
    ∃ c, getNode anchor (bitsOf (k / per) depth) = .ok c ∧ load c = .ok cur

/-- after a slot of bottom node `k / per` has been served (whether it was just fetched or not) -/
theorem ChunkInv.succ {γ : Type} {load : Node → R γ} {anchor : Node} {depth per : Nat}
    {st : Array Node} {cur : γ} {k : Nat} (hp : 0 < per)
    (hst : StackInv anchor depth st (k / per + 1))
    (hcur : ∃ c, getNode anchor (bitsOf (k / per) depth) = .ok c ∧ load c = .ok cur) :
    ChunkInv load anchor depth per st cur (k / per + 1) (k + 1) := by
  refine ⟨hst, ?_⟩
  have hsd := succ_divmod k per hp
  by_cases h1 : k % per + 1 < per
  · obtain ⟨e1, e2⟩ := hsd.1 h1
    rw [if_neg (e2 ▸ Nat.succ_ne_zero _), e1]
    exact ⟨rfl, hcur⟩
  · obtain ⟨e1, e2⟩ := hsd.2 (Nat.le_antisymm (Nat.mod_lt k hp) (Nat.le_of_not_lt h1))
    rw [if_pos e2, e1]

/-- `next` is the `Next()` of such an iterator over `anchor`, whose states about to serve slot
    `k` are `mk stack k cur rootIndex` -/
structure IsPacked {σ α γ : Type} (next : σ → Step α × σ) (mk : Array Node → Nat → γ → Nat → σ)
    (load : Node → R γ) (read : γ → Nat → R α) (anchor : Node) (length depth per : Nat) :
    Prop where
  done : ∀ st k cur ri, length ≤ k → next (mk st k cur ri) = (.done, mk st k cur ri)
  inside : ∀ st k cur ri, k < length → k % per ≠ 0 →
    next (mk st k cur ri) =
      match read cur k with
      | .error e => (.err e, mk st k cur ri)
      | .ok v => (.item v, mk st (k + 1) cur ri)
  fetch : ∀ st k cur, k < length → k % per = 0 →
    next (mk st k cur (k / per)) =
      match navStep anchor depth st (k / per) with
      | .error e => (.err e, mk st k cur (k / per))
      | .ok (c, st') =>
        match load c with
        | .error e => (.err e, mk st' k cur (k / per))
        | .ok r =>
          match read r k with
          | .error e => (.err e, mk st' k r (k / per))
          | .ok v => (.item v, mk st' (k + 1) r (k / per + 1))

theorem IsPacked.run {σ α γ : Type} {next : σ → Step α × σ}
    {mk : Array Node → Nat → γ → Nat → σ} {load : Node → R γ} {read : γ → Nat → R α}
    {anchor : Node} {length depth per : Nat}
    (h : IsPacked next mk load read anchor length depth per)
    (hok : length = 0 ∨ (depth < 64 ∧ length ≤ 2 ^ depth * per)) (x : Node) (cur : γ) (n : Nat) :
    runSteps next n (mk (Array.replicate depth x) 0 cur 0) =
      iterSpec (slotAt load read per (subtreeGet anchor depth)) length 0 n := by
  refine runSteps_sim next _ length
    (fun s k => ∃ st cur ri, s = mk st k cur ri ∧ ChunkInv load anchor depth per st cur ri k)
    ?_ ?_ n _ 0 ⟨_, cur, 0, rfl, StackInv_new _ _ _, by rw [Nat.zero_mod, if_pos rfl, Nat.zero_div]⟩
  · rintro s k ⟨st, cur, ri, rfl, _⟩ hk
    exact h.done st k cur ri hk
  · rintro s k ⟨st, cur, ri, rfl, hst, hri⟩ hk
    obtain ⟨h64, hl⟩ := hok.resolve_left (Nat.ne_zero_of_lt hk)
    have hp : 0 < per := Nat.pos_of_ne_zero fun h0 => by
      rw [h0, Nat.mul_zero] at hl; exact Nat.not_lt_zero k (Nat.lt_of_lt_of_le hk hl)
    have hlt : k / per < 2 ^ depth :=
      Nat.div_lt_of_lt_mul (by rw [Nat.mul_comm]; exact Nat.lt_of_lt_of_le hk hl)
    unfold slotAt
    rw [subtreeGet_eq anchor depth _ h64 hlt]
    by_cases hm : k % per = 0
    · -- between bottom nodes: fetch node `k / per`
      rw [if_pos hm] at hri
      subst hri
      have := navStep_spec anchor depth st (k / per) (Nat.lt_trans h64 (by decide)) hlt hst
      revert this
      rw [h.fetch st k cur hk hm]
      cases hg : getNode anchor (bitsOf (k / per) depth) with
      | error e =>
        intro h1
        rw [h1]
        exact ⟨_, rfl, st, cur, _, rfl, hst, by rw [if_pos hm]⟩
      | ok a =>
        rintro ⟨st', h1, h2⟩
        rw [h1, R.bind_ok]
        dsimp only
        cases hl : load a with
        | error e => exact ⟨_, rfl, st', cur, _, rfl, h2.inv_same, by rw [if_pos hm]⟩
        | ok r =>
          rw [R.bind_ok]
          dsimp only
          cases read r k with
          | error e => exact ⟨_, rfl, st', r, _, rfl, h2.inv_same, by rw [if_pos hm]⟩
          | ok v => exact ⟨_, rfl, st', r, _, rfl, ChunkInv.succ hp h2.inv_succ ⟨a, hg, hl⟩⟩
    · -- inside bottom node `k / per`
      rw [if_neg hm] at hri
      obtain ⟨rfl, c, hc, hcur⟩ := hri
      rw [h.inside st k cur _ hk hm, hc, R.bind_ok, hcur, R.bind_ok]
      cases read cur k with
      | error e => exact ⟨_, rfl, st, cur, _, rfl, hst, by rw [if_neg hm]; exact ⟨rfl, c, hc, hcur⟩⟩
      | ok v => exact ⟨_, rfl, st, cur, _, rfl, ChunkInv.succ hp hst ⟨c, hc, hcur⟩⟩

/-- `Next()` of `nodeReadonlyIter` with the node at position `k` rendered by `f k` (what
    `elemReadonlyIter` / `fieldReadonlyIter` do with it) -/
def nodeNextWith {α : Type} (f : Nat → Node → α) (it : NodeIt) : Step α × NodeIt :=
  (match it.next.1 with
   | .item c => .item (f it.i c)
   | .done => .done
   | .err e => .err e, it.next.2)

theorem nodeNextWith_id : nodeNextWith (fun _ c => c) = NodeIt.next := by
  funext it
  unfold nodeNextWith
  rcases it.next with ⟨s, it'⟩
  cases s <;> rfl

theorem node_isPacked {α : Type} (f : Nat → Node → α) (anchor : Node) (length depth : Nat) :
    IsPacked (nodeNextWith f) (fun st k _ _ => ⟨anchor, length, depth, st, k, false⟩)
      .ok (fun c k => .ok (f k c)) anchor length depth 1 := by
  refine ⟨fun st k cur ri hk => ?_, fun st k cur ri hk hm => absurd (Nat.mod_one k) hm,
    fun st k cur hk hm => ?_⟩
  · unfold nodeNextWith NodeIt.next
    simp only [Bool.false_eq_true, if_false]
    rw [if_pos hk]
  · unfold nodeNextWith NodeIt.next
    simp only [Bool.false_eq_true, if_false]
    rw [if_neg (Nat.not_le_of_lt hk), Nat.div_one]
    cases navStep anchor depth st k with
    | error e => rfl
    | ok x => rfl

theorem slotAt_one {α : Type} (f : Nat → Node → α) (get : Nat → R Node) :
    slotAt .ok (fun c k => .ok (f k c)) 1 get = fun k => get k >>= fun c => .ok (f k c) := by
  funext k
  unfold slotAt
  rw [Nat.div_one]
  rfl

theorem node_bad_iff (anchor : Node) (length depth : Nat) :
    (NodeIt.new anchor length depth).bad = false ↔
      (length = 0 ∨ (depth < 64 ∧ length ≤ 2 ^ depth)) := by
  have := limit_check depth 1 length
  rw [Nat.mul_one, Nat.mul_one] at this
  unfold NodeIt.new
  simpa only [decide_eq_false_iff_not] using this

theorem node_new_not_bad (anchor : Node) (length depth : Nat)
    (h : length = 0 ∨ (depth < 64 ∧ length ≤ 2 ^ depth)) :
    (NodeIt.new anchor length depth).bad = false :=
  (node_bad_iff anchor length depth).mpr h

theorem node_run_with {α : Type} (f : Nat → Node → α) (anchor : Node) (length depth : Nat)
    (hb : (NodeIt.new anchor length depth).bad = false) (n : Nat) :
    runSteps (nodeNextWith f) n (NodeIt.new anchor length depth) =
      iterSpec (fun k => subtreeGet anchor depth k >>= fun c => .ok (f k c)) length 0 n := by
  have hnew : NodeIt.new anchor length depth =
      ⟨anchor, length, depth, Array.replicate depth (.leaf z0), 0, false⟩ := by
    rw [← hb]
    rfl
  rw [hnew, ← slotAt_one]
  exact (node_isPacked f anchor length depth).run
    (by rw [Nat.mul_one]; exact (node_bad_iff anchor length depth).mp hb) _ (.leaf z0) n

theorem node_run (anchor : Node) (length depth : Nat)
    (hb : (NodeIt.new anchor length depth).bad = false) (n : Nat) :
    runSteps NodeIt.next n (NodeIt.new anchor length depth) =
      iterSpec (fun k => subtreeGet anchor depth k) length 0 n := by
  have hget : (fun k => subtreeGet anchor depth k >>= fun c => .ok c) =
      fun k => subtreeGet anchor depth k :=
    funext fun k => by cases subtreeGet anchor depth k <;> rfl
  rw [← nodeNextWith_id, node_run_with _ anchor length depth hb n, hget]

/-- indexed access to packed element `k`: chunk `k / perNode` through `SubtreeView.GetNode`,
    then `BasicViewFromBacking(chunk, k % perNode)` (the body of `readBasics`) -/
def basicAt (size : Nat) (anchor : Node) (depth k : Nat) : R Val := do
  let c ← subtreeGet anchor depth (k / perNode size)
  let r ← asLeaf c
  basicFromChunk size r (k % perNode size)

theorem basic_new_ok {anchor : Node} {length depth size : Nat}
    (hb : (BasicIt.new anchor length depth size).bad = false) :
    length = 0 ∨ (depth < 64 ∧ 0 < 32 / size ∧ length ≤ 2 ^ depth * (32 / size)) := by
  unfold BasicIt.new at hb
  simp only [decide_eq_false_iff_not] at hb
  rcases (limit_check depth (32 / size) length).mp hb with h0 | ⟨h64, hl⟩
  · exact Or.inl h0
  · rcases Nat.eq_zero_or_pos (32 / size) with hp | hp
    · rw [hp, Nat.mul_zero] at hl; exact Or.inl (Nat.le_zero.mp hl)
    · exact Or.inr ⟨h64, hp, hl⟩

theorem basic_new_not_bad (anchor : Node) (length depth size : Nat)
    (h : length = 0 ∨ (depth < 64 ∧ length ≤ 2 ^ depth * (32 / size))) :
    (BasicIt.new anchor length depth size).bad = false := by
  unfold BasicIt.new
  simpa only [decide_eq_false_iff_not] using (limit_check depth (32 / size) length).mpr h

/-- `basicElemReadonlyIter` is such an iterator; its counter `j` runs from 1 to `per`, so at
    the start of a chunk it still holds `per` from the chunk before -/
theorem basicIt_isPacked (anchor : Node) (length depth size : Nat)
    (hp : length = 0 ∨ 0 < 32 / size) :
    IsPacked BasicIt.next
      (fun st k cur ri => ⟨anchor, length, depth, size, st, k,
        if k % (32 / size) = 0 then 32 / size else k % (32 / size), cur, ri, false⟩)
      asLeaf (fun r k => basicFromChunk size r (k % (32 / size))) anchor length depth
      (32 / size) := by
  have hj := fun k (hk : k < length) =>
    succ_slot k (32 / size) (hp.resolve_left (Nat.ne_zero_of_lt hk))
  refine ⟨fun st k cur ri hk => ?_, fun st k cur ri hk hm => ?_, fun st k cur hk hm => ?_⟩
  · show (if k ≥ length then _ else _) = _
    rw [if_pos hk]
  · show (if k ≥ length then _ else _) = _
    rw [if_neg (Nat.not_le_of_lt hk), if_neg hm, if_pos (Nat.mod_lt k (hp.resolve_left (Nat.ne_zero_of_lt hk)))]
    cases basicFromChunk size cur (k % (32 / size)) with
    | error e => rfl
    | ok v => simp only [hj k hk]
  · show (if k ≥ length then _ else _) = _
    rw [if_neg (Nat.not_le_of_lt hk), if_pos hm, if_neg (Nat.lt_irrefl _), hm]
    cases navStep anchor depth st (k / (32 / size)) with
    | error e => rfl
    | ok x =>
      obtain ⟨n, st'⟩ := x
      cases n with
      | pair l r => rfl
      | leaf r =>
        simp only [asLeaf]
        cases basicFromChunk size r 0 with
        | error e => rfl
        | ok v => simp only [hj k hk, hm]

theorem basic_run (anchor : Node) (length depth size : Nat)
    (hb : (BasicIt.new anchor length depth size).bad = false) (n : Nat) :
    runSteps BasicIt.next n (BasicIt.new anchor length depth size) =
      iterSpec (basicAt size anchor depth) length 0 n := by
  have hok := basic_new_ok hb
  have hnew : BasicIt.new anchor length depth size =
      ⟨anchor, length, depth, size, Array.replicate depth (.leaf z0), 0,
        if 0 % (32 / size) = 0 then 32 / size else 0 % (32 / size), z0, 0, false⟩ := by
    rw [← hb, Nat.zero_mod, if_pos rfl]
    rfl
  rw [hnew]
  exact (basicIt_isPacked anchor length depth size (hok.imp_right (·.2.1))).run
    (hok.imp_right fun h => ⟨h.1, h.2.2⟩) _ z0 n

theorem bitFromChunk_mod (r : Root) (k : Nat) : bitFromChunk r (k % 256) = bitFromChunk r k := by
  unfold bitFromChunk
  simp only [Nat.mod_mod]

/-- indexed access to bit `k`: chunk `k / 256` through `SubtreeView.GetNode`, then bit
    `k % 256` of it (the body of `readBits`) -/
def bitAt (anchor : Node) (depth k : Nat) : R Bool := do
  let c ← subtreeGet anchor depth (k / 256)
  let r ← asLeaf c
  .ok (bitFromChunk r k)

/-- `bitReadonlyIter` is such an iterator with 256 slots; its uint8 counter `j` is `k mod 256` -/
theorem bitIt_isPacked (anchor : Node) (length depth : Nat) :
    IsPacked BitIt.next (fun st k cur ri => ⟨anchor, length, depth, st, k, k % 256, cur, ri, false⟩)
      asLeaf (fun r k => .ok (bitFromChunk r k)) anchor length depth 256 := by
  refine ⟨fun st k cur ri hk => ?_, fun st k cur ri hk hm => ?_, fun st k cur hk hm => ?_⟩
  · show (if k ≥ length then _ else _) = _
    rw [if_pos hk]
  · show (if k ≥ length then _ else _) = _
    rw [if_neg (Nat.not_le_of_lt hk), if_pos (Nat.pos_of_ne_zero hm), Nat.mod_add_mod,
      bitFromChunk_mod]
  · show (if k ≥ length then _ else _) = _
    rw [if_neg (Nat.not_le_of_lt hk), hm, if_neg (Nat.lt_irrefl 0),
      show (k + 1) % 256 = 1 by rw [Nat.add_mod, hm]]
    cases navStep anchor depth st (k / 256) with
    | error e => rfl
    | ok x =>
      obtain ⟨n, st'⟩ := x
      cases n with
      | pair l r => rfl
      | leaf r => simp only [asLeaf, ← hm, bitFromChunk_mod]

theorem bit_new_ok {anchor : Node} {length depth : Nat}
    (hb : (BitIt.new anchor length depth).bad = false) :
    length = 0 ∨ (depth < 64 ∧ length ≤ 2 ^ depth * 256) := by
  unfold BitIt.new at hb
  simp only [decide_eq_false_iff_not] at hb
  exact (limit_check depth 256 length).mp fun h =>
    hb (Nat.lt_of_le_of_lt (Nat.mod_le _ _) h)

theorem bit_run (anchor : Node) (length depth : Nat)
    (hb : (BitIt.new anchor length depth).bad = false) (n : Nat) :
    runSteps BitIt.next n (BitIt.new anchor length depth) =
      iterSpec (bitAt anchor depth) length 0 n := by
  have hnew : BitIt.new anchor length depth =
      ⟨anchor, length, depth, Array.replicate depth (.leaf z0), 0, 0 % 256, z0, 0, false⟩ := by
    rw [← hb]
    rfl
  rw [hnew]
  exact (bitIt_isPacked anchor length depth).run (bit_new_ok hb) _ z0 n

/-! ### what a client sees: `AnyIt` -/

/-- what the index-based `Iter()` shows for position `k`: the typed getter `Get(k)` rendered
    as a client observation -/
def indexedOut (t : Ty) (n : Node) (k : Nat) : Out :=
  match getElemNode t n k with
  | .error _ => .err
  | .ok (et, en) =>
    if !elemViewOk et en then .err
    else match t with
      | .bitvector _ | .bitlist _ =>
        (match en with
         | .leaf r => .bit (r.getD 0 0 != 0)
         | _ => .err)
      | _ => .node et en

/-- `out k` for `k < length` in order (every call advances, also after an error), then `done` -/
def outSeq (out : Nat → Out) (length : Nat) : Nat → Nat → List Out
  | _, 0 => []
  | k, m + 1 =>
    if k < length then out k :: outSeq out length (k + 1) m
    else .done :: outSeq out length k m

theorem outSeq_congr {out out' : Nat → Out} {length : Nat}
    (h : ∀ j, j < length → out j = out' j) :
    ∀ m k, outSeq out length k m = outSeq out' length k m := by
  intro m
  induction m with
  | zero => intro k; rfl
  | succ m ih =>
    intro k
    rw [outSeq, outSeq]
    by_cases hk : k < length
    · rw [if_pos hk, if_pos hk, h k hk, ih]
    · rw [if_neg hk, if_neg hk, ih]

def stepOut {α : Type} (f : α → Out) : Step α → Out
  | .item a => f a
  | .done => .done
  | .err _ => .err

theorem iterSpec_map_all_ok {α : Type} (get : Nat → R α) (g : α → Out) (length : Nat)
    (out : Nat → Out) (h : ∀ j, j < length → ∃ a, get j = .ok a ∧ g a = out j) :
    ∀ m k, (iterSpec get length k m).map (stepOut g) = outSeq out length k m := by
  intro m
  induction m with
  | zero => intro k; rfl
  | succ m ih =>
    intro k
    rw [iterSpec, outSeq]
    by_cases hk : k < length
    · obtain ⟨a, h1, h2⟩ := h k hk
      rw [if_pos hk, if_pos hk, h1, ← h2, ← ih]
      rfl
    · rw [if_neg hk, if_neg hk, ← ih]
      rfl

theorem outSeq_closed (out : Nat → Out) (length m : Nat) :
    outSeq out length 0 m =
      (List.range (min m length)).map out ++ List.replicate (m - length) .done := by
  rw [← iterSpec_map_all_ok (fun j => .ok (out j)) id length out (fun j _ => ⟨_, rfl, rfl⟩),
    iterSpec_all_ok _ out length (fun _ _ => rfl), List.map_append, List.map_map,
    List.map_replicate]
  rfl

theorem next_nodes_eq (it : NodeIt) (ety : Nat → Option Ty) :
    AnyIt.next (.nodes it ety) =
      match it.next with
      | (.err _, it') => (.err, .nodes it' ety)
      | (.done, it') => (.done, .nodes it' ety)
      | (.item n, it') =>
        match ety it.i with
        | none => (.err, .nodes it' ety)
        | some t => if elemViewOk t n then (.node t n, .nodes it' ety) else (.err, .nodes it' ety) :=
  rfl

theorem next_basics_eq (it : BasicIt) (t : Ty) :
    AnyIt.next (.basics it t) =
      match it.next with
      | (.err _, it') => (.err, .basics it' t)
      | (.done, it') => (.done, .basics it' t)
      | (.item v, it') => (.val t v, .basics it' t) := rfl

theorem next_bits_eq (it : BitIt) :
    AnyIt.next (.bits it) =
      match it.next with
      | (.err _, it') => (.err, .bits it')
      | (.done, it') => (.done, .bits it')
      | (.item b, it') => (.bit b, .bits it') := rfl

theorem indexed_next (t : Ty) (n : Node) (length k : Nat) :
    AnyIt.next (.indexed t n length k) =
      if k < length then (indexedOut t n k, .indexed t n length (k + 1))
      else (.done, .indexed t n length k) := by
  show (if k < length then _ else _) = _
  unfold indexedOut
  by_cases hk : k < length
  · rw [if_pos hk, if_pos hk]
    cases getElemNode t n k with
    | error e => rfl
    | ok x =>
      obtain ⟨et, en⟩ := x
      simp only
      cases elemViewOk et en with
      | false => rfl
      | true =>
        simp only [Bool.not_true, Bool.false_eq_true, if_false]
        cases t <;> first | rfl | (cases en <;> rfl)
  · rw [if_neg hk, if_neg hk]

theorem indexed_run (t : Ty) (n : Node) (length : Nat) :
    ∀ m k, runSteps AnyIt.next m (.indexed t n length k) = outSeq (indexedOut t n) length k m := by
  intro m
  induction m with
  | zero => intro k; rfl
  | succ m ih =>
    intro k
    rw [runSteps, outSeq, indexed_next]
    by_cases hk : k < length
    · rw [if_pos hk, if_pos hk, ← ih]
    · rw [if_neg hk, if_neg hk, ← ih]

/-- client observation of element `k` whose backing node is `c`, element types by position -/
def nodeOut (ety : Nat → Option Ty) (k : Nat) (c : Node) : Out :=
  match ety k with
  | none => .err
  | some t => if elemViewOk t c then .node t c else .err

/-- what `elemReadonlyIter` / `fieldReadonlyIter` have to show: like `iterSpec` (a failing node
    access is an error that is repeated), with each node wrapped into an element view -/
def nodesSeq (get : Nat → R Node) (ety : Nat → Option Ty) (length : Nat) : Nat → Nat → List Out
  | _, 0 => []
  | k, m + 1 =>
    if k < length then
      match get k with
      | .ok c => nodeOut ety k c :: nodesSeq get ety length (k + 1) m
      | .error _ => .err :: nodesSeq get ety length k m
    else .done :: nodesSeq get ety length k m

/-- `nodesSeq` is `iterSpec` for the access that wraps the node at once, rendered for the client -/
theorem nodesSeq_eq (get : Nat → R Node) (ety : Nat → Option Ty) (length : Nat) :
    ∀ m k, nodesSeq get ety length k m =
      (iterSpec (fun j => get j >>= fun c => .ok (nodeOut ety j c)) length k m).map (stepOut id) := by
  intro m
  induction m with
  | zero => intro k; rfl
  | succ m ih =>
    intro k
    rw [nodesSeq, iterSpec]
    by_cases hk : k < length
    · rw [if_pos hk, if_pos hk]
      cases get k with
      | ok c => exact congrArg _ (ih (k + 1))
      | error e => exact congrArg _ (ih k)
    · rw [if_neg hk, if_neg hk]
      exact congrArg _ (ih k)

theorem nodesSeq_all_ok (get : Nat → R Node) (ety : Nat → Option Ty) (length : Nat)
    (out : Nat → Out)
    (h : ∀ j, j < length → ∃ c, get j = .ok c ∧ nodeOut ety j c = out j) :
    ∀ m k, nodesSeq get ety length k m = outSeq out length k m := by
  intro m k
  rw [nodesSeq_eq]
  refine iterSpec_map_all_ok _ id length out (fun j hj => ?_) m k
  obtain ⟨c, h1, h2⟩ := h j hj
  exact ⟨_, by rw [h1]; rfl, h2⟩

/-- `elemReadonlyIter` / `fieldReadonlyIter` as a client sees them, against indexed access -/
theorem anyNodes_run (anchor : Node) (length depth : Nat)
    (hb : (NodeIt.new anchor length depth).bad = false) (ety : Nat → Option Ty) (m : Nat) :
    runSteps AnyIt.next m (.nodes (NodeIt.new anchor length depth) ety) =
      nodesSeq (fun j => subtreeGet anchor depth j) ety length 0 m := by
  rw [nodesSeq_eq, ← node_run_with (nodeOut ety) anchor length depth hb m]
  refine runSteps_map (nodeNextWith (nodeOut ety)) AnyIt.next (AnyIt.nodes · ety) _ (fun it => ?_) m _
  rw [next_nodes_eq]
  unfold nodeNextWith nodeOut
  rcases it.next with ⟨s, it'⟩
  cases s with
  | item c =>
    dsimp only
    cases ety it.i with
    | none => rfl
    | some t => dsimp only; cases elemViewOk t c <;> rfl
  | done => rfl
  | err e => rfl

theorem anyBasics_run (t : Ty) : ∀ m (it : BasicIt),
    runSteps AnyIt.next m (.basics it t) = (runSteps BasicIt.next m it).map (stepOut (Out.val t)) :=
  runSteps_map BasicIt.next AnyIt.next (AnyIt.basics · t) _ fun it => by
    rw [next_basics_eq]
    rcases it.next with ⟨s, it'⟩
    cases s <;> rfl

theorem anyBits_run : ∀ m (it : BitIt),
    runSteps AnyIt.next m (.bits it) = (runSteps BitIt.next m it).map (stepOut Out.bit) :=
  runSteps_map BitIt.next AnyIt.next AnyIt.bits _ fun it => by
    rw [next_bits_eq]
    rcases it.next with ⟨s, it'⟩
    cases s <;> rfl

theorem anyFailed_run : ∀ m, runSteps AnyIt.next m .failed = List.replicate m .err := by
  intro m
  induction m with
  | zero => rfl
  | succ m ih => rw [List.replicate_succ, ← ih]; rfl

/-! ### which iterator `ReadonlyIter()` / `Iter()` start -/

theorem start_vector (e : Ty) (k : Nat) (n : Node) (ro : Bool) :
    start (.vector e k) n ro =
      if !ro then .indexed (.vector e k) n k 0
      else if isBasicElem e then .basics (BasicIt.new n k (seriesDepth e k) e.fixedSize) e
      else .nodes (NodeIt.new n k (coverDepth k)) (fun _ => some e) := rfl

theorem start_container (fs : List Ty) (n : Node) (ro : Bool) :
    start (.container fs) n ro =
      if ro then .nodes (NodeIt.new n fs.length (coverDepth fs.length)) (fun i => fs[i]?)
      else .indexed (.container fs) n fs.length 0 := rfl

theorem start_bitvector (k : Nat) (n : Node) (ro : Bool) :
    start (.bitvector k) n ro =
      if ro then .bits (BitIt.new n k (bitDepth k)) else .indexed (.bitvector k) n k 0 := rfl

theorem start_list_failed (e : Ty) (lim : Nat) (n : Node) (ro : Bool) (err : Err)
    (h : listLength n lim = .error err) : start (.list e lim) n ro = .failed := by
  simp only [start, h]

theorem start_bitlist_failed (lim : Nat) (n : Node) (ro : Bool) (err : Err)
    (h : listLength n lim = .error err) : start (.bitlist lim) n ro = .failed := by
  simp only [start, h]

theorem start_list (e : Ty) (lim : Nat) (l r : Node) (ro : Bool) (ll : Nat)
    (h : listLength (.pair l r) lim = .ok ll) :
    start (.list e lim) (.pair l r) ro =
      if !ro then .indexed (.list e lim) (.pair l r) ll 0
      else if isBasicElem e then .basics (BasicIt.new l ll (seriesDepth e lim) e.fixedSize) e
      else .nodes (NodeIt.new l ll (coverDepth lim)) (fun _ => some e) := by
  simp only [start, h]

theorem start_bitlist (lim : Nat) (l r : Node) (ro : Bool) (ll : Nat)
    (h : listLength (.pair l r) lim = .ok ll) :
    start (.bitlist lim) (.pair l r) ro =
      if ro then .bits (BitIt.new l ll (bitDepth lim))
      else .indexed (.bitlist lim) (.pair l r) ll 0 := by
  simp only [start, h]

/-! ### read-only iterator = index-based iterator

`Get(j)` is the access of the read-only iterator at `j` followed by a wrapping that cannot
fail.  So where every `Get(j)`, `j < len`, succeeds, every access of the read-only iterator
succeeds, and both iterators show the same `len` components. -/

theorem subtreeGet_ok_bounds {n c : Node} {d j : Nat} (h : subtreeGet n d j = .ok c) :
    d < 64 ∧ j < 2 ^ d := by
  unfold subtreeGet at h
  cases hp : toPath j d with
  | error e => rw [hp] at h; cases h
  | ok p => exact (toPath_eq hp).2

theorem le_two_pow_coverDepth' (n : Nat) : n ≤ 2 ^ coverDepth n := le_two_pow_coverDepth n

theorem ok_of_bind_ok {α β : Type} {r : R α} {w : α → β} {y : R β}
    (heq : y = r >>= fun a => .ok (w a)) (hok : ∃ x, y = .ok x) :
    ∃ a, r = .ok a ∧ y = .ok (w a) := by
  subst heq
  cases r with
  | error e => obtain ⟨x, hx⟩ := hok; cases hx
  | ok a => exact ⟨a, rfl, rfl⟩

/-- a list view reaches its contents one level below its root: a successful access through the
    root is the access into the contents -/
theorem subtreeGet_bind_pair_left {β : Type} (l r : Node) (d i : Nat) (f : Node → R β)
    (hi : i < 2 ^ d) (hok : ∃ y, (subtreeGet (.pair l r) (d + 1) i >>= f) = .ok y) :
    (subtreeGet (.pair l r) (d + 1) i >>= f) = subtreeGet l d i >>= f := by
  cases hc : subtreeGet (.pair l r) (d + 1) i with
  | error e => rw [hc] at hok; obtain ⟨y, hy⟩ := hok; cases hy
  | ok c => rw [← hc, subtreeGet_pair_left l r d i (subtreeGet_ok_bounds hc).1 hi]

/-- `n` slots, `per` to a bottom node: slot `j` lies in the subtree covering `⌈n / per⌉` nodes -/
theorem div_lt_two_pow_cover (n per j : Nat) (hj : j < n) :
    j / per < 2 ^ coverDepth ((n + per - 1) / per) := by
  rcases Nat.eq_zero_or_pos per with rfl | hp
  · rw [Nat.div_zero]; exact Nat.two_pow_pos _
  · apply Nat.div_lt_of_lt_mul
    have h1 := Nat.mul_le_mul_left per (le_two_pow_coverDepth ((n + per - 1) / per))
    have h2 := Nat.lt_mul_div_succ (n + per - 1) hp
    rw [Nat.mul_succ] at h2
    omega

theorem listLength_ok {n : Node} {lim ll : Nat} (h : listLength n lim = .ok ll) :
    (∃ l r, n = .pair l r) ∧ ll ≤ lim := by
  unfold listLength at h
  cases n with
  | leaf x => cases h
  | pair l r =>
    refine ⟨⟨l, r, rfl⟩, ?_⟩
    simp only [getNode, if_true, bind, Except.bind] at h
    cases hr : asLeaf r with
    | error e => rw [hr] at h; cases h
    | ok x =>
      rw [hr] at h
      simp only at h
      split at h
      · cases h
      · cases h; omega

theorem indexedOut_node {t : Ty} {n : Node} {k : Nat} {et : Ty} {en : Node}
    (hv : ∀ k, t ≠ .bitvector k) (hl : ∀ k, t ≠ .bitlist k)
    (h : getElemNode t n k = .ok (et, en)) :
    indexedOut t n k = if elemViewOk et en then .node et en else .err := by
  unfold indexedOut
  rw [h]
  dsimp only
  cases elemViewOk et en with
  | false => rfl
  | true =>
    cases t with
    | bitvector k => exact absurd rfl (hv k)
    | bitlist k => exact absurd rfl (hl k)
    | _ => rfl

theorem anyNodes_eq_indexed (t : Ty) (n anchor : Node) (len depth : Nat) (ety : Nat → Option Ty)
    (hv : ∀ k, t ≠ .bitvector k) (hl : ∀ k, t ≠ .bitlist k)
    (hall : ∀ j, j < len → ∃ x, getElemNode t n j = .ok x)
    (heq : ∀ j, j < len → ∃ et, ety j = some et ∧
      getElemNode t n j = subtreeGet anchor depth j >>= fun c => .ok (et, c)) (m : Nat) :
    runSteps AnyIt.next m (.nodes (NodeIt.new anchor len depth) ety) =
      runSteps AnyIt.next m (.indexed t n len 0) := by
  have hget : ∀ j, j < len → ∃ et c, ety j = some et ∧ subtreeGet anchor depth j = .ok c ∧
      getElemNode t n j = .ok (et, c) := by
    intro j hj
    obtain ⟨et, h1, h2⟩ := heq j hj
    obtain ⟨c, h3, h4⟩ := ok_of_bind_ok h2 (hall j hj)
    exact ⟨et, c, h1, h3, h4⟩
  -- the last access succeeded, so the subtree is deep enough
  have hok : len = 0 ∨ (depth < 64 ∧ len ≤ 2 ^ depth) := by
    by_cases h0 : len = 0
    · exact Or.inl h0
    · obtain ⟨_, c, _, h2, _⟩ := hget (len - 1) (Nat.sub_lt (Nat.pos_of_ne_zero h0) Nat.one_pos)
      have := subtreeGet_ok_bounds h2
      exact Or.inr ⟨this.1, Nat.le_of_pred_lt this.2⟩
  rw [anyNodes_run anchor len depth (node_new_not_bad anchor len depth hok) ety m,
    indexed_run t n len m 0]
  apply nodesSeq_all_ok
  intro j hj
  obtain ⟨et, c, h1, h2, h3⟩ := hget j hj
  refine ⟨c, h2, ?_⟩
  rw [indexedOut_node hv hl h3, nodeOut, h1]

theorem getElemNode_vector_complex (e : Ty) (k : Nat) (n : Node) (j : Nat) (hj : j < k)
    (hnb : isBasicElem e = false) :
    getElemNode (.vector e k) n j =
      (subtreeGet n (coverDepth k) j >>= fun c => .ok (e, c)) := by
  unfold getElemNode viewDepth seriesDepth
  simp only [hnb, Bool.false_eq_true, if_false]
  rw [if_neg (Nat.not_le_of_lt hj)]

theorem getElemNode_container (fs : List Ty) (n : Node) (j : Nat) (ft : Ty) (hj : fs[j]? = some ft) :
    getElemNode (.container fs) n j =
      (subtreeGet n (coverDepth fs.length) j >>= fun c => .ok (ft, c)) := by
  unfold getElemNode viewDepth
  simp only [hj]

/-- `Get(j)` of a list view is `Get(j)` of the vector view of its contents -/
theorem getElemNode_list (e : Ty) (lim : Nat) (l r : Node) (ll j : Nat)
    (hll : listLength (.pair l r) lim = .ok ll) (hj : j < ll)
    (hok : ∃ x, getElemNode (.list e lim) (.pair l r) j = .ok x) :
    getElemNode (.list e lim) (.pair l r) j = getElemNode (.vector e lim) l j := by
  have hle := (listLength_ok hll).2
  have h1 : ¬ j ≥ ll := Nat.not_le_of_lt hj
  have h2 : ¬ j ≥ lim := Nat.not_le_of_lt (Nat.lt_of_lt_of_le hj hle)
  unfold getElemNode viewDepth seriesDepth at hok ⊢
  cases hbe : isBasicElem e with
  | false =>
    simp only [hll, R.bind_ok, hbe, Bool.false_eq_true, if_false, if_neg h1, if_neg h2] at hok ⊢
    exact subtreeGet_bind_pair_left l r _ j _
      (Nat.lt_of_lt_of_le (Nat.lt_of_lt_of_le hj hle) (le_two_pow_coverDepth lim)) hok
  | true =>
    simp only [hll, R.bind_ok, hbe, if_true, if_neg h1, if_neg h2] at hok ⊢
    exact subtreeGet_bind_pair_left l r _ _ _
      (div_lt_two_pow_cover lim _ j (Nat.lt_of_lt_of_le hj hle)) hok

/-- the contents subtree of a bitfield of at most `2^63` bits is at most 55 deep, so the uint64
    limit check of `bitReadonlyIter` does not wrap -/
theorem bit_new_not_bad (anchor : Node) (len lim : Nat) (h1 : len ≤ lim) (h2 : lim ≤ 2 ^ 63) :
    (BitIt.new anchor len (bitDepth lim)).bad = false := by
  have hd : bitDepth lim ≤ 55 := (coverDepth_le_iff _ 55).mpr (by omega)
  have hp : 2 ^ bitDepth lim ≤ 2 ^ 55 := Nat.pow_le_pow_right Nat.two_pos hd
  unfold BitIt.new
  simp only [decide_eq_false_iff_not]
  rw [if_neg (Nat.not_le_of_lt (Nat.lt_of_le_of_lt hd (by decide))),
    Nat.mod_eq_of_lt (Nat.lt_of_le_of_lt (Nat.mul_le_mul_right 256 hp) (by decide))]
  -- otherwise bit `2 ^ depth * 256` would lie in bottom node `2 ^ depth`
  intro h
  have := div_lt_two_pow_cover lim 256 _ (Nat.lt_of_lt_of_le h h1)
  rw [Nat.mul_div_cancel _ (by decide)] at this
  exact Nat.lt_irrefl _ this

theorem bool_chunk_getD (b : Bool) :
    ((chunkOf [if b then 1 else 0]).getD 0 0 != 0) = b := by
  cases b <;> rfl

theorem anyBits_eq_indexed (t : Ty) (n anchor : Node) (len depth : Nat)
    (ht : (∃ k, t = .bitvector k) ∨ (∃ k, t = .bitlist k))
    (hb : (BitIt.new anchor len depth).bad = false)
    (hall : ∀ j, j < len → ∃ x, getElemNode t n j = .ok x)
    (heq : ∀ j, j < len → getElemNode t n j =
      bitAt anchor depth j >>= fun b => .ok (.bool, .leaf (chunkOf [if b then 1 else 0])))
    (m : Nat) :
    runSteps AnyIt.next m (.bits (BitIt.new anchor len depth)) =
      runSteps AnyIt.next m (.indexed t n len 0) := by
  rw [anyBits_run, bit_run anchor len depth hb m, indexed_run t n len m 0]
  apply iterSpec_map_all_ok
  intro j hj
  obtain ⟨b, h1, h2⟩ := ok_of_bind_ok (heq j hj) (hall j hj)
  refine ⟨b, h1, ?_⟩
  unfold indexedOut
  rw [h2]
  rcases ht with ⟨k, rfl⟩ | ⟨k, rfl⟩ <;> exact congrArg Out.bit (bool_chunk_getD _).symm

theorem getElemNode_bitvector (k : Nat) (n : Node) (j : Nat) (hj : j < k) :
    getElemNode (.bitvector k) n j =
      (bitAt n (bitDepth k) j >>= fun b => .ok (.bool, .leaf (chunkOf [if b then 1 else 0]))) := by
  unfold getElemNode viewDepth bitAt
  simp only [bind_assoc, R.bind_ok]
  rw [if_neg (Nat.not_le_of_lt hj)]

theorem getElemNode_bitlist (lim : Nat) (l r : Node) (ll j : Nat)
    (hll : listLength (.pair l r) lim = .ok ll) (hj : j < ll)
    (hok : ∃ x, getElemNode (.bitlist lim) (.pair l r) j = .ok x) :
    getElemNode (.bitlist lim) (.pair l r) j = getElemNode (.bitvector lim) l j := by
  have hle := (listLength_ok hll).2
  have h1 : ¬ j ≥ ll := Nat.not_le_of_lt hj
  have h2 : ¬ j ≥ lim := Nat.not_le_of_lt (Nat.lt_of_lt_of_le hj hle)
  have hi : j / 256 < 2 ^ bitDepth lim :=
    div_lt_two_pow_cover lim 256 j (Nat.lt_of_lt_of_le hj hle)
  unfold getElemNode viewDepth at hok ⊢
  simp only [hll, R.bind_ok, if_neg h1, if_neg h2] at hok ⊢
  exact subtreeGet_bind_pair_left l r _ _ _ hi hok

/-- rendering a packed value as the fresh leaf `BasicView.Backing()` gives -/
def valToNode : Out → Out
  | .val t v => .node t (.leaf (chunkOf (leBytes t.fixedSize (numOf v))))
  | o => o

theorem basicAt_ok_bounds {size : Nat} {anchor : Node} {depth j : Nat} {v : Val}
    (h : basicAt size anchor depth j = .ok v) :
    depth < 64 ∧ j / (32 / size) < 2 ^ depth ∧ 0 < 32 / size := by
  unfold basicAt perNode at h
  cases hc : subtreeGet anchor depth (j / (32 / size)) with
  | error x => rw [hc] at h; cases h
  | ok c =>
    have hb := subtreeGet_ok_bounds hc
    refine ⟨hb.1, hb.2, ?_⟩
    rw [hc] at h
    cases c with
    | pair l r => cases h
    | leaf r =>
      simp only [bind, Except.bind, asLeaf, basicFromChunk] at h
      split at h
      · cases h
      · omega

theorem indexed_eq_anyBasics (t e : Ty) (n anchor : Node) (len depth : Nat)
    (hv : ∀ k, t ≠ .bitvector k) (hl : ∀ k, t ≠ .bitlist k) (hbe : isBasicElem e = true)
    (hall : ∀ j, j < len → ∃ x, getElemNode t n j = .ok x)
    (heq : ∀ j, j < len → getElemNode t n j =
      basicAt e.fixedSize anchor depth j >>= fun v =>
        .ok (e, .leaf (chunkOf (leBytes e.fixedSize (numOf v))))) (m : Nat) :
    runSteps AnyIt.next m (.indexed t n len 0) =
      (runSteps AnyIt.next m (.basics (BasicIt.new anchor len depth e.fixedSize) e)).map
        valToNode := by
  have hget := fun j hj => ok_of_bind_ok (heq j hj) (hall j hj)
  -- the last access succeeded, so the subtree is deep enough
  have hb : (BasicIt.new anchor len depth e.fixedSize).bad = false := by
    apply basic_new_not_bad
    by_cases h0 : len = 0
    · exact Or.inl h0
    · obtain ⟨v, hv, _⟩ := hget (len - 1) (Nat.sub_lt (Nat.pos_of_ne_zero h0) Nat.one_pos)
      obtain ⟨h64, hlt, hp⟩ := basicAt_ok_bounds hv
      have := (Nat.div_lt_iff_lt_mul hp).mp hlt
      exact Or.inr ⟨h64, Nat.le_of_pred_lt this⟩
  have hfun : (valToNode ∘ stepOut (Out.val e)) = stepOut (fun v => valToNode (Out.val e v)) := by
    funext s
    cases s <;> rfl
  rw [anyBasics_run, basic_run anchor len depth e.fixedSize hb m, indexed_run t n len m 0,
    List.map_map, hfun]
  symm
  apply iterSpec_map_all_ok
  intro j hj
  obtain ⟨v, h1, h2⟩ := hget j hj
  refine ⟨v, h1, ?_⟩
  have hview : elemViewOk e (.leaf (chunkOf (leBytes e.fixedSize (numOf v)))) = true := by
    cases e <;> first | rfl | cases hbe
  rw [indexedOut_node hv hl h2, if_pos hview]
  rfl

theorem getElemNode_vector_basic (e : Ty) (k : Nat) (n : Node) (j : Nat) (hj : j < k)
    (hbe : isBasicElem e = true) :
    getElemNode (.vector e k) n j =
      (basicAt e.fixedSize n (seriesDepth e k) j >>= fun v =>
        .ok (e, .leaf (chunkOf (leBytes e.fixedSize (numOf v))))) := by
  unfold getElemNode viewDepth basicAt
  simp only [hbe, if_true]
  rw [if_neg (Nat.not_le_of_lt hj)]
  simp only [bind_assoc]

/-! ### small concrete trees for the non-vacuity examples of C17 -/

namespace Ex
def a : Node := .leaf (chunkOf [1])
def b : Node := .leaf (chunkOf [2])
def c : Node := .leaf (chunkOf [3])
def d : Node := .leaf (chunkOf [4])
/-- depth 2, all four positions present -/
def full : Node := .pair (.pair a b) (.pair c d)
/-- depth 2, positions 2 and 3 summarised away (missing data) -/
def part : Node := .pair (.pair a b) (.leaf z0)
/-- a chunk with bytes 0,1,2,…,31: four uint64 -/
def ch0 : Root := (List.range 32).map UInt8.ofNat
def ch1 : Root := (List.range 32).map fun i => UInt8.ofNat (100 + i)
/-- depth 1: two chunks -/
def two : Node := .pair (.leaf ch0) (.leaf ch1)
/-- first chunk: only bit 255 set; second chunk: only bit 0 (= bit 256 overall) set -/
def bits0 : Root := List.replicate 31 0 ++ [128]
def bits1 : Root := chunkOf [1]
def twoBits : Node := .pair (.leaf bits0) (.leaf bits1)
/-- depth 1 with a missing second chunk position: the right node is not a leaf -/
def twoBad : Node := .pair (.leaf ch0) (.pair (.leaf ch0) (.leaf ch0))
end Ex

end ZtypV.View.Iter
