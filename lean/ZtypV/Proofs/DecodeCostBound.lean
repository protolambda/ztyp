/-
C20, view side: `decodeM_bound`, by induction over the type: `Costs h t (R t) (1024 · footprint t)`
with `R t = 1024 · (1 + maxDepth t)`, that is

  successful runs   cost ≤ R t · scope + 192
  failing runs      cost ≤ R t · (bytes available) + R t · scope + 1024 · footprint t

Each type is one walk through its decoder with `Spec`; a level of subtree depth `dl` over elements
of rate `re` has rate `1024 · (1 + dl) + re`.  Then `maxDepth t ≤ 66 · nest t` for 64-bit limits,
and `footprint` / `nest` do not depend on limits.
-/
import ZtypV.Proofs.DecodeCost
import ZtypV.Proofs.SerLemmas
namespace ZtypV.CostProofs
open ZtypV ZtypV.View ZtypV.DecodeProofs

variable {β : Type} {h : HashFn}

/-! ### arithmetic of one nesting level -/

/-- what the budget covers is below the ceiling -/
theorem budget_pays {n B P R F : Nat} (h : n ≤ B) : n ≤ B + P + R + F :=
  Nat.le_trans h (Nat.le_trans (Nat.le_add_right _ _)
    (Nat.le_trans (Nat.le_add_right _ _) (Nat.le_add_right _ _)))

/-- what is allocated before any check comes out of the footprint term `F` -/
theorem footprint_pays {n F B P R Fe : Nat} (h : n ≤ F) : n ≤ B + P + R + (F + Fe) :=
  Nat.le_trans h (Nat.le_trans (Nat.le_add_right _ _) (Nat.le_add_left _ _))

theorem rate_mul (dl re x : Nat) :
    (1024 * (1 + dl) + re) * x = 1024 * x + 1024 * (dl * x) + re * x := by
  rw [Nat.add_mul, Nat.mul_assoc, Nat.add_mul, Nat.one_mul]
  omega

/-- a level of depth `a` over elements of depth `b` -/
theorem rate_le {a b c : Nat} (h : 1 + a + b ≤ c) :
    1024 * (1 + a) + 1024 * (1 + b) ≤ 1024 * (1 + c) := by
  omega

theorem le_mul_scope {d s : Nat} (hs : 1 ≤ s) : d ≤ d * s := Nat.le_mul_of_pos_right d hs

/-- a walk that can still pay its last `s ≥ 192` units and keep `Q` of its potential within the
    budget `B + 192 + P` of accepted runs has spent less than any ceiling `B + P + …` of failing
    ones -/
theorem below_ceiling {T s Q B P R F : Nat} (hs : 192 ≤ s) (hT : T + s + Q ≤ B + 192 + P) :
    T ≤ B + P + R + F := by
  omega

/-- `SubtreeFillToContents`, whether its error is ignored (`orNilC`) or returned (`orOtherC`) -/
theorem cost_fillC_le (h : HashFn) (d : Nat) (ns : List Node) :
    (fillC h d ns).cost ≤ 64 * ns.length + 64 * d := by
  have := fillCost_le d ns.length
  simp only [fillC]
  omega

/-- `BytesIntoNodes` then `SubtreeFillToContents`: 112 units per chunk, 64 per level -/
theorem spec_bytes_fill {d n E : Nat} {bs : Bytes} {g : Node → CR β} {P : β → Nat → Prop}
    (hg : ∀ x c, c ≤ n + 112 * ((bs.length + 31) / 32) + 64 * d → Spec c (g x) P E)
    (hE : n + 112 * ((bs.length + 31) / 32) + 64 * d ≤ E) :
    Spec n (do
      let ns ← bytesIntoNodesC bs
      let c ← orNilC (fillC h d ns)
      g c) P E := by
  refine spec_known ?_
  have := cost_fillC_le h d (bytesIntoNodes bs)
  rw [bytesIntoNodes_length] at this
  exact spec_le this (fun x c hc => hg x c (by omega)) (by omega)

/-- a run that costs at most `r0` per byte of scope plus 192 whatever its outcome -/
theorem Costs.of_all {t : Ty} {r0 r F : Nat}
    (hall : ∀ dr, Spec 0 (decodeM h t dr) (fun _ c => c ≤ r0 * dr.scope + 192) (r0 * dr.scope + 192))
    (hr : r0 ≤ r) (hF : 192 ≤ F) : Costs h t r F := by
  intro dr
  have := Nat.mul_le_mul_right dr.scope hr
  exact (hall dr).mono (fun _ c hc => by omega) (by omega)

/-- a level of depth `dl` over elements of rate `re`, from a walk in potential form: the level
    itself spends within a budget `B`, of which only `1024` per byte of a non-empty scope and
    `64` per level may be assumed; the elements pay `re` per byte consumed, and a successful run
    consumes exactly its scope -/
theorem Costs.of_walk {t : Ty} (hnl : isLeafTy t = false) {dl re F : Nat}
    (hw : ∀ dr B, (1 ≤ dr.scope → 1024 * dr.scope + 64 * dl ≤ B) → Spec 0 (decodeM h t dr)
      (fun p c => c + re * p.2.avail.length ≤ B + 192 + re * dr.avail.length)
      (B + re * dr.avail.length + re * dr.scope + F)) :
    Costs h t (1024 * (1 + dl) + re) F := by
  intro dr
  have hd := hw dr (1024 * dr.scope + 1024 * (dl * dr.scope)) fun hs => by
    have := le_mul_scope (d := dl) hs
    omega
  rw [rate_mul, rate_mul]
  unfold Spec at hd ⊢
  cases hr : (decodeM h t dr).res with
  | error e => rw [hr] at hd; dsimp only at hd ⊢; omega
  | ok p =>
    rw [hr] at hd
    obtain ⟨hcs, hcd⟩ := consumed (n := p.1) (dr' := p.2) hr (by rw [hnl]; exact nofun)
    have e1 := mul_split re dr.scope dr.avail.length hcs
    rw [← List.length_drop, ← hcd] at e1
    dsimp only at hd ⊢
    omega

/-! ### types without element decoders -/

theorem uint_all (b : Nat) (dr : DR) :
    Spec 0 (decodeM h (.uint b) dr) (fun _ c => c ≤ 0 * dr.scope + 192) (0 * dr.scope + 192) := by
  rw [decodeM]
  refine spec_bind (spec_lift ?_ (Nat.zero_le _))
  rintro ⟨bs, dr'⟩ _
  exact spec_tick (spec_pure (by omega))

theorem bool_all (dr : DR) :
    Spec 0 (decodeM h .bool dr) (fun _ c => c ≤ 0 * dr.scope + 192) (0 * dr.scope + 192) := by
  rw [decodeM]
  refine spec_bind (spec_lift ?_ (Nat.zero_le _))
  rintro ⟨bs, dr'⟩ _
  dsimp only
  split
  · split
    · exact spec_fail (Nat.zero_le _)
    · exact spec_tick (spec_pure (by omega))
  · exact spec_fail (Nat.zero_le _)

theorem bytesN_all (k : Nat) (hk : k ≤ 32) (dr : DR) :
    Spec 0 (decodeM h (.bytesN k) dr) (fun _ c => c ≤ 0 * dr.scope + 192) (0 * dr.scope + 192) := by
  rw [decodeM]
  refine spec_tick (spec_bind (spec_lift ?_ (by omega)))
  rintro ⟨bs, dr'⟩ _
  exact spec_tick (spec_pure (by omega))

theorem level_le {s d x : Nat} (hs : 1 ≤ s) (hx : x ≤ 992 * s + 64 * d + 224) :
    x ≤ 1024 * (1 + d) * s + 192 := by
  have := le_mul_scope (d := d) hs
  rw [Nat.mul_assoc, Nat.add_mul, Nat.one_mul]
  omega

/-- what a failing check after `contents := make([]byte, scope)` has spent -/
theorem scope_le_level {s dl : Nat} (hs : 1 ≤ s) : 0 + s ≤ 1024 * (1 + dl) * s + 192 :=
  level_le hs (by omega)

/-- the common part of the four byte-series decoders: the contents `bs` (not longer than the
    scope, which paid one unit per byte already) into chunks, the fill, `tl` units for the view -/
theorem spec_bytes_level {bs : Bytes} {d dl tl s : Nat} {mk : Node → β} (hbs : bs.length ≤ s)
    (hs : 1 ≤ s) (hd : d ≤ dl) (htl : tl ≤ 224) :
    Spec (0 + s) (do
      let ns ← bytesIntoNodesC bs
      let c ← orNilC (fillC h d ns)
      CR.tick tl
      pure (mk c)) (fun _ c => c ≤ 1024 * (1 + dl) * s + 192) (1024 * (1 + dl) * s + 192) :=
  spec_bytes_fill (fun _ _ _ => spec_tick (spec_pure (level_le hs (by omega))))
    (level_le hs (by omega))

theorem bitvector_all (k : Nat) (hk : 1 ≤ k) (dr : DR) :
    Spec 0 (decodeM h (.bitvector k) dr) (fun _ c => c ≤ 1024 * (1 + bitDepth k) * dr.scope + 192)
      (1024 * (1 + bitDepth k) * dr.scope + 192) := by
  rw [decodeM]
  refine spec_guard (Nat.zero_le _) fun _ => ?_
  have hs : 1 ≤ dr.scope := by omega
  refine spec_tick (spec_bind (spec_lift ?_ (scope_le_level hs)))
  rintro ⟨bs, dr'⟩ h1
  exact spec_guard (scope_le_level hs) fun _ =>
    spec_bytes_level (Nat.le_of_eq (read_ok_len h1).2.2) hs (Nat.le_refl _) (by omega)

theorem bitlist_all (lim : Nat) (dr : DR) :
    Spec 0 (decodeM h (.bitlist lim) dr)
      (fun _ c => c ≤ 1024 * (1 + (bitDepth lim + 1)) * dr.scope + 192)
      (1024 * (1 + (bitDepth lim + 1)) * dr.scope + 192) := by
  rw [decodeM]
  refine spec_guard (Nat.zero_le _) fun _ => spec_guard (Nat.zero_le _) fun _ => ?_
  have hs : 1 ≤ dr.scope := by omega
  refine spec_tick (spec_bind (spec_lift ?_ (scope_le_level hs)))
  rintro ⟨bs, dr'⟩ h1
  have hlen := (read_ok_len h1).2.2
  dsimp only
  split
  · exact spec_fail (scope_le_level hs)
  rename_i last _
  refine spec_guard (scope_le_level hs) fun _ => spec_ite
    (fun _ => spec_tick (spec_pure (level_le hs (by omega)))) fun _ =>
    spec_guard (scope_le_level hs) fun _ => spec_bytes_level ?_ hs (Nat.le_succ _) (by omega)
  -- the contents are the bytes read without the delimiter bit
  split <;> simp [List.length_dropLast] <;> omega

theorem vector_basic_all {e : Ty} (k : Nat) (hb : isBasicElem e = true) (hs : 1 ≤ k * e.fixedSize)
    (dr : DR) :
    Spec 0 (decodeM h (.vector e k) dr)
      (fun _ c => c ≤ 1024 * (1 + seriesDepth e k) * dr.scope + 192)
      (1024 * (1 + seriesDepth e k) * dr.scope + 192) := by
  rw [decodeM]
  dsimp only
  rw [if_pos hb]
  refine spec_guard (Nat.zero_le _) fun _ => ?_
  have hs : 1 ≤ dr.scope := by omega
  refine spec_tick (spec_bind (spec_lift ?_ (scope_le_level hs)))
  rintro ⟨bs, dr'⟩ h1
  exact spec_bytes_level (Nat.le_of_eq (read_ok_len h1).2.2) hs (Nat.le_refl _) (by omega)

theorem list_basic_all {e : Ty} (lim : Nat) (hb : isBasicElem e = true) (dr : DR) :
    Spec 0 (decodeM h (.list e lim) dr)
      (fun _ c => c ≤ 1024 * (1 + (seriesDepth e lim + 1)) * dr.scope + 192)
      (1024 * (1 + (seriesDepth e lim + 1)) * dr.scope + 192) := by
  rw [decodeM]
  dsimp only
  rw [if_pos hb]
  refine spec_guard (Nat.zero_le _) fun _ => spec_guard (Nat.zero_le _) fun _ =>
    spec_ite (fun _ => spec_tick (spec_pure (by omega))) fun hl0 => ?_
  have hs : 1 ≤ dr.scope := by
    rcases Nat.eq_zero_or_pos dr.scope with h0 | h0
    · rw [h0, Nat.zero_div] at hl0; exact absurd rfl hl0
    · exact h0
  refine spec_tick (spec_bind (spec_lift ?_ (scope_le_level hs)))
  rintro ⟨bs, dr'⟩ h1
  exact spec_bytes_level (Nat.le_of_eq (read_ok_len h1).2.2) hs (Nat.le_succ _) (by omega)

/-! ### vectors of complex elements

`FromElements` (node slice 16, fill 64) and the two slices of the decoder (16 or 4 + 16) make
less than 100 units per element next to the 288 of the loop; the vector length is at most the
scope, except where `make([]uint32, VectorLength)` precedes every check: those `4 · k` units are
what the footprint term `1024 · k` is for. -/

theorem seriesDepth_complex {e : Ty} (n : Nat) (hb : ¬ isBasicElem e = true) :
    seriesDepth e n = coverDepth n := by
  simp [seriesDepth, hb]

/-- the common part of the four series decoders, after their checks (`n` units spent on the
    offset slice): `make([]View, m)`, the loop `x` over `m` elements, then `FromElements` (node
    slice, fill to depth `d`) and `tl` units for the view and its mix-in -/
theorem spec_series {x : CR (List Node × DR)} {g : List Node × DR → CR (Node × DR)}
    {mk : Node → Node} {re Fe F B m d dl tl n : Nat} {dr : DR}
    (hx : Pays x (288 * m + re * dr.avail.length) (fun p => re * p.2.avail.length)
      (fun p => p.1.length ≤ m) (re * dr.scope + Fe))
    (hg : ∀ ns d', g (ns, d') = (do
      CR.tick (16 * m)
      let c ← orNilC (fillC h d ns)
      CR.tick tl
      pure (mk c, d')))
    (hn : n ≤ 4 * m) (hk : 1 ≤ m) (hks : m ≤ dr.scope) (hd : d ≤ dl) (htl : tl ≤ 224)
    (hF : Fe ≤ F) (hB : 1 ≤ dr.scope → 1024 * dr.scope + 64 * dl ≤ B) :
    Spec n (do CR.tick (16 * m); let p ← x; g p)
      (fun p c => c + re * p.2.avail.length ≤ B + 192 + re * dr.avail.length)
      (B + re * dr.avail.length + re * dr.scope + F) := by
  replace hB := hB (Nat.le_trans hk hks)
  refine spec_tick (hx.spec ?_ (by omega))
  rintro ⟨ns, d1⟩ c a1 a4
  dsimp only at a1 a4
  rw [hg]
  -- slices, loop and fill: 388 per element and 64 per level, within the budget
  have hT : n + 16 * m + c + 16 * m + (64 * ns.length + 64 * d) + 224 + re * d1.avail.length ≤
      B + 192 + re * dr.avail.length := by omega
  refine spec_tick (spec_le (cost_fillC_le h _ ns) (fun x c' hc' => spec_tick (spec_pure ?_))
    (below_ceiling (by decide) hT))
  exact Nat.le_trans (Nat.add_le_add_right (Nat.add_le_add hc' htl) _) hT

theorem vector_fixed_costs {e : Ty} {k re Fe : Nat} (hb : ¬ isBasicElem e = true)
    (hf : e.isFixed = true) (hk : 1 ≤ k) (hsz : 1 ≤ e.fixedSize) (he : Costs h e re Fe) :
    Costs h (.vector e k) (1024 * (1 + seriesDepth e k) + re) (1024 * k + Fe) := by
  rw [seriesDepth_complex k hb]
  refine Costs.of_walk rfl (fun dr B hB => ?_)
  rw [decodeM]
  dsimp only
  rw [if_neg hb, if_pos hf]
  refine spec_guard (Nat.zero_le _) fun hsc => ?_
  have hks : k ≤ dr.scope := by
    rw [← Decidable.not_not.mp hsc]; exact Nat.le_mul_of_pos_right k hsz
  exact spec_series
    ((fixedItems_pays he (fun _ => rfl) k dr).post fun _ hp => ⟨hp.1, Nat.le_refl _⟩)
    (fun _ _ => rfl) (Nat.zero_le _) hk hks
    (Nat.le_refl _) (by decide) (Nat.le_add_left _ _) hB

theorem vector_var_costs {e : Ty} {k re Fe : Nat} (hb : ¬ isBasicElem e = true)
    (hf : ¬ e.isFixed = true) (hk : 1 ≤ k) (he : Costs h e re Fe) :
    Costs h (.vector e k) (1024 * (1 + seriesDepth e k) + re) (1024 * k + Fe) := by
  rw [seriesDepth_complex k hb]
  refine Costs.of_walk rfl (fun dr B hB => ?_)
  rw [decodeM]
  dsimp only
  rw [if_neg hb, if_neg hf]
  refine spec_tick ?_
  rw [if_neg (by omega)]
  refine spec_bind (spec_lift ?_ (footprint_pays (by omega)))
  rintro ⟨first, dr1⟩ h1
  refine spec_guard (footprint_pays (by omega)) fun _ =>
    spec_bind (spec_lift ?_ (footprint_pays (by omega)))
  rintro ⟨os, dr2⟩ h2
  obtain ⟨hks, hx⟩ := offsetSeries_pays he (isLeafTy_false_of_not_fixed hf) h1 h2 hk
  exact spec_series hx (fun _ _ => rfl) (Nat.le_of_eq (Nat.zero_add _)) hk
    (Nat.le_trans (Nat.le_mul_of_pos_left k (by decide)) hks) (Nat.le_refl _) (by decide)
    (Nat.le_add_left _ _) hB

/-! ### lists of complex elements

The length comes from the input (`scope / size`, or `firstOffset / 4` after the repaired check
`firstOffset ≤ scope`), so every slice is paid by the scope; an empty scope costs the 192 of
`New()`. -/

theorem list_complex_costs {e : Ty} {lim re Fe : Nat} (hb : ¬ isBasicElem e = true)
    (hsz : e.isFixed = true → 1 ≤ e.fixedSize) (he : Costs h e re Fe) :
    Costs h (.list e lim) (1024 * (1 + (seriesDepth e lim + 1)) + re) (1024 + Fe) := by
  rw [seriesDepth_complex lim hb]
  refine Costs.of_walk rfl (fun dr B hB => ?_)
  rw [decodeM]
  dsimp only
  rw [if_neg hb]
  refine spec_ite (fun _ => spec_tick (spec_pure (by dsimp only; omega))) fun h0 => ?_
  replace hB := hB (Nat.pos_of_ne_zero h0)
  refine spec_ite (fun hf => ?_) (fun hf => ?_)
  · have hsz := hsz hf
    rw [if_neg (by omega)]
    refine spec_guard (Nat.zero_le _) fun _ => spec_guard (Nat.zero_le _) fun hl2 => ?_
    generalize dr.scope / e.fixedSize = L at hl2 ⊢
    have hLs : L ≤ dr.scope := by
      rw [← Decidable.not_not.mp hl2]; exact Nat.le_mul_of_pos_right L hsz
    have hL1 : 1 ≤ L := by
      rcases Nat.eq_zero_or_pos L with h0 | h0
      · rw [h0, Nat.zero_mul] at hl2; omega
      · exact h0
    exact spec_series
      ((fixedItems_pays he (fun _ => rfl) L dr).post fun _ hp => ⟨hp.1, Nat.le_refl _⟩)
      (fun _ _ => rfl) (Nat.zero_le _) hL1 hLs
      (Nat.le_succ _) (Nat.le_refl _) (Nat.le_add_left _ _) fun _ => hB
  · refine spec_bind (spec_lift ?_ (Nat.zero_le _))
    rintro ⟨first, dr1⟩ h1
    refine spec_guard (Nat.zero_le _) fun hm => spec_guard (Nat.zero_le _) fun hr0 =>
      spec_guard (Nat.zero_le _) fun _ => ?_
    generalize hLe : first / 4 = L
    have hL := first_offset hm hr0 hLe
    clear hm hr0 hLe
    refine spec_tick (spec_bind (spec_lift ?_ (budget_pays (by omega))))
    rintro ⟨os, dr2⟩ h2
    obtain ⟨_, hx⟩ := offsetSeries_pays he (isLeafTy_false_of_not_fixed hf) h1 h2 hL.2
    exact spec_series hx (fun _ _ => rfl) (Nat.le_of_eq (Nat.zero_add _)) hL.2
      (Nat.le_trans (Nat.le_mul_of_pos_left L (by decide)) hL.1) (Nat.le_succ _) (Nat.le_refl _)
      (Nat.le_add_left _ _) fun _ => hB

/-! ### containers

`make([]View, len(Fields))` and `make([]offsetField, 0, OffsetsCount)` precede the scope check:
at most `32 · len(Fields)` units that the footprint term pays; past the check the scope is at
least the number of fields. -/

theorem minFields_ge : ∀ fs : List Ty, (∀ t ∈ fs, t.wf = true) → fs.length ≤ Ty.minFields fs
  | [], _ => by simp [Ty.minFields]
  | t :: ts, hw => by
    have ih := minFields_ge ts (fun t' ht' => hw t' (by simp [ht']))
    have hwt := hw t (by simp)
    rw [Ty.minFields]
    simp only [List.length_cons]
    by_cases hf : t.isFixed = true
    · have := fixedSize_pos t hwt hf
      rw [if_pos hf]; omega
    · rw [if_neg hf]; omega

theorem dynCount_le : ∀ fs : List Ty, dynCount fs ≤ fs.length
  | [] => by simp [dynCount]
  | t :: ts => by
    have := dynCount_le ts
    rw [dynCount]; simp only [List.length_cons]
    split <;> omega

theorem container_costs {fs : List Ty} {re Fm : Nat} (hne : 1 ≤ fs.length)
    (hwf : ∀ t ∈ fs, t.wf = true) (he : ∀ t ∈ fs, Costs h t re Fm) :
    Costs h (.container fs) (1024 * (1 + coverDepth fs.length) + re) (1024 * fs.length + Fm) := by
  refine Costs.of_walk rfl (fun dr B hB => ?_)
  rw [decodeM]
  dsimp only
  have hnd := dynCount_le fs
  refine spec_tick (spec_guard (footprint_pays (by omega)) fun hsc => ?_)
  have hk : fs.length ≤ dr.scope := Nat.le_trans (minFields_ge fs hwf) (by omega)
  replace hB := hB (by omega)
  clear hsc
  refine (fixedPart_pays fs he (Ty.fixedPart fs) true dr.scope dr).spec ?_ (by omega)
  rintro ⟨slots, offs, dr1⟩ c ⟨a1, a2⟩ a4
  dsimp only at a1 a2 a4
  replace a2 := Nat.mul_le_mul_left re a2
  refine (dynPart_pays fs he dr.scope offs dr1).spec ?_ (by omega)
  clear a2
  rintro ⟨dyn, dr2⟩ c2 - b4
  dsimp only at b4
  -- slices, both loops and the fill: 688 per field and 64 per level, within the budget
  have hT : 0 + (16 * fs.length + 16 * dynCount fs) + c + c2 + 16 * fs.length +
      (64 * (mergeFields slots dyn).length + 64 * coverDepth fs.length) + 192 +
      re * dr2.avail.length ≤ B + 192 + re * dr.avail.length := by
    rw [mergeFields_length]
    omega
  refine spec_tick (spec_le (cost_fillC_le h _ (mergeFields slots dyn))
    (fun x c' hc' => spec_tick (spec_pure ?_)) (below_ceiling (Nat.le_refl _) hT))
  exact Nat.le_trans (Nat.add_le_add_right (Nat.add_le_add hc' (by decide)) _) hT

/-! ### unions: the option is decoded in the union's own reader -/

theorem optM_costs {re Fm : Nat} : ∀ (opts : List Ty), (∀ t ∈ opts, Costs h t re Fm) →
    ∀ (k rem : Nat) (dr : DR), Spec 0 (decodeOptM h opts k rem dr)
      (fun _ c => c ≤ re * dr.scope + 192) (re * dr.avail.length + re * dr.scope + Fm)
  | [], _, k, rem, dr => by rw [decodeOptM]; exact spec_fail (Nat.zero_le _)
  | t :: ts, he, 0, rem, dr => by
    rw [decodeOptM]
    exact spec_guard (Nat.zero_le _) fun _ => he t List.mem_cons_self dr
  | t :: ts, he, k + 1, rem, dr => by
    rw [decodeOptM]
    exact optM_costs ts (fun t' ht' => he t' (List.mem_cons_of_mem _ ht')) k rem dr

theorem union_costs {hasNone : Bool} {opts : List Ty} {re Fm : Nat}
    (he : ∀ t ∈ opts, Costs h t re Fm) :
    Costs h (.union hasNone opts) (1024 * (1 + 1) + re) (1024 + Fm) := by
  intro dr
  rw [decodeM, rate_mul, rate_mul]
  refine spec_guard (Nat.zero_le _) fun _ => spec_bind (spec_lift ?_ (Nat.zero_le _))
  rintro ⟨sb, dr1⟩ h1
  obtain ⟨s1, v1, _⟩ := read_ok_len h1
  refine spec_guard (Nat.zero_le _) fun _ => spec_ite
    (fun _ => spec_guard (Nat.zero_le _) fun _ => spec_tick (spec_pure (by omega))) fun _ => ?_
  · have e2 : re * dr1.avail.length ≤ re * dr.avail.length :=
      Nat.mul_le_mul_left re (Nat.le_of_add_right_le (Nat.le_of_eq v1))
    have e3 : re * dr1.scope ≤ re * dr.scope :=
      Nat.mul_le_mul_left re (Nat.le_of_add_right_le (Nat.le_of_eq s1))
    refine (optM_costs opts he _ (dr.scope - 1) dr1).frame ?_ (by omega)
    rintro ⟨c, dr2⟩ c' hc'
    exact spec_tick (spec_pure (by omega))

/-! ### every well-formed type -/

theorem mem_maxDepths : ∀ (fs : List Ty) (t : Ty), t ∈ fs → maxDepth t ≤ maxDepths fs
  | [], t, ht => by cases ht
  | a :: as, t, ht => by
    rw [maxDepths]
    rcases List.mem_cons.mp ht with rfl | ht'
    · exact Nat.le_max_left _ _
    · exact Nat.le_trans (mem_maxDepths as t ht') (Nat.le_max_right _ _)

theorem mem_footprints : ∀ (fs : List Ty) (t : Ty), t ∈ fs → footprint t ≤ footprints fs
  | [], t, ht => by cases ht
  | a :: as, t, ht => by
    rw [footprints]
    rcases List.mem_cons.mp ht with rfl | ht'
    · omega
    · have := mem_footprints as t ht'; omega

theorem footprint_pos : (t : Ty) → t.wf = true → 1 ≤ footprint t
  | .uint _, _ | .bool, _ | .bytesN _, _ | .bitvector _, _ | .bitlist _, _ => by simp [footprint]
  | .vector e k, hw => by
    simp only [Ty.wf, Bool.and_eq_true, decide_eq_true_eq] at hw
    rw [footprint]; omega
  | .list e _, _ => by rw [footprint]; omega
  | .container fs, hw => by
    simp only [Ty.wf, Bool.and_eq_true] at hw
    rw [footprint]
    cases fs with
    | nil => simp at hw
    | cons a as => simp only [List.length_cons]; omega
  | .union _ fs, _ => by rw [footprint]; omega

/-- the fields of a container or the options of a union, at the rate and footprint of the
    whole list -/
theorem costs_mem {fs : List Ty}
    (ih : ∀ t ∈ fs, Costs h t (1024 * (1 + maxDepth t)) (1024 * footprint t)) :
    ∀ t ∈ fs, Costs h t (1024 * (1 + maxDepths fs)) (1024 * footprints fs) := fun t ht =>
  (ih t ht).mono (Nat.mul_le_mul_left _ (Nat.add_le_add_left (mem_maxDepths fs t ht) 1))
    (Nat.mul_le_mul_left _ (mem_footprints fs t ht))

theorem decodeM_bound (h : HashFn) (t : Ty) : t.wf = true →
    Costs h t (1024 * (1 + maxDepth t)) (1024 * footprint t) := by
  induction t using Ty.induct with
  | uint b => exact fun _ => Costs.of_all (uint_all b) (Nat.zero_le _) (by simp [footprint])
  | bool => exact fun _ => Costs.of_all bool_all (Nat.zero_le _) (by simp [footprint])
  | bytesN k =>
    intro hw
    simp only [Ty.wf, Bool.and_eq_true, decide_eq_true_eq] at hw
    exact Costs.of_all (bytesN_all k (by omega)) (Nat.zero_le _) (by simp [footprint])
  | bitvector k =>
    intro hw
    simp only [Ty.wf, decide_eq_true_eq] at hw
    exact Costs.of_all (bitvector_all k hw)
      (by rw [maxDepth]; exact Nat.mul_le_mul_left _ (Nat.le_add_left _ _)) (by simp [footprint])
  | bitlist lim =>
    exact fun _ => Costs.of_all (bitlist_all lim) (by rw [maxDepth]; omega) (by simp [footprint])
  | vector e k ih =>
    intro hw
    have hp := footprint_pos _ hw
    simp only [Ty.wf, Bool.and_eq_true, decide_eq_true_eq] at hw
    have he := ih hw.2
    refine Costs.mono (r := 1024 * (1 + seriesDepth e k) + 1024 * (1 + maxDepth e))
      (F := 1024 * k + 1024 * footprint e) ?_ (by rw [maxDepth]; exact rate_le (Nat.le_refl _))
      (Nat.le_of_eq (by rw [footprint, Nat.mul_add]))
    by_cases hb : isBasicElem e = true
    · have hsz := fixedSize_pos e hw.2 (by obtain ⟨b, rfl⟩ := basic_is_uint hb; rfl)
      exact Costs.of_all (vector_basic_all k hb (Nat.mul_pos hw.1 hsz)) (Nat.le_add_right _ _)
        (by omega)
    · by_cases hf : e.isFixed = true
      · exact vector_fixed_costs hb hf hw.1 (fixedSize_pos e hw.2 hf) he
      · exact vector_var_costs hb hf hw.1 he
  | list e lim ih =>
    intro hw
    simp only [Ty.wf] at hw
    have he := ih hw
    refine Costs.mono (r := 1024 * (1 + (seriesDepth e lim + 1)) + 1024 * (1 + maxDepth e))
      (F := 1024 + 1024 * footprint e) ?_ (by rw [maxDepth]; exact rate_le (by omega))
      (Nat.le_of_eq (by rw [footprint, Nat.mul_add, Nat.mul_one]))
    by_cases hb : isBasicElem e = true
    · exact Costs.of_all (list_basic_all lim hb) (Nat.le_add_right _ _)
        (Nat.le_trans (by decide : 192 ≤ 1024) (Nat.le_add_right _ _))
    · exact list_complex_costs hb (fixedSize_pos e hw) he
  | container fs ih =>
    intro hw
    simp only [Ty.wf, Bool.and_eq_true] at hw
    have hwf := wfAll_mem fs hw.2
    have hne : 1 ≤ fs.length := by
      cases fs with
      | nil => simp at hw
      | cons a as => simp
    exact (container_costs hne hwf (costs_mem fun t ht => ih t ht (hwf t ht))).mono
      (by rw [maxDepth]; exact rate_le (Nat.le_refl _))
      (Nat.le_of_eq (by rw [footprint, Nat.mul_add]))
  | union hasNone opts ih =>
    intro hw
    simp only [Ty.wf, Bool.and_eq_true] at hw
    have hwf := wfAll_mem opts hw.1.2
    exact (union_costs (costs_mem fun t ht => ih t ht (hwf t ht))).mono
      (by rw [maxDepth]; exact rate_le (Nat.le_refl _))
      (Nat.le_of_eq (by rw [footprint, Nat.mul_add, Nat.mul_one]))

/-! ### top level -/

theorem decodeM_top (h : HashFn) (t : Ty) (hw : t.wf = true) (bs : Bytes) :
    (decodeM h t (DR.new bs bs.length)).cost ≤ 2048 * (bs.length + footprint t) * (1 + maxDepth t) := by
  have hp := footprint_pos t hw
  have h1 := (decodeM_bound h t hw).any (by omega) (DR.new bs bs.length)
  rw [new_scope, new_avail] at h1
  have e1 : 2048 * (bs.length + footprint t) * (1 + maxDepth t) =
      1024 * (1 + maxDepth t) * bs.length + 1024 * (1 + maxDepth t) * bs.length +
        2048 * (footprint t * (1 + maxDepth t)) := by
    rw [Nat.mul_assoc, Nat.add_mul, Nat.mul_add]
    have : 1024 * (1 + maxDepth t) * bs.length = 1024 * (bs.length * (1 + maxDepth t)) := by
      rw [Nat.mul_assoc, Nat.mul_comm (1 + maxDepth t)]
    omega
  have e2 : footprint t ≤ footprint t * (1 + maxDepth t) := Nat.le_mul_of_pos_right _ (by omega)
  omega

/-- accepted runs pay no footprint term -/
theorem decodeM_top_ok (h : HashFn) (t : Ty) (hw : t.wf = true) (_hc : isLeafTy t = false)
    (bs : Bytes) (n : Node) (dr' : DR) (hr : (decodeM h t (DR.new bs bs.length)).res = .ok (n, dr')) :
    (decodeM h t (DR.new bs bs.length)).cost ≤ 1024 * (1 + maxDepth t) * bs.length + 192 := by
  have h1 := (decodeM_bound h t hw).ok hr
  rw [new_scope] at h1
  exact h1

/-! ### depth ≤ 66 per nesting level -/

theorem coverDepth_le_64 {n : Nat} (hn : n < 2 ^ 64) : coverDepth n ≤ 64 := by
  unfold coverDepth
  split
  · omega
  · rename_i h1
    have h0 : n - 1 ≠ 0 := by omega
    have : (n - 1).log2 < 64 := (Nat.log2_lt h0).mpr (by omega)
    omega

theorem bottomNodes_le (size n : Nat) : bottomNodes size n ≤ n := by
  unfold bottomNodes
  generalize perNode size = p
  rcases Nat.eq_zero_or_pos p with rfl | hp
  · rw [Nat.div_zero]; exact Nat.zero_le n
  · cases n with
    | zero => exact Nat.le_of_eq (Nat.div_eq_of_lt (by omega))
    | succ m =>
      -- p + m ≤ p * (m + 1)
      have := Nat.le_mul_of_pos_left m hp
      exact Nat.div_le_of_le_mul (by rw [Nat.mul_succ]; omega)

theorem seriesDepth_le_64 (e : Ty) {n : Nat} (hn : n < 2 ^ 64) : seriesDepth e n ≤ 64 := by
  unfold seriesDepth
  split
  · exact coverDepth_le_64 (Nat.lt_of_le_of_lt (bottomNodes_le _ _) hn)
  · exact coverDepth_le_64 hn

theorem bitDepth_le_64 {n : Nat} (hn : n < 2 ^ 64) : bitDepth n ≤ 64 := by
  unfold bitDepth
  exact coverDepth_le_64 (by omega)

theorem maxDepths_le_of : ∀ (fs : List Ty), (∀ t ∈ fs, maxDepth t ≤ 66 * nest t) →
    maxDepths fs ≤ 66 * nests fs
  | [], _ => by simp [maxDepths, nests]
  | a :: as, hh => by
    have h1 := hh a List.mem_cons_self
    have h2 := maxDepths_le_of as (fun t ht => hh t (List.mem_cons_of_mem _ ht))
    rw [maxDepths, nests]
    have := Nat.le_max_left (nest a) (nests as)
    have := Nat.le_max_right (nest a) (nests as)
    exact Nat.max_le.mpr ⟨by omega, by omega⟩

theorem lims64s_mem : ∀ (fs : List Ty), lims64s fs = true → ∀ t ∈ fs, lims64 t = true
  | [], _, t, ht => by cases ht
  | a :: as, hl, t, ht => by
    simp only [lims64s, Bool.and_eq_true] at hl
    rcases List.mem_cons.mp ht with rfl | ht'
    · exact hl.1
    · exact lims64s_mem as hl.2 t ht'

/-- one level: its own subtree of depth `a ≤ 64` and at most two more nodes (mix-in, selector) -/
theorem level_depth {a b c n : Nat} (ha : a ≤ 64) (hb : b ≤ 66 * n) (hc : c ≤ 2) :
    c + a + b ≤ 66 * (1 + n) := by
  omega

/-- with 64-bit limits every nesting level contributes at most 66 to `maxDepth` -/
theorem maxDepth_le (t : Ty) : lims64 t = true → maxDepth t ≤ 66 * nest t := by
  induction t using Ty.induct with
  | uint _ | bool | bytesN _ => intro _; simp [maxDepth]
  | bitvector n | bitlist n =>
    intro hl
    simp only [lims64, decide_eq_true_eq] at hl
    have := bitDepth_le_64 hl
    rw [maxDepth, nest]; omega
  | vector e n ih | list e n ih =>
    intro hl
    simp only [lims64, Bool.and_eq_true, decide_eq_true_eq] at hl
    rw [maxDepth, nest]
    exact level_depth (seriesDepth_le_64 e hl.1) (ih hl.2) (by decide)
  | container fs ih =>
    intro hl
    simp only [lims64, Bool.and_eq_true, decide_eq_true_eq] at hl
    rw [maxDepth, nest]
    exact level_depth (coverDepth_le_64 hl.1)
      (maxDepths_le_of fs (fun t ht => ih t ht (lims64s_mem fs hl.2 t ht))) (by decide)
  | union _ fs ih =>
    intro hl
    simp only [lims64] at hl
    have := maxDepths_le_of fs (fun t ht => ih t ht (lims64s_mem fs hl t ht))
    rw [maxDepth, nest]; omega

/-! ### `footprint` and `nest` do not see limits -/

theorem footprints_erase_of : ∀ (fs : List Ty), (∀ t ∈ fs, footprint (eraseLims t) = footprint t) →
    footprints (eraseLimsL fs) = footprints fs ∧ (eraseLimsL fs).length = fs.length
  | [], _ => by simp [eraseLimsL, footprints]
  | a :: as, hh => by
    obtain ⟨h1, h2⟩ := footprints_erase_of as (fun t ht => hh t (List.mem_cons_of_mem _ ht))
    rw [eraseLimsL, footprints, footprints, hh a List.mem_cons_self, h1]
    simp [h2]

theorem footprint_eraseLims (t : Ty) : footprint (eraseLims t) = footprint t := by
  induction t using Ty.induct with
  | uint _ | bool | bytesN _ | bitvector _ => rw [eraseLims]
  | bitlist _ => rw [eraseLims]; simp [footprint]
  | vector e n ih | list e n ih => rw [eraseLims, footprint, footprint, ih]
  | container fs ih =>
    obtain ⟨h1, h2⟩ := footprints_erase_of fs ih
    rw [eraseLims, footprint, footprint, h1, h2]
  | union _ fs ih => rw [eraseLims, footprint, footprint, (footprints_erase_of fs ih).1]

theorem nests_erase_of : ∀ (fs : List Ty), (∀ t ∈ fs, nest (eraseLims t) = nest t) →
    nests (eraseLimsL fs) = nests fs
  | [], _ => by simp [eraseLimsL]
  | a :: as, hh => by
    have h1 := nests_erase_of as (fun t ht => hh t (List.mem_cons_of_mem _ ht))
    rw [eraseLimsL, nests, nests, hh a List.mem_cons_self, h1]

theorem nest_eraseLims (t : Ty) : nest (eraseLims t) = nest t := by
  induction t using Ty.induct with
  | uint _ | bool | bytesN _ | bitvector _ => rw [eraseLims]
  | bitlist _ => rw [eraseLims]; simp [nest]
  | vector e n ih | list e n ih => rw [eraseLims, nest, nest, ih]
  | container fs ih | union _ fs ih => rw [eraseLims, nest, nest, nests_erase_of fs ih]

end ZtypV.CostProofs
