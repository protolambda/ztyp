/-
Arithmetic behind property C16 (`Props/C16.lean`), about the model `Model/Bits64.lean`:
the guarded shifts read as `Nat` division and multiplication, the two binary searches
(`BitIndex`, the byte-length search of `LittleEndian`/`BigEndian`) with their invariants,
the one-bit tests of the iterator, and byte strings (`leBytes`, `leNat`, `beNat`).
-/
import ZtypV.Model.Bits64
import ZtypV.Proofs.SerLemmas
namespace ZtypV.Bits64

/-! ### shifts -/

theorem toNat_toUInt64_of_lt {n : Nat} (h : n < 64) : (n.toUInt64).toNat = n := by
  rw [Nat.toUInt64_eq]
  exact UInt64.toNat_ofNat_of_lt' (Nat.lt_trans h (by decide))

theorem shr64_toNat (x : UInt64) (n : Nat) : (shr64 x n).toNat = x.toNat / 2 ^ n := by
  unfold shr64
  split
  · rename_i h
    exact (Nat.div_eq_of_lt (Nat.lt_of_lt_of_le x.toNat_lt (Nat.pow_le_pow_right (by decide) h))).symm
  · rename_i h
    have h : n < 64 := Nat.lt_of_not_le h
    rw [UInt64.toNat_shiftRight, toNat_toUInt64_of_lt h, Nat.mod_eq_of_lt h,
      Nat.shiftRight_eq_div_pow]

theorem shl64_toNat (x : UInt64) (n : Nat) : (shl64 x n).toNat = x.toNat * 2 ^ n % 2 ^ 64 := by
  unfold shl64
  split
  · rename_i h
    obtain ⟨m, rfl⟩ := Nat.exists_eq_add_of_le h
    rw [Nat.pow_add, ← Nat.mul_assoc, Nat.mul_right_comm, Nat.mul_mod_left]; rfl
  · rename_i h
    have h : n < 64 := Nat.lt_of_not_le h
    rw [UInt64.toNat_shiftLeft, toNat_toUInt64_of_lt h, Nat.mod_eq_of_lt h, Nat.shiftLeft_eq]

theorem shl64_toNat_of_lt {x : UInt64} {b n : Nat} (hx : x.toNat < 2 ^ b) (h : b + n ≤ 64) :
    (shl64 x n).toNat = x.toNat * 2 ^ n := by
  rw [shl64_toNat]
  apply Nat.mod_eq_of_lt
  calc x.toNat * 2 ^ n < 2 ^ b * 2 ^ n :=
        Nat.mul_lt_mul_of_lt_of_le hx (Nat.le_refl _) (Nat.two_pow_pos _)
    _ = 2 ^ (b + n) := (Nat.pow_add 2 b n).symm
    _ ≤ 2 ^ 64 := Nat.pow_le_pow_right (by decide) h

theorem shl64_one_toNat {n : Nat} (h : n < 64) : (shl64 1 n).toNat = 2 ^ n := by
  rw [shl64_toNat, UInt64.toNat_one, Nat.one_mul]
  exact Nat.mod_eq_of_lt (Nat.pow_lt_pow_right (by decide) h)

theorem toNat_eq_zero {v : UInt64} : v.toNat = 0 ↔ v = 0 := UInt64.toNat_inj (b := 0)

/-- the guard `if v == 0` that opens most functions of the model -/
theorem beq_zero_false {v : UInt64} (hv : v ≠ 0) : ¬ (v == 0) = true :=
  fun h => hv (eq_of_beq h)

/-! ### logarithm facts -/

theorem log2_div_two_pow {v k : Nat} (h : 2 ^ k ≤ v) :
    Nat.log2 (v / 2 ^ k) + k = Nat.log2 v := by
  have hpos : 0 < 2 ^ k := Nat.two_pow_pos k
  have hq : v / 2 ^ k ≠ 0 := Nat.ne_of_gt (Nat.div_pos h hpos)
  symm
  rw [Nat.log2_eq_iff (Nat.ne_of_gt (Nat.lt_of_lt_of_le hpos h)), Nat.add_right_comm, Nat.pow_add,
    Nat.pow_add _ (_ + 1)]
  exact ⟨(Nat.le_div_iff_mul_le hpos).mp (Nat.log2_self_le hq),
    (Nat.div_lt_iff_lt_mul hpos).mp Nat.lt_log2_self⟩

theorem two_pow_add_lt_succ {d i : Nat} (h : i < 2 ^ d) : 2 ^ d + i < 2 ^ (d + 1) := by
  rw [Nat.pow_succ, Nat.mul_two]
  exact Nat.add_lt_add_left h _

/-- `2^d + i` with `i < 2^d`: the generalized index of position `i` at depth `d` -/
theorem log2_two_pow_add {d i : Nat} (h : i < 2 ^ d) : Nat.log2 (2 ^ d + i) = d :=
  have hle : 2 ^ d ≤ 2 ^ d + i := Nat.le_add_right _ _
  (Nat.log2_eq_iff (Nat.ne_of_gt (Nat.lt_of_lt_of_le (Nat.two_pow_pos d) hle))).mpr
    ⟨hle, two_pow_add_lt_succ h⟩

theorem two_pow_add_lt {d i : Nat} (hd : d < 64) (hi : i < 2 ^ d) : 2 ^ d + i < 2 ^ 64 :=
  Nat.lt_of_lt_of_le (two_pow_add_lt_succ hi) (Nat.pow_le_pow_right (by decide) hd)

theorem one_le_log2 {n : Nat} (h : 2 ≤ n) : 1 ≤ Nat.log2 n :=
  (Nat.le_log2 (Nat.ne_of_gt (Nat.lt_of_lt_of_le (by decide) h))).mpr h

theorem log2_lt_64 (v : UInt64) : Nat.log2 v.toNat < 64 := by
  by_cases h : v.toNat = 0
  · rw [h]; decide
  · exact (Nat.log2_lt h).mpr v.toNat_lt

/-! ### one block of `BitIndex`: the mask test is a comparison, `|=` an addition, the shift a division -/

/-- the mask `^(2^k - 1)` of `BitIndex` has exactly the bits `k ≤ i < 64` -/
theorem testBit_mask (k i : Nat) (hk : k ≤ 64) :
    (2 ^ 64 - 2 ^ k).testBit i = (decide (i < 64) && !decide (i < k)) := by
  have h := Nat.testBit_two_pow_sub_succ (x := 2 ^ k - 1) (n := 64)
    (Nat.lt_of_lt_of_le (Nat.sub_lt (Nat.two_pow_pos k) (by decide))
      (Nat.pow_le_pow_right (by decide) hk)) i
  rwa [Nat.sub_add_cancel (Nat.two_pow_pos k), Nat.testBit_two_pow_sub_one] at h

theorem and_mask_eq_zero_iff (v k : Nat) (hk : k ≤ 64) (hv : v < 2 ^ 64) :
    v &&& (2 ^ 64 - 2 ^ k) = 0 ↔ v < 2 ^ k := by
  constructor
  · -- otherwise the leading one of `v` survives the mask
    intro h0
    apply Nat.lt_of_not_le
    intro hge
    have hv0 : v ≠ 0 := Nat.ne_of_gt (Nat.lt_of_lt_of_le (Nat.two_pow_pos k) hge)
    have h := congrArg (Nat.testBit · (Nat.log2 v)) h0
    simp [testBit_mask _ _ hk, Nat.testBit_log2 hv0, (Nat.log2_lt hv0).mpr hv,
      Nat.not_lt.mpr ((Nat.le_log2 hv0).mpr hge)] at h
  · intro hlt
    apply Nat.eq_of_testBit_eq
    intro i
    rw [Nat.testBit_and, testBit_mask _ _ hk, Nat.zero_testBit]
    by_cases hi : i < k
    · simp [hi]
    · rw [Nat.testBit_lt_two_pow (Nat.lt_of_lt_of_le hlt
        (Nat.pow_le_pow_right (by decide) (Nat.le_of_not_lt hi)))]
      rfl

theorem or_two_pow_of_dvd {a j : Nat} (h : 2 ^ (j + 1) ∣ a) : a ||| 2 ^ j = a + 2 ^ j := by
  obtain ⟨c, rfl⟩ := h
  exact (Nat.two_pow_add_eq_or_of_lt (Nat.pow_lt_pow_right (by decide) (Nat.lt_succ_self j)) c).symm

theorem shr64_log2 {x : UInt64} {k : Nat} (h : 2 ^ k ≤ x.toNat) :
    (shr64 x k).toNat ≠ 0 ∧ Nat.log2 (shr64 x k).toNat + k = Nat.log2 x.toNat := by
  rw [shr64_toNat]
  exact ⟨Nat.ne_of_gt (Nat.div_pos h (Nat.two_pow_pos k)), log2_div_two_pow h⟩

/-! ### `BitIndex` -/

/-- invariant of the binary search before the block with shift `2^j` (`w = j+1`): `log2` of the
    remaining value is below `2^w`, the accumulated output is a multiple of `2^w`, and the two
    add up to `log2` of the original. -/
structure Inv (w n : Nat) (s : UInt64 × UInt8) : Prop where
  ne : s.1.toNat ≠ 0
  lt : Nat.log2 s.1.toNat < 2 ^ w
  log : Nat.log2 n = Nat.log2 s.1.toNat + s.2.toNat
  al : 2 ^ w ∣ s.2.toNat

theorem step_inv {j n : Nat} {mask : UInt64} {bit : UInt8} {s : UInt64 × UInt8}
    (hj : j ≤ 5) (hm : mask.toNat = 2 ^ 64 - 2 ^ (2 ^ j)) (hb : bit.toNat = 2 ^ j)
    (h : Inv (j + 1) n s) : Inv j n (step mask bit s) := by
  have hk : 2 ^ j ≤ 64 := Nat.le_trans (Nat.pow_le_pow_right (by decide) hj) (by decide)
  -- the mask test compares the value with `2^(2^j)`, that is its `log2` with `2^j`
  have hcond : (s.1 &&& mask = 0) ↔ Nat.log2 s.1.toNat < 2 ^ j := by
    rw [← UInt64.toNat_inj, UInt64.toNat_and, hm, Nat.log2_lt h.ne]
    exact and_mask_eq_zero_iff _ _ hk s.1.toNat_lt
  have hdvd : 2 ^ j ∣ s.2.toNat := Nat.dvd_trans (Nat.pow_dvd_pow 2 (Nat.le_succ j)) h.al
  unfold step
  split
  · rename_i hc
    have hge : 2 ^ j ≤ Nat.log2 s.1.toNat := Nat.le_of_not_lt (mt hcond.mpr (bne_iff_ne.mp hc))
    obtain ⟨hne, hlog⟩ := shr64_log2 ((Nat.le_log2 h.ne).mp hge)
    have hout : (s.2 ||| bit).toNat = s.2.toNat + 2 ^ j := by
      rw [UInt8.toNat_or, hb]; exact or_two_pow_of_dvd h.al
    have hlt := h.lt
    rw [Nat.pow_succ, Nat.mul_two, ← hlog] at hlt
    rw [hb]
    refine ⟨hne, Nat.lt_of_add_lt_add_right hlt, ?_, hout ▸ Nat.dvd_add hdvd (Nat.dvd_refl _)⟩
    show _ = Nat.log2 (shr64 s.1 (2 ^ j)).toNat + (s.2 ||| bit).toNat
    rw [hout, Nat.add_comm s.2.toNat, ← Nat.add_assoc, hlog]
    exact h.log
  · rename_i hc
    exact ⟨h.ne, hcond.mp (Decidable.not_not.mp (mt bne_iff_ne.mpr hc)), h.log, hdvd⟩

theorem bitIndex_zero : bitIndex 0 = 0 := by decide

/-- the last block, written without its dead shift, is a `step` as well -/
theorem bitIndex_eq_step {v : UInt64} (hv : v ≠ 0) :
    bitIndex v = (step mask0 bit0 (step mask1 bit1 (step mask2 bit2 (step mask3 bit3
      (step mask4 bit4 (step mask5 bit5 (v, 0))))))).2 := by
  unfold bitIndex
  rw [if_neg (beq_zero_false hv)]
  dsimp only
  generalize (step mask1 bit1 (step mask2 bit2 (step mask3 bit3
      (step mask4 bit4 (step mask5 bit5 (v, 0)))))) = s
  unfold step
  split <;> rfl

/-- `BitIndex(v) = ⌊log2 v⌋`, also for 0 (both sides 0) -/
theorem bitIndex_toNat (v : UInt64) : (bitIndex v).toNat = Nat.log2 v.toNat := by
  by_cases hv : v = 0
  · subst hv; rfl
  have h6 : Inv 6 v.toNat (v, 0) := ⟨mt toNat_eq_zero.mp hv, log2_lt_64 v, rfl, Nat.dvd_zero _⟩
  have h5 := step_inv (j := 5) (mask := mask5) (bit := bit5) (by decide) rfl rfl h6
  have h4 := step_inv (j := 4) (mask := mask4) (bit := bit4) (by decide) rfl rfl h5
  have h3 := step_inv (j := 3) (mask := mask3) (bit := bit3) (by decide) rfl rfl h4
  have h2 := step_inv (j := 2) (mask := mask2) (bit := bit2) (by decide) rfl rfl h3
  have h1 := step_inv (j := 1) (mask := mask1) (bit := bit1) (by decide) rfl rfl h2
  have h0 := step_inv (j := 0) (mask := mask0) (bit := bit0) (by decide) rfl rfl h1
  rw [bitIndex_eq_step hv, h0.log, Nat.lt_one_iff.mp h0.lt, Nat.zero_add]

theorem bitIndex_lt (v : UInt64) : (bitIndex v).toNat < 64 := by
  rw [bitIndex_toNat]; exact log2_lt_64 v

/-- the `+ 1` of `BitLength` and `CoverDepth` does not wrap -/
theorem bitIndex_succ_toNat (v : UInt64) : (bitIndex v + 1).toNat = Nat.log2 v.toNat + 1 := by
  rw [UInt8.toNat_add, bitIndex_toNat]
  exact Nat.mod_eq_of_lt (Nat.lt_trans (Nat.succ_lt_succ (log2_lt_64 v)) (by decide))

theorem bitLength_toNat {v : UInt64} (hv : v ≠ 0) :
    (bitLength v).toNat = Nat.log2 v.toNat + 1 := by
  unfold bitLength
  rw [if_neg (beq_zero_false hv), bitIndex_succ_toNat]

theorem toNat_sub_one {v : UInt64} (hv : v ≠ 0) : (v - 1).toNat = v.toNat - 1 :=
  UInt64.toNat_sub_of_le v 1
    (UInt64.le_iff_toNat_le.mpr (Nat.pos_of_ne_zero (mt toNat_eq_zero.mp hv)))

/-! ### single-bit tests -/

theorem and_two_pow_eq_zero_iff (n k : Nat) : n &&& 2 ^ k = 0 ↔ n.testBit k = false := by
  constructor
  · intro h
    have := congrArg (Nat.testBit · k) h
    simpa [Nat.testBit_and, Nat.testBit_two_pow] using this
  · intro h
    apply Nat.eq_of_testBit_eq
    intro i
    rw [Nat.testBit_and, Nat.testBit_two_pow, Nat.zero_testBit]
    by_cases hik : k = i
    · rw [← hik, h]; rfl
    · simp [hik]

/-- `1 << BitIndex(v)`, the anchor: the leading one alone -/
theorem anchor_toNat (v : UInt64) :
    (shl64 1 (bitIndex v).toNat).toNat = 2 ^ Nat.log2 v.toNat := by
  rw [shl64_one_toNat (bitIndex_lt v), bitIndex_toNat]

/-- `anchor >> 1`, the mask of the bit right below the leading one -/
theorem pivot_toNat {v : UInt64} (h : 2 ≤ v.toNat) :
    (shr64 (shl64 1 (bitIndex v).toNat) 1).toNat = 2 ^ (Nat.log2 v.toNat - 1) := by
  rw [shr64_toNat, anchor_toNat]
  exact Nat.pow_div (one_le_log2 h) (by decide)

/-! ### bit iterator -/

/-- `Next` on explicit fields; the index never changes -/
theorem next_mk (mk g : UInt64) :
    (BitIter.mk mk g).next = (⟨shr64 mk 1, g⟩, (g &&& shr64 mk 1 != 0, shr64 mk 1 != 0)) := rfl

/-- marker 0 is a fixed point: every `Next` fails -/
theorem nexts_dead (m : Nat) (g : UInt64) :
    (BitIter.mk 0 g).nexts m = List.replicate m (false, false)
      ∧ ((BitIter.mk 0 g).after m).marker = 0 := by
  have hn : (BitIter.mk 0 g).next = (⟨0, g⟩, (false, false)) := by
    rw [next_mk, show shr64 0 1 = 0 from rfl, UInt64.and_zero]; rfl
  induction m with
  | zero => exact ⟨rfl, rfl⟩
  | succ m ih =>
    rw [BitIter.nexts, BitIter.after, hn]
    exact ⟨congrArg _ ih.1, ih.2⟩

/-- with the marker at bit `k`, the next `k` calls read bits `k-1 … 0` of the index and all
    later ones fail, leaving the marker 0 -/
theorem nexts_live (k m : Nat) (mk g : UInt64) (h : mk.toNat = 2 ^ k) :
    (BitIter.mk mk g).nexts (k + m) =
      ((List.range k).reverse.map fun i => (g.toNat.testBit i, true))
        ++ List.replicate m (false, false)
    ∧ (m ≠ 0 → ((BitIter.mk mk g).after (k + m)).marker = 0) := by
  induction k generalizing mk with
  | zero =>
    rw [Nat.zero_add]
    cases m with
    | zero => exact ⟨rfl, fun h => absurd rfl h⟩
    | succ m =>
      have hz : shr64 mk 1 = 0 := toNat_eq_zero.mp (by rw [shr64_toNat, h])
      rw [BitIter.nexts, BitIter.after, next_mk, hz, UInt64.and_zero]
      exact ⟨congrArg _ (nexts_dead m g).1, fun _ => (nexts_dead m g).2⟩
  | succ k ih =>
    have hm' : (shr64 mk 1).toNat = 2 ^ k := by
      rw [shr64_toNat, h, Nat.pow_succ]; exact Nat.mul_div_cancel _ (by decide)
    have hne : (shr64 mk 1 != 0) = true :=
      bne_iff_ne.mpr (mt toNat_eq_zero.mpr (hm' ▸ Nat.ne_of_gt (Nat.two_pow_pos k)))
    -- the test against the one-bit marker reads bit `k` of the index
    have hbit : (g &&& shr64 mk 1 != 0) = g.toNat.testBit k := by
      rw [Bool.eq_iff_iff, bne_iff_ne, Ne, ← UInt64.toNat_inj, UInt64.toNat_and, hm',
        UInt64.toNat_zero, and_two_pow_eq_zero_iff, Bool.not_eq_false]
    rw [Nat.add_right_comm, BitIter.nexts, BitIter.after, next_mk, hbit, hne, (ih _ hm').1,
      List.range_succ, List.reverse_append]
    exact ⟨rfl, (ih _ hm').2⟩

/-! ### byte strings -/

theorem take_leBytes (s k n : Nat) (h : s ≤ k) : (leBytes k n).take s = leBytes s n := by
  induction s generalizing k n with
  | zero => rfl
  | succ s ih =>
    cases k with
    | zero => exact absurd h (Nat.not_succ_le_zero s)
    | succ k => exact congrArg (_ :: ·) (ih k _ (Nat.le_of_succ_le_succ h))

theorem drop_leBytes (j k n : Nat) : (leBytes k n).drop j = leBytes (k - j) (n / 256 ^ j) := by
  induction j generalizing k n with
  | zero => rw [Nat.pow_zero, Nat.div_one]; rfl
  | succ j ih =>
    cases k with
    | zero => rw [Nat.zero_sub]; rfl
    | succ k =>
      rw [Nat.add_sub_add_right, Nat.pow_succ, Nat.mul_comm, ← Nat.div_div_eq_div_mul]
      exact ih k _

theorem beNat_reverse (bs : Bytes) : beNat bs.reverse = leNat bs := by
  induction bs with
  | nil => rfl
  | cons b bs ih =>
    rw [List.reverse_cons, beNat, List.foldl_append, ← beNat, ih, leNat]
    exact Nat.add_comm _ _

theorem beNat_eq_leNat_reverse (bs : Bytes) : beNat bs = leNat bs.reverse := by
  rw [← beNat_reverse, List.reverse_reverse]

/-- the first `k` bytes of a big-endian string are the top `k` bytes of the number -/
theorem take_reverse_leBytes {k j w : Nat} (m : Nat) (h : k + j = w) :
    (leBytes w m).reverse.take k = (leBytes k (m / 256 ^ j)).reverse := by
  subst h
  rw [List.take_reverse, leBytes_length, drop_leBytes, Nat.add_sub_cancel_left,
    Nat.add_sub_cancel]

theorem drop_reverse_leBytes {k j w : Nat} (m : Nat) (h : k + j = w) :
    (leBytes w m).reverse.drop j = (leBytes k m).reverse := by
  subst h
  rw [List.drop_reverse, leBytes_length, Nat.add_sub_cancel,
    take_leBytes _ _ _ (Nat.le_add_right k j)]

theorem mul_two_pow_div_256_pow (n : Nat) {a p j : Nat} (h : a = p + 8 * j) :
    n * 2 ^ a / 256 ^ j = n * 2 ^ p := by
  rw [h, Nat.pow_add, Nat.pow_mul, ← Nat.mul_assoc]
  exact Nat.mul_div_cancel _ (Nat.pow_pos (by decide))

/-- layout of `LeftAlignedBigEndian`: the `bitLen = L+1` value bits sit at the top of the
    64-bit word; the `k = (bitLen+7)>>3 = (L+8)/8` bytes kept hold them and `pad` further bits,
    the `j` remaining bytes are dropped -/
theorem leftAlign_layout {L : Nat} (hL : L < 64) :
    ∃ pad j, 8 * ((L + 8) / 8) = L + 1 + pad ∧ (L + 8) / 8 + j = 8
      ∧ 64 - (L + 1) = pad + 8 * j := by
  rw [Nat.add_div_right L (by decide : 0 < 8)]
  obtain ⟨pad, hp⟩ := Nat.exists_eq_add_of_le (Nat.lt_mul_div_succ L (by decide : 0 < 8))
  obtain ⟨j, hj⟩ := Nat.exists_eq_add_of_le (Nat.div_lt_of_lt_mul hL : L / 8 + 1 ≤ 8)
  -- `64 = 8 * (L/8 + 1 + j) = (L + 1 + pad) + 8 * j`
  have h64 := (congrArg (8 * ·) hj).trans (Nat.mul_add 8 (L / 8 + 1) j)
  rw [hp] at h64
  exact ⟨pad, j, hp, hj.symm, Nat.sub_eq_of_eq_add' (h64.trans (Nat.add_assoc _ _ _))⟩

theorem mul_two_pow_lt_256_pow {n b k : Nat} (hn : n < 2 ^ b) (hk : b ≤ 8 * k) :
    n * 2 ^ (8 * k - b) < 256 ^ k := by
  have e : (256 : Nat) ^ k = 2 ^ b * 2 ^ (8 * k - b) := by
    rw [show (256 : Nat) = 2 ^ 8 from rfl, ← Nat.pow_mul, ← Nat.pow_add, Nat.add_sub_cancel' hk]
  rw [e]
  exact Nat.mul_lt_mul_of_lt_of_le hn (Nat.le_refl _) (Nat.two_pow_pos _)

theorem lt_256_pow_iff {n : Nat} (hn : n ≠ 0) (k : Nat) : n < 256 ^ k ↔ Nat.log2 n < 8 * k := by
  rw [Nat.log2_lt hn, Nat.pow_mul]

/-- `⌊log2 n / 8⌋ + 1` bytes are enough for `n` -/
theorem leNat_leBytes_byteLen (n : Nat) : leNat (leBytes (Nat.log2 n / 8 + 1) n) = n := by
  apply leNat_leBytes_of_lt
  by_cases hn : n = 0
  · subst hn; exact Nat.pow_pos (by decide)
  · exact (lt_256_pow_iff hn _).mpr (Nat.lt_mul_div_succ _ (by decide))

/-- no byte string that decodes to `n ≠ 0` is shorter than `⌊log2 n / 8⌋ + 1` bytes -/
theorem byteLen_le_length {bs : Bytes} (h : leNat bs ≠ 0) :
    Nat.log2 (leNat bs) / 8 + 1 ≤ bs.length :=
  Nat.div_lt_of_lt_mul ((lt_256_pow_iff h _).mp (leNat_lt bs))

theorem toUInt8_eq (x : UInt64) : x.toUInt8 = UInt8.ofNat (x.toNat % 256) :=
  UInt8.toNat_inj.mp
    ((UInt64.toNat_toUInt8 x).trans ((Nat.mod_mod _ _).symm.trans UInt8.toNat_ofNat'.symm))

theorem putLE64_eq (v : UInt64) : putLE64 v = leBytes 8 v.toNat := by
  have hs (i : Nat) : (shr64 v i).toUInt8 = UInt8.ofNat (v.toNat / 2 ^ i % 256) := by
    rw [toUInt8_eq, shr64_toNat]
  unfold putLE64
  rw [toUInt8_eq v, hs, hs, hs, hs, hs, hs, hs]
  -- `leBytes` divides by 256 byte after byte
  simp only [leBytes, Nat.div_div_eq_div_mul]

theorem putBE64_eq (v : UInt64) : putBE64 v = (leBytes 8 v.toNat).reverse := by
  rw [← putLE64_eq]; rfl

theorem sliceTo_natCast {out : Bytes} {k : Nat} (h : k ≤ out.length) :
    sliceTo out (k : Int) = .ok (out.take k) := by
  unfold sliceTo
  rw [if_pos ⟨Int.natCast_nonneg k, Int.ofNat_le.mpr h⟩]; rfl

theorem sliceFrom_natCast {out : Bytes} {k : Nat} (h : k ≤ out.length) :
    sliceFrom out (k : Int) = .ok (out.drop k) := by
  unfold sliceFrom
  rw [if_pos ⟨Int.natCast_nonneg k, Int.ofNat_le.mpr h⟩]; rfl

/-! ### byte-length search (`LittleEndian` / `BigEndian`) -/

/-- invariant of the search: `log2` of the remaining value is below `b`, and the `c` bytes
    shifted out so far are accounted for in the slice bound -/
structure LInv (b n : Nat) (s0 sgn : Int) (st : UInt64 × Int) : Prop where
  ne : st.1.toNat ≠ 0
  lt : Nat.log2 st.1.toNat < b
  rel : ∃ c : Nat, st.2 = s0 + sgn * c ∧ Nat.log2 n = Nat.log2 st.1.toNat + 8 * c

/-- a block that shifts by `w` bytes halves the bound from `16w` to `8w` bits -/
theorem lenStep_inv {w n : Nat} {s0 sgn d : Int} {bound : UInt64} {st : UInt64 × Int}
    (hb : bound.toNat = 2 ^ (8 * w)) (hd : d = sgn * w)
    (h : LInv (8 * w + 8 * w) n s0 sgn st) :
    LInv (8 * w) n s0 sgn (lenStep bound (8 * w) d st) := by
  subst hd
  obtain ⟨c, hc1, hc2⟩ := h.rel
  unfold lenStep
  split
  · rename_i hc
    obtain ⟨hne, hlog⟩ := shr64_log2 (hb ▸ UInt64.le_iff_toNat_le.mp hc)
    refine ⟨hne, Nat.lt_of_add_lt_add_right (hlog ▸ h.lt), c + w, ?_, ?_⟩
    · show st.2 + sgn * w = _
      rw [hc1, Int.natCast_add, Int.mul_add, Int.add_assoc]
    · show _ = Nat.log2 (shr64 st.1 (8 * w)).toNat + 8 * (c + w)
      rw [hc2, ← hlog, Nat.mul_add, Nat.add_assoc, Nat.add_comm (8 * w)]
  · rename_i hc
    exact ⟨h.ne, (Nat.log2_lt h.ne).mpr (hb ▸ Nat.lt_of_not_le (mt UInt64.le_iff_toNat_le.mpr hc)),
      c, hc1, hc2⟩

/-- the three blocks compute `s0 ± ⌊log2 v / 8⌋`.  The step amounts are variables tied to `sgn`
    by equations: with `sgn * 4` written in their place, unification with the literal `-4` of
    `BigEndian` does not finish. -/
theorem lenSteps_snd {v : UInt64} (hv : v ≠ 0) (s0 sgn : Int) {d1 d2 d4 : Int}
    (e1 : d1 = sgn * (1 : Nat)) (e2 : d2 = sgn * (2 : Nat)) (e4 : d4 = sgn * (4 : Nat)) :
    (lenStep 0x100 8 d1 (lenStep 0x10000 16 d2 (lenStep 0x100000000 32 d4 (v, s0)))).2
      = s0 + sgn * ((Nat.log2 v.toNat / 8 : Nat) : Int) := by
  have h4 : LInv 64 v.toNat s0 sgn (v, s0) :=
    ⟨mt toNat_eq_zero.mp hv, log2_lt_64 v, 0,
      (Int.add_zero s0).symm.trans (by rw [Int.natCast_zero, Int.mul_zero]), rfl⟩
  have h2 := lenStep_inv (w := 4) (bound := 0x100000000) (by decide) e4 h4
  have h1 := lenStep_inv (w := 2) (bound := 0x10000) (by decide) e2 h2
  have h0 := lenStep_inv (w := 1) (bound := 0x100) (by decide) e1 h1
  obtain ⟨c, hc1, hc2⟩ := h0.rel
  rw [hc2, Nat.add_mul_div_left _ _ (by decide), Nat.div_eq_of_lt h0.lt, Nat.zero_add]
  exact hc1

end ZtypV.Bits64
