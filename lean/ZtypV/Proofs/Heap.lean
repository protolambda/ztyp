/-
Model H (heap machine): cells up to their memo field (`SameStruct`, `Ext`), what `rootH` writes
(`rootH_fill`: it fills unset memos and nothing else) and returns (the memo-free root whatever the
memo state), the equations of `run`, and what every poke-free client preserves (`run_inv`) — with
the frame property (C05), memo validity and the independence of all results from extra
hash-tree-root requests (C06) as instances.  Last, soundness of the executable checks and the
facts about the example heaps.
-/
import ZtypV.Model.Heap
namespace ZtypV.H

/-! ### cells up to memo -/

theorem erase_pair_inv {c : Cell} {m : Root} {l r : Nat}
    (e : c.erase = (Cell.pair m l r).erase) : ∃ m', c = Cell.pair m' l r := by
  cases c with
  | leaf _ => simp [Cell.erase] at e
  | pair m' l' r' =>
    simp only [Cell.erase, Cell.pair.injEq, true_and] at e
    exact ⟨m', by rw [e.1, e.2]⟩

theorem erase_leaf_inv {c : Cell} {r : Root}
    (e : c.erase = (Cell.leaf r).erase) : c = Cell.leaf r := by
  cases c with
  | leaf r' => simpa [Cell.erase] using e
  | pair _ _ _ => simp [Cell.erase] at e

theorem view_of_erase {c c' : Cell} (e : c.erase = c'.erase) : view c = view c' := by
  cases c' with
  | leaf r => rw [erase_leaf_inv e]
  | pair m l r => obtain ⟨m', rfl⟩ := erase_pair_inv e; rfl

theorem get_of_erase {hp hp' : Heap} {a : Nat} {c : Cell}
    (e : (hp'[a]?).map Cell.erase = (hp[a]?).map Cell.erase) (ha : hp[a]? = some c) :
    ∃ c', hp'[a]? = some c' ∧ c'.erase = c.erase := by
  rw [ha] at e
  exact Option.map_eq_some_iff.mp e

theorem get_pair_of_erase {hp hp' : Heap} {a : Nat} {m : Root} {l r : Nat}
    (e : (hp'[a]?).map Cell.erase = (hp[a]?).map Cell.erase)
    (ha : hp[a]? = some (Cell.pair m l r)) : ∃ m', hp'[a]? = some (Cell.pair m' l r) := by
  obtain ⟨c', hc, ec⟩ := get_of_erase e ha
  obtain ⟨m', rfl⟩ := erase_pair_inv ec
  exact ⟨m', hc⟩

theorem get_leaf_of_erase {hp hp' : Heap} {a : Nat} {r : Root}
    (e : (hp'[a]?).map Cell.erase = (hp[a]?).map Cell.erase)
    (ha : hp[a]? = some (Cell.leaf r)) : hp'[a]? = some (Cell.leaf r) := by
  obtain ⟨c', hc, ec⟩ := get_of_erase e ha
  rw [hc, erase_leaf_inv ec]

theorem get_none_of_erase {hp hp' : Heap} {a : Nat}
    (e : (hp'[a]?).map Cell.erase = (hp[a]?).map Cell.erase)
    (ha : hp[a]? = none) : hp'[a]? = none := by
  rw [ha] at e
  exact Option.map_eq_none_iff.mp e

/-! ### lookup -/

theorem get_lt_size {hp : Heap} {a : Nat} {c : Cell} (ha : hp[a]? = some c) : a < hp.size :=
  (Array.getElem?_eq_some_iff.mp ha).1

theorem get_some_of_lt {hp : Heap} {a : Nat} (ha : a < hp.size) : ∃ c, hp[a]? = some c :=
  ⟨hp[a], Array.getElem?_eq_getElem ha⟩

theorem get_push_lt {hp : Heap} (c : Cell) {x : Nat} (hx : x < hp.size) :
    (hp.push c)[x]? = hp[x]? := by
  rw [Array.getElem?_push, if_neg (Nat.ne_of_lt hx)]

theorem get_push_some {hp : Heap} {c d : Cell} {a : Nat} (ha : (hp.push c)[a]? = some d) :
    hp[a]? = some d ∨ (a = hp.size ∧ c = d) := by
  rw [Array.getElem?_push] at ha
  split at ha
  · rename_i e; exact .inr ⟨e, Option.some.inj ha⟩
  · exact .inl ha

theorem get_set {hp : Heap} {a : Nat} (ha : a < hp.size) (c : Cell) (y : Nat) :
    (hp.setIfInBounds a c)[y]? = if a = y then some c else hp[y]? := by
  rw [Array.getElem?_setIfInBounds, if_pos ha]

theorem get_prefix {hp : Heap} {n x : Nat} (hn : n ≤ hp.size) :
    (hp.extract 0 n)[x]? = if x < n then hp[x]? else none := by
  rw [Array.getElem?_extract, Nat.min_eq_left hn, Nat.sub_zero, Nat.zero_add]

/-! ### SameStruct -/

theorem SameStruct.get {hp hp' : Heap} (hs : SameStruct hp hp') (a : Nat) :
    (hp[a]?).map Cell.erase = (hp'[a]?).map Cell.erase := by
  rw [← Array.getElem?_map, ← Array.getElem?_map]
  exact congrArg (·[a]?) hs

theorem SameStruct.size_eq {hp hp' : Heap} (hs : SameStruct hp hp') : hp.size = hp'.size := by
  rw [← Array.size_map (f := Cell.erase), hs, Array.size_map]

theorem SameStruct.refl (hp : Heap) : SameStruct hp hp := rfl
theorem SameStruct.symm {hp hp' : Heap} (hs : SameStruct hp hp') : SameStruct hp' hp := Eq.symm hs
theorem SameStruct.trans {a b c : Heap} (h1 : SameStruct a b) (h2 : SameStruct b c) :
    SameStruct a c := Eq.trans h1 h2

theorem sameStruct_of_get {hp hp' : Heap}
    (e : ∀ a : Nat, (hp[a]?).map Cell.erase = (hp'[a]?).map Cell.erase) : SameStruct hp hp' := by
  apply Array.ext_getElem?
  intro i
  rw [Array.getElem?_map, Array.getElem?_map]
  exact e i

theorem sameStruct_push {hp hp' : Heap} (hs : SameStruct hp hp') (c : Cell) :
    SameStruct (hp.push c) (hp'.push c) := by
  unfold SameStruct at *
  rw [Array.map_push, Array.map_push, hs]

theorem sameStruct_set {hp : Heap} {a : Nat} {m v : Root} {l r : Nat}
    (ha : hp[a]? = some (Cell.pair m l r)) :
    SameStruct hp (hp.setIfInBounds a (Cell.pair v l r)) := by
  apply sameStruct_of_get
  intro i
  rw [get_set (get_lt_size ha)]
  split
  · rename_i hi; subst hi; rw [ha]; rfl
  · rfl

theorem WF_sameStruct {hp hp' : Heap} (hs : SameStruct hp hp') (hw : WF hp) : WF hp' := by
  intro a m l r ha
  obtain ⟨m', hb⟩ := get_pair_of_erase (hs.get a) ha
  exact hw a m' l r hb

/-- The tree at `x` depends only on the shape of the cells below `x`: if, on a set `D` of addresses
    closed under children, `hp'` has at `φ x` a cell of the shape `hp` has at `x`, with the
    children mapped by `φ`, then `φ x` denotes in `hp'` what `x` denotes in `hp`. -/
theorem absF_map {hp hp' : Heap} {φ : Nat → Nat} {D : Nat → Prop}
    (hD : ∀ x, D x →
      (hp[x]? = none → hp'[φ x]? = none)
      ∧ (∀ r, hp[x]? = some (Cell.leaf r) → hp'[φ x]? = some (Cell.leaf r))
      ∧ ∀ m l r, hp[x]? = some (Cell.pair m l r) →
          (∃ m', hp'[φ x]? = some (Cell.pair m' (φ l) (φ r))) ∧ D l ∧ D r) :
    ∀ f x, D x → absF f hp' (φ x) = absF f hp x := by
  intro f
  induction f with
  | zero => intro x _; rfl
  | succ f ih =>
    intro x hx
    obtain ⟨hn, hl, hpr⟩ := hD x hx
    unfold absF
    cases hc : hp[x]? with
    | none => rw [hn hc]
    | some c =>
      cases c with
      | leaf r => rw [hl r hc]
      | pair m l r =>
        obtain ⟨⟨m', hb⟩, dl, dr⟩ := hpr m l r hc
        rw [hb]
        simp only [ih l dl, ih r dr]

theorem absF_sameStruct {hp hp' : Heap} (hs : SameStruct hp hp') (f a : Nat) :
    absF f hp a = absF f hp' a :=
  absF_map (φ := id) (D := fun _ => True) (fun x _ => ⟨get_none_of_erase (hs.get x),
    fun _ => get_leaf_of_erase (hs.get x),
    fun _ _ _ e => ⟨get_pair_of_erase (hs.get x) e, trivial, trivial⟩⟩) f a trivial

theorem pureRoot_sameStruct (h : HashFn) {hp hp' : Heap} (hs : SameStruct hp hp') (a : Nat) :
    pureRoot h hp a = pureRoot h hp' a := by
  unfold pureRoot absNode; rw [absF_sameStruct hs]

/-! ### traces -/

theorem Trace.app_calls (s t : Trace) : (s ++ t).calls = s.calls + t.calls := rfl
theorem Trace.app_acc (s t : Trace) : (s ++ t).acc = s.acc ++ t.acc := rfl

theorem Trace.writes_app (s t : Trace) : (s ++ t).writes = s.writes ++ t.writes := by
  simp only [Trace.writes, Trace.app_acc, List.filter_append, List.map_append]

theorem Trace.writes_nil : Trace.nil.writes = [] := rfl
theorem Trace.writes_read (a : Nat) : (Trace.one a .read).writes = [] := rfl
theorem Trace.writes_write (a : Nat) : (Trace.one a .write).writes = [a] := rfl

/-- the trace of hashing a pair: its read, the two subtrees, one hash call and the memo write -/
theorem Trace.node_writes (a : Nat) (s t : Trace) :
    (Trace.one a .read ++ s ++ t ++ ⟨1, [(a, .write)]⟩).writes = s.writes ++ t.writes ++ [a] := by
  rw [Trace.writes_app, Trace.writes_app, Trace.writes_app, Trace.writes_read, List.nil_append]
  rfl

theorem Trace.node_calls (a : Nat) (s t : Trace) :
    (Trace.one a .read ++ s ++ t ++ ⟨1, [(a, .write)]⟩).calls = s.calls + t.calls + 1 := by
  show 0 + _ + _ + 1 = _
  rw [Nat.zero_add]

theorem Trace.app_assoc (s t u : Trace) : s ++ t ++ u = s ++ (t ++ u) := by
  show Trace.app (Trace.app s t) u = Trace.app s (Trace.app t u)
  simp only [Trace.app, Nat.add_assoc, List.append_assoc]

theorem Trace.nil_app (t : Trace) : Trace.nil ++ t = t := by
  show Trace.app Trace.nil t = t
  simp only [Trace.app, Trace.nil, Nat.zero_add, List.nil_append]

theorem Trace.app_nil (t : Trace) : t ++ Trace.nil = t := by
  show Trace.app t Trace.nil = t
  simp only [Trace.app, Trace.nil, Nat.add_zero, List.append_nil]

theorem Trace.mem_writes {t : Trace} {y : Nat} : y ∈ t.writes ↔ (y, Acc.write) ∈ t.acc := by
  unfold Trace.writes
  rw [List.mem_map]
  constructor
  · rintro ⟨⟨y', k⟩, hm, rfl⟩
    rw [List.mem_filter] at hm
    have : k = Acc.write := by simpa using hm.2
    subst this; exact hm.1
  · intro hm
    exact ⟨(y, Acc.write), List.mem_filter.mpr ⟨hm, by simp⟩, rfl⟩

/-! ### memo fills -/

/-- the cell at `a` is a pair with unset memo: what `MerkleRoot` at `a` hashes -/
def Unset (hp : Heap) (a : Nat) : Prop := ∃ l r, hp[a]? = some (Cell.pair z0 l r)

/-- memo fields are only ever filled: a cell is unchanged, or it was an unset pair -/
def MemoStep (hp hp' : Heap) : Prop :=
  ∀ y : Nat, hp'[y]? = hp[y]? ∨ ∃ l r v, hp[y]? = some (Cell.pair z0 l r) ∧ hp'[y]? = some (Cell.pair v l r)

/-- `hp'` is `hp` with the memos of the cells `W` filled by values of `h`; each of them was a pair
    with unset memo, reached from `a` through such pairs -/
def Fill (h : HashFn) (hp : Heap) (a : Nat) (W : List Nat) (hp' : Heap) : Prop :=
  (∀ y, y ∉ W → hp'[y]? = hp[y]?) ∧ ∀ y, y ∈ W → UReach hp a y ∧ ∃ l r u w,
    hp[y]? = some (Cell.pair z0 l r) ∧ hp'[y]? = some (Cell.pair (h u w) l r)

theorem Fill.memoStep {h : HashFn} {hp hp' : Heap} {a : Nat} {W : List Nat} (x : Fill h hp a W hp') :
    MemoStep hp hp' := fun y => by
  by_cases hy : y ∈ W
  · obtain ⟨_, l, r, _, _, e⟩ := x.2 y hy
    exact .inr ⟨l, r, _, e⟩
  · exact .inl (x.1 y hy)

theorem MemoStep.sameStruct {hp hp' : Heap} (ms : MemoStep hp hp') : SameStruct hp hp' := by
  refine sameStruct_of_get (fun y => ?_)
  rcases ms y with e | ⟨l, r, v, e0, e1⟩
  · rw [e]
  · rw [e0, e1]; rfl

theorem MemoStep.unset {hp hp' : Heap} (ms : MemoStep hp hp') {z l r : Nat}
    (e : hp'[z]? = some (Cell.pair z0 l r)) : hp[z]? = some (Cell.pair z0 l r) := by
  rcases ms z with e1 | ⟨l', r', v, e0, e1⟩
  · rw [← e1]; exact e
  · obtain ⟨_, rfl, rfl⟩ := Cell.pair.inj (Option.some.inj (e.symm.trans e1))
    exact e0

theorem ureach_of_memoStep {hp hp1 : Heap} (ms : MemoStep hp hp1) {x y : Nat}
    (hu : UReach hp1 x y) : UReach hp x y := by
  induction hu with
  | here l r e => exact .here l r (ms.unset e)
  | left l r e _ ih => exact .left l r (ms.unset e) ih
  | right l r e _ ih => exact .right l r (ms.unset e) ih

/-! ### what `MerkleRoot` does to the heap -/

theorem rootH_unset (h : HashFn) {f : Nat} {hp : Heap} {a l r : Nat}
    (ha : hp[a]? = some (Cell.pair z0 l r)) :
    rootH h (f+1) hp a =
      (h (rootH h f hp l).1 (rootH h f (rootH h f hp l).2.1 r).1,
       (rootH h f (rootH h f hp l).2.1 r).2.1.setIfInBounds a
         (Cell.pair (h (rootH h f hp l).1 (rootH h f (rootH h f hp l).2.1 r).1) l r),
       Trace.one a .read ++ (rootH h f hp l).2.2 ++ (rootH h f (rootH h f hp l).2.1 r).2.2
         ++ ⟨1, [(a, .write)]⟩) := by
  rw [rootH, ha]
  simp only [ne_eq, not_true_eq_false, if_false]

theorem rootH_noop (h : HashFn) {f : Nat} {hp : Heap} {a : Nat}
    (hs : ¬ Unset hp a) :
    (rootH h f hp a).2.1 = hp ∧ (rootH h f hp a).2.2.writes = [] ∧ (rootH h f hp a).2.2.calls = 0 := by
  cases f with
  | zero => exact ⟨rfl, rfl, rfl⟩
  | succ f =>
    rw [rootH]
    split
    · exact ⟨rfl, rfl, rfl⟩
    · exact ⟨rfl, rfl, rfl⟩
    · rename_i m l r e
      split
      · exact ⟨rfl, rfl, rfl⟩
      · rename_i hm; exact absurd ⟨l, r, by rw [e, Decidable.of_not_not hm]⟩ hs

/-- hashing the pair at `a`: fill below `l`, then below `r`, then the memo of `a` itself -/
theorem Fill.step {h : HashFn} {hp hp1 hp2 : Heap} {W1 W2 : List Nat} {a l r : Nat}
    (ha : hp[a]? = some (Cell.pair z0 l r)) (F1 : Fill h hp l W1 hp1) (F2 : Fill h hp1 r W2 hp2)
    (u w : Root) :
    Fill h hp a (W1 ++ W2 ++ [a]) (hp2.setIfInBounds a (Cell.pair (h u w) l r)) := by
  have ms1 := F1.memoStep
  have hsz : a < hp2.size := by
    rw [← F2.memoStep.sameStruct.size_eq, ← ms1.sameStruct.size_eq]
    exact get_lt_size ha
  have hmem : ∀ y, y ∈ W1 ++ W2 ++ [a] ↔ (y ∈ W1 ∨ y ∈ W2) ∨ y = a := fun y => by
    rw [List.mem_append, List.mem_append, List.mem_singleton]
  constructor
  · intro y hy
    have hn := fun e => hy ((hmem y).mpr e)
    rw [get_set hsz, if_neg (fun e => hn (.inr e.symm)), F2.1 y (fun e => hn (.inl (.inr e))),
      F1.1 y (fun e => hn (.inl (.inl e)))]
  · intro y hy
    rw [get_set hsz]
    by_cases hya : a = y
    · subst hya
      rw [if_pos rfl]
      exact ⟨.here l r ha, l, r, _, _, ha, rfl⟩
    · rw [if_neg hya]
      -- a cell written below `l` and again below `r` carries the second value
      by_cases h2 : y ∈ W2
      · obtain ⟨u2, l', r', u, w, e0, e1⟩ := F2.2 y h2
        exact ⟨.right l r ha (ureach_of_memoStep ms1 u2), l', r', u, w, ms1.unset e0, e1⟩
      · have h1 : y ∈ W1 := by
          rcases (hmem y).mp hy with (h1 | h2') | e
          · exact h1
          · exact absurd h2' h2
          · exact absurd e.symm hya
        obtain ⟨u1, l', r', u, w, e0, e1⟩ := F1.2 y h1
        exact ⟨.left l r ha u1, l', r', u, w, e0, by rw [F2.1 y h2]; exact e1⟩

/-- What `MerkleRoot` does to the heap, whatever the hash function: a cell it does not write is
    unchanged; a cell it writes was a pair with unset memo, reached from `a` through such pairs,
    and now carries a hash value. -/
theorem rootH_fill (h : HashFn) : ∀ f hp a,
    Fill h hp a (rootH h f hp a).2.2.writes (rootH h f hp a).2.1 := by
  intro f
  induction f with
  | zero => intro hp a; exact ⟨fun _ _ => rfl, fun y hy => by cases hy⟩
  | succ f ih =>
    intro hp a
    by_cases hu : Unset hp a
    · obtain ⟨l, r, ha⟩ := hu
      rw [rootH_unset h ha, Trace.node_writes]
      exact Fill.step ha (ih hp l) (ih _ r) _ _
    · obtain ⟨e, w, _⟩ := rootH_noop h (f := f+1) hu
      rw [e, w]
      exact ⟨fun _ _ => rfl, fun y hy => by cases hy⟩

theorem rootH_memoStep (h : HashFn) (f : Nat) (hp : Heap) (a : Nat) : MemoStep hp (rootH h f hp a).2.1 :=
  (rootH_fill h f hp a).memoStep

theorem rootH_sameStruct (h : HashFn) (f : Nat) (hp : Heap) (a : Nat) :
    SameStruct hp (rootH h f hp a).2.1 := (rootH_memoStep h f hp a).sameStruct

theorem rootH_size (h : HashFn) (f : Nat) (hp : Heap) (a : Nat) :
    (rootH h f hp a).2.1.size = hp.size := (rootH_sameStruct h f hp a).size_eq.symm

theorem rootH_wf (h : HashFn) (f : Nat) {hp : Heap} (a : Nat) (hw : WF hp) :
    WF (rootH h f hp a).2.1 := WF_sameStruct (rootH_sameStruct h f hp a) hw

/-! ### fuel -/

theorem absF_fuel {hp : Heap} (hw : WF hp) :
    ∀ f f' a, a < f → a < f' → absF f hp a = absF f' hp a := by
  intro f
  induction f with
  | zero => intro f' a h1; omega
  | succ f ih =>
    intro f' a h1 h2
    cases f' with
    | zero => omega
    | succ f' =>
      unfold absF
      cases ha : hp[a]? with
      | none => rfl
      | some c =>
        cases c with
        | leaf r => rfl
        | pair m l r =>
          have := hw a m l r ha
          simp only
          rw [ih f' l (by omega) (by omega), ih f' r (by omega) (by omega)]

theorem absF_eq_absNode {hp : Heap} (hw : WF hp) {f a : Nat} (hlt : a < f) :
    absF f hp a = absNode hp a := absF_fuel hw f (a+1) a hlt (by omega)

theorem absNode_pair {hp : Heap} (hw : WF hp) {a : Nat} {m : Root} {l r : Nat}
    (ha : hp[a]? = some (Cell.pair m l r)) :
    absNode hp a = .pair (absNode hp l) (absNode hp r) := by
  have := hw a m l r ha
  rw [absNode, absF, ha]
  simp only
  rw [absF_eq_absNode hw this.1, absF_eq_absNode hw this.2]

theorem absNode_leaf {hp : Heap} {a : Nat} {r : Root}
    (ha : hp[a]? = some (Cell.leaf r)) : absNode hp a = .leaf r := by
  rw [absNode, absF, ha]

theorem pureRoot_pair (h : HashFn) {hp : Heap} (hw : WF hp) {a : Nat} {m : Root} {l r : Nat}
    (ha : hp[a]? = some (Cell.pair m l r)) :
    pureRoot h hp a = h (pureRoot h hp l) (pureRoot h hp r) := by
  unfold pureRoot; rw [absNode_pair hw ha]; rfl

theorem pureRoot_leaf (h : HashFn) {hp : Heap} {a : Nat} {r : Root}
    (ha : hp[a]? = some (Cell.leaf r)) : pureRoot h hp a = r := by
  unfold pureRoot; rw [absNode_leaf ha]; rfl

/-! ### `rootH` returns the memo-free root whatever the memo state (C06) -/

theorem rootH_correct (h : HashFn) : ∀ f hp a, WF hp → MemoValid h hp → a < f →
    (rootH h f hp a).1 = pureRoot h hp a ∧ MemoValid h (rootH h f hp a).2.1 := by
  intro f
  induction f with
  | zero => intro hp a _ _ hlt; omega
  | succ f ih =>
    intro hp a hw hm hlt
    unfold rootH
    cases ha : hp[a]? with
    | none =>
      refine ⟨?_, hm⟩
      simp only [pureRoot, absNode, absF, ha]; rfl
    | some c =>
      cases c with
      | leaf r => exact ⟨(pureRoot_leaf h ha).symm, hm⟩
      | pair m l r =>
        have hlr := hw a m l r ha
        simp only
        split
        · rename_i hm0
          exact ⟨by rw [pureRoot_pair h hw ha]; exact hm a m l r ha hm0, hm⟩
        · have s1 := rootH_sameStruct h f hp l
          obtain ⟨e1, m1⟩ := ih hp l hw hm (by omega)
          obtain ⟨e2, m2⟩ := ih (rootH h f hp l).2.1 r (WF_sameStruct s1 hw) m1 (by omega)
          have s12 : SameStruct hp _ := s1.trans (rootH_sameStruct h f (rootH h f hp l).2.1 r)
          have hval : h (rootH h f hp l).1 (rootH h f (rootH h f hp l).2.1 r).1 = pureRoot h hp a := by
            rw [e1, e2, ← pureRoot_sameStruct h s1 r, pureRoot_pair h hw ha]
          refine ⟨hval, ?_⟩
          -- the memos of the final heap, old or new, are roots of trees of `hp`, and the final
          -- heap denotes the same trees
          obtain ⟨m', hc2⟩ := get_pair_of_erase (s12.get a).symm ha
          have s3 := s12.trans (sameStruct_set (v := pureRoot h hp a) hc2)
          rw [hval]
          intro x mx lx rx hx hmx
          rw [← pureRoot_sameStruct h s3 lx, ← pureRoot_sameStruct h s3 rx]
          rw [get_set (get_lt_size hc2)] at hx
          split at hx
          · rename_i hxa
            subst hxa
            obtain ⟨rfl, rfl, rfl⟩ := Cell.pair.inj (Option.some.inj hx)
            exact pureRoot_pair h hw ha
          · rw [m2 x mx lx rx hx hmx, ← pureRoot_sameStruct h s12 lx, ← pureRoot_sameStruct h s12 rx]

/-! ### extension of heaps -/

theorem Ext.refl (hp : Heap) : Ext hp hp := ⟨Nat.le_refl _, fun _ _ => rfl⟩

theorem Ext.trans {a b c : Heap} (h1 : Ext a b) (h2 : Ext b c) : Ext a c :=
  ⟨Nat.le_trans h1.1 h2.1, fun x hx => by
    rw [h2.2 x (Nat.lt_of_lt_of_le hx h1.1), h1.2 x hx]⟩

theorem ext_of_sameStruct {hp hp' : Heap} (hs : SameStruct hp hp') : Ext hp hp' :=
  ⟨Nat.le_of_eq hs.size_eq, fun x _ => (hs.get x).symm⟩

theorem ext_push (hp : Heap) (c : Cell) : Ext hp (hp.push c) :=
  ⟨by simp, fun x hx => by rw [get_push_lt c hx]⟩

theorem absF_ext {hp hp' : Heap} (hw : WF hp) (he : Ext hp hp') (f : Nat) {x : Nat}
    (hx : x < hp.size) : absF f hp' x = absF f hp x :=
  absF_map (φ := id) (D := fun x => x < hp.size) (fun x hx => ⟨get_none_of_erase (he.2 x hx),
    fun _ => get_leaf_of_erase (he.2 x hx), fun m l r e => by
      have := hw x m l r e
      exact ⟨get_pair_of_erase (he.2 x hx) e, by omega, by omega⟩⟩) f x hx

theorem absNode_ext {hp hp' : Heap} (hw : WF hp) (he : Ext hp hp') {x : Nat} (hx : x < hp.size) :
    absNode hp' x = absNode hp x := absF_ext hw he _ hx

theorem pureRoot_ext (h : HashFn) {hp hp' : Heap} (hw : WF hp) (he : Ext hp hp') {x : Nat}
    (hx : x < hp.size) : pureRoot h hp' x = pureRoot h hp x := by
  unfold pureRoot; rw [absNode_ext hw he hx]

/-! ### allocation -/

/-- the cells a poke-free client allocates: a leaf, or an unhashed pair over existing nodes -/
def Fresh (hp : Heap) : Cell → Prop
  | .leaf _ => True
  | .pair m l r => m = z0 ∧ l < hp.size ∧ r < hp.size

theorem Fresh.leaf (hp : Heap) (r : Root) : Fresh hp (.leaf r) := trivial

theorem Fresh.pair {hp : Heap} {l r : Nat} (hl : l < hp.size) (hr : r < hp.size) :
    Fresh hp (.pair z0 l r) := And.intro rfl (And.intro hl hr)

theorem WF_push {hp : Heap} (hw : WF hp) {c : Cell} (hc : Fresh hp c) : WF (hp.push c) := by
  intro a m l r ha
  rcases get_push_some ha with ha | ⟨rfl, rfl⟩
  · exact hw a m l r ha
  · exact hc.2

theorem memoValid_push {h : HashFn} {hp : Heap} (hw : WF hp) (hm : MemoValid h hp) {c : Cell}
    (hc : Fresh hp c) : MemoValid h (hp.push c) := by
  intro a m l r ha hm0
  rcases get_push_some ha with ha | ⟨rfl, rfl⟩
  · have := hw a m l r ha
    have := get_lt_size ha
    rw [pureRoot_ext h hw (ext_push hp c) (by omega), pureRoot_ext h hw (ext_push hp c) (by omega)]
    exact hm a m l r ha hm0
  · exact absurd hc.1 hm0

/-! ### equations of `run` -/

/-- a run that starts with the accesses `t` and goes on as `x` -/
def pre (t : Trace) (x : Option α × Heap × Trace) : Option α × Heap × Trace := (x.1, x.2.1, t ++ x.2.2)

theorem pre_fst (t : Trace) (x : Option α × Heap × Trace) : (pre t x).1 = x.1 := rfl
theorem pre_trace (t : Trace) (x : Option α × Heap × Trace) : (pre t x).2.2 = t ++ x.2.2 := rfl

theorem run_ret (h : HashFn) (a : α) (hp : Heap) : run h (.ret a) hp = (some a, hp, Trace.nil) := rfl

theorem run_allocLeaf (h : HashFn) (r : Root) (k : Nat → Prog α) (hp : Heap) :
    run h (.allocLeaf r k) hp = pre (Trace.one hp.size .write) (run h (k hp.size) (hp.push (.leaf r))) :=
  rfl

theorem run_allocPair_ok (h : HashFn) {l r : Nat} (k : Nat → Prog α) {hp : Heap}
    (hl : l < hp.size) (hr : r < hp.size) :
    run h (.allocPair l r k) hp =
      pre (Trace.one hp.size .write) (run h (k hp.size) (hp.push (.pair z0 l r))) := by
  rw [run, if_pos ⟨hl, hr⟩]; rfl

theorem run_allocPair_bad (h : HashFn) {l r : Nat} (k : Nat → Prog α) {hp : Heap}
    (hlr : ¬ (l < hp.size ∧ r < hp.size)) :
    run h (.allocPair l r k) hp = (none, hp, Trace.nil) := by
  rw [run, if_neg hlr]

theorem run_read_none (h : HashFn) {a : Nat} (k : Option (Sum Root (Nat × Nat)) → Prog α) {hp : Heap}
    (ha : hp[a]? = none) : run h (.read a k) hp = run h (k none) hp := by
  rw [run]; simp only [ha]

theorem run_read_some (h : HashFn) {a : Nat} (k : Option (Sum Root (Nat × Nat)) → Prog α) {hp : Heap}
    {c : Cell} (ha : hp[a]? = some c) :
    run h (.read a k) hp = pre (Trace.one a .read) (run h (k (some (view c))) hp) := by
  rw [run]; simp only [ha]; rfl

theorem run_root_ok (h : HashFn) {a : Nat} (k : Root → Prog α) {hp : Heap} (ha : a < hp.size) :
    run h (.root a k) hp =
      pre (rootH h (a+1) hp a).2.2 (run h (k (rootH h (a+1) hp a).1) (rootH h (a+1) hp a).2.1) := by
  rw [run, if_pos ha]; rfl

theorem run_root_bad (h : HashFn) {a : Nat} (k : Root → Prog α) {hp : Heap} (ha : ¬ a < hp.size) :
    run h (.root a k) hp = (none, hp, Trace.nil) := by
  rw [run, if_neg ha]

theorem run_poke_ok (h : HashFn) {a : Nat} {r r0 : Root} (k : Unit → Prog α) {hp : Heap}
    (ha : hp[a]? = some (Cell.leaf r0)) :
    run h (.pokeLeaf a r k) hp =
      pre (Trace.one a .write) (run h (k ()) (hp.setIfInBounds a (.leaf r))) := by
  rw [run, ha]; rfl

theorem run_poke_bad (h : HashFn) {a : Nat} {r : Root} (k : Unit → Prog α) {hp : Heap}
    (ha : ∀ r0, hp[a]? ≠ some (Cell.leaf r0)) :
    run h (.pokeLeaf a r k) hp = (none, hp, Trace.nil) := by
  rw [run]
  split
  · rename_i r0 hx; exact absurd hx (ha r0)
  · rfl

theorem run_step1 (h : HashFn) (p : Prog α) (hp : Heap) :
    run h p hp =
      match (step1 h p hp).1 with
      | .done a => (some a, (step1 h p hp).2.1, (step1 h p hp).2.2)
      | .abort => (none, (step1 h p hp).2.1, (step1 h p hp).2.2)
      | .more p' => pre (step1 h p hp).2.2 (run h p' (step1 h p hp).2.1) := by
  cases p with
  | ret _ | allocLeaf _ _ => rfl
  | read x k => simp only [run, step1]; split <;> simp only [pre, Trace.nil_app]
  | allocPair _ _ _ | root _ _ | pokeLeaf _ _ _ => simp only [run, step1]; split <;> rfl

/-! ### what every poke-free client preserves -/

/-- A property of heaps that survives the allocation of a fresh cell and a `MerkleRoot` request
    on an existing node survives every poke-free client, and so does well-formedness. -/
theorem run_inv (h : HashFn) {P : Heap → Prop}
    (push : ∀ hp c, WF hp → Fresh hp c → P hp → P (hp.push c))
    (root : ∀ hp a, WF hp → a < hp.size → P hp → P (rootH h (a+1) hp a).2.1)
    {p : Prog α} (hnp : NoPoke p) :
    ∀ hp, WF hp → P hp → WF (run h p hp).2.1 ∧ P (run h p hp).2.1 := by
  induction hnp with
  | ret a => intro hp hw hP; exact ⟨hw, hP⟩
  | allocLeaf r k _ ih =>
    intro hp hw hP
    rw [run_allocLeaf]
    exact ih _ _ (WF_push hw (.leaf hp r)) (push _ _ hw (.leaf hp r) hP)
  | allocPair l r k _ ih =>
    intro hp hw hP
    by_cases hlr : l < hp.size ∧ r < hp.size
    · rw [run_allocPair_ok h k hlr.1 hlr.2]
      exact ih _ _ (WF_push hw (.pair hlr.1 hlr.2)) (push _ _ hw (.pair hlr.1 hlr.2) hP)
    · rw [run_allocPair_bad h k hlr]; exact ⟨hw, hP⟩
  | read a k _ ih =>
    intro hp hw hP
    cases ha : hp[a]? with
    | none => rw [run_read_none h k ha]; exact ih _ hp hw hP
    | some c => rw [run_read_some h k ha]; exact ih _ hp hw hP
  | root a k _ ih =>
    intro hp hw hP
    by_cases ha : a < hp.size
    · rw [run_root_ok h k ha]
      exact ih _ _ (rootH_wf h _ a hw) (root _ _ hw ha hP)
    · rw [run_root_bad h k ha]; exact ⟨hw, hP⟩

/-- C05, frame: the heap stays well-formed and is only extended -/
theorem run_frame (h : HashFn) {p : Prog α} (hnp : NoPoke p) (hp : Heap) (hw : WF hp) :
    WF (run h p hp).2.1 ∧ Ext hp (run h p hp).2.1 :=
  run_inv h (P := Ext hp) (fun hp' c _ _ e => e.trans (ext_push hp' c))
    (fun hp' a _ _ e => e.trans (ext_of_sameStruct (rootH_sameStruct h _ hp' a))) hnp hp hw (Ext.refl hp)

structure Valid (h : HashFn) (hp : Heap) : Prop where
  wf : WF hp
  memo : MemoValid h hp

theorem Valid.push {h : HashFn} {hp : Heap} (v : Valid h hp) {c : Cell} (hc : Fresh hp c) :
    Valid h (hp.push c) := ⟨WF_push v.wf hc, memoValid_push v.wf v.memo hc⟩

theorem Valid.root {h : HashFn} {hp : Heap} (v : Valid h hp) (a : Nat) :
    (rootH h (a+1) hp a).1 = pureRoot h hp a ∧ Valid h (rootH h (a+1) hp a).2.1 :=
  have c := rootH_correct h (a+1) hp a v.wf v.memo (Nat.lt_succ_self a)
  ⟨c.1, rootH_wf h _ a v.wf, c.2⟩

theorem root1_correct {h : HashFn} {hp : Heap} (v : Valid h hp) {x : Nat} (hx : x < hp.size) :
    (run h (Prog.root1 x) hp).1 = some ((absNode hp x).root h) := by
  unfold Prog.root1
  rw [run_root_ok h _ hx, (v.root x).1]
  rfl

/-- C06: memo validity survives every poke-free client -/
theorem run_valid {h : HashFn} {p : Prog α} (hnp : NoPoke p) {hp : Heap} (v : Valid h hp) :
    Valid h (run h p hp).2.1 :=
  have r := run_inv h (P := MemoValid h) (fun _ _ hw hc hm => memoValid_push hw hm hc)
    (fun _ a hw _ hm => (Valid.root ⟨hw, hm⟩ a).2.memo) hnp hp v.wf v.memo
  ⟨r.1, r.2⟩

/-! ### results do not depend on the memo state, nor on extra root requests (C06) -/

theorem RootEdit.refl {p : Prog α} (hnp : NoPoke p) : ∀ n, RootEdit n p p := by
  induction hnp with
  | ret a => intro n; exact .ret n a
  | allocLeaf r k _ ih => intro n; exact .allocLeaf n r k k (ih n (n+1))
  | allocPair l r k _ ih => intro n; exact .allocPair n l r k k (fun _ _ => ih n (n+1))
  | read a k _ ih => intro n; exact .read n a k k (fun c => ih c n)
  | root a k _ ih => intro n; exact .root n a k k (fun v => ih v n)

/-- `p` on `hp` and `p'` on `hp'` run in step, `p'` being `p` with root requests inserted or
    deleted: the two heaps stay valid and equal up to memo fields, so a read sees the same view on
    both sides and a root request returns the same memo-free root -/
theorem run_rootEdit (h : HashFn) {n : Nat} {p p' : Prog α} (he : RootEdit n p p') :
    ∀ hp hp', hp.size = n → Valid h hp → Valid h hp' → SameStruct hp hp' →
      (run h p hp).1 = (run h p' hp').1 ∧ SameStruct (run h p hp).2.1 (run h p' hp').2.1 := by
  induction he with
  | ret n a => intro hp hp' _ _ _ hs; exact ⟨rfl, hs⟩
  | ins n x p p' hx _ ih =>
    intro hp hp' hn v v' hs
    rw [run_root_ok h _ (by rw [← hs.size_eq]; omega : x < hp'.size)]
    exact ih hp _ hn v (v'.root x).2 (hs.trans (rootH_sameStruct h (x+1) hp' x))
  | del n x p p' hx _ ih =>
    intro hp hp' hn v v' hs
    rw [run_root_ok h _ (by omega : x < hp.size)]
    exact ih _ hp' (by rw [rootH_size]; exact hn) (v.root x).2 v'
      ((rootH_sameStruct h (x+1) hp x).symm.trans hs)
  | allocLeaf n r k k' _ ih =>
    intro hp hp' hn v v' hs
    rw [run_allocLeaf, run_allocLeaf, ← hs.size_eq, hn]
    exact ih (hp.push (.leaf r)) (hp'.push (.leaf r)) (by simp [hn]) (v.push (.leaf _ r))
      (v'.push (.leaf _ r)) (sameStruct_push hs _)
  | allocPair n l r k k' _ ih =>
    intro hp hp' hn v v' hs
    have hsz := hs.size_eq
    by_cases hlr : l < hp.size ∧ r < hp.size
    · have hlr' : l < hp'.size ∧ r < hp'.size := by rw [← hsz]; exact hlr
      rw [run_allocPair_ok h k hlr.1 hlr.2, run_allocPair_ok h k' hlr'.1 hlr'.2, ← hsz, hn]
      exact ih (by omega) (by omega) (hp.push (.pair z0 l r)) (hp'.push (.pair z0 l r)) (by simp [hn])
        (v.push (.pair hlr.1 hlr.2)) (v'.push (.pair hlr'.1 hlr'.2)) (sameStruct_push hs _)
    · rw [run_allocPair_bad h k hlr, run_allocPair_bad h k' (by rw [← hsz]; exact hlr)]
      exact ⟨rfl, hs⟩
  | read n a k k' _ ih =>
    intro hp hp' hn v v' hs
    cases ha : hp[a]? with
    | none =>
      rw [run_read_none h k ha, run_read_none h k' (get_none_of_erase (hs.get a).symm ha)]
      exact ih none hp hp' hn v v' hs
    | some c =>
      obtain ⟨c', ha', e⟩ := get_of_erase (hs.get a).symm ha
      rw [run_read_some h k ha, run_read_some h k' ha', view_of_erase e]
      exact ih _ hp hp' hn v v' hs
  | root n a k k' _ ih =>
    intro hp hp' hn v v' hs
    have hsz := hs.size_eq
    by_cases ha : a < hp.size
    · rw [run_root_ok h k ha, run_root_ok h k' (by omega : a < hp'.size)]
      obtain ⟨e1, v1⟩ := v.root a
      obtain ⟨e2, v2⟩ := v'.root a
      rw [e1, e2, ← pureRoot_sameStruct h hs a]
      exact ih _ _ _ (by rw [rootH_size]; exact hn) v1 v2
        (((rootH_sameStruct h (a+1) hp a).symm.trans hs).trans (rootH_sameStruct h (a+1) hp' a))
    · rw [run_root_bad h k ha, run_root_bad h k' (by omega : ¬ a < hp'.size)]
      exact ⟨rfl, hs⟩

/-! ### the old part of a heap after a run (copy detachment, C05) -/

theorem sameStruct_prefix_of_ext {hp hp1 : Heap} (he : Ext hp hp1) :
    SameStruct hp (hp1.extract 0 hp.size) := by
  apply sameStruct_of_get
  intro a
  rw [get_prefix he.1]
  split
  · rename_i ha; exact (he.2 a ha).symm
  · rename_i ha
    rw [Array.getElem?_eq_none (by omega)]

/-- the old part of an extended heap is valid if the whole is: it holds the same cells, and they
    denote the same trees in the old heap, the old part and the whole -/
theorem valid_prefix_of_ext {h : HashFn} {hp hp1 : Heap} (hw : WF hp) (he : Ext hp hp1)
    (v : Valid h hp1) : Valid h (hp1.extract 0 hp.size) := by
  have hs := sameStruct_prefix_of_ext he
  refine ⟨WF_sameStruct hs hw, fun a m l r ha hm0 => ?_⟩
  rw [get_prefix he.1] at ha
  split at ha
  · have hlr := v.wf a m l r ha
    rw [← pureRoot_sameStruct h hs l, ← pureRoot_sameStruct h hs r,
      ← pureRoot_ext h hw he (by omega), ← pureRoot_ext h hw he (by omega)]
    exact v.memo a m l r ha hm0
  · cases ha

/-! ### soundness of the executable checks; the example objects -/

theorem all_range_get {hp : Heap} {f : Nat → Bool} (hb : (List.range hp.size).all f = true)
    {a : Nat} {c : Cell} (ha : hp[a]? = some c) : f a = true :=
  List.all_eq_true.mp hb a (List.mem_range.mpr (get_lt_size ha))

theorem wfB_sound {hp : Heap} (hb : wfB hp = true) : WF hp := by
  intro a m l r ha
  have := all_range_get hb ha
  rw [ha] at this
  simpa using this

theorem memoValidB_sound {h : HashFn} {hp : Heap} (hb : memoValidB h hp = true) : MemoValid h hp := by
  intro a m l r ha hm0
  have := all_range_get hb ha
  rw [ha] at this
  simp only [Bool.or_eq_true, decide_eq_true_eq] at this
  exact this.resolve_left hm0

theorem allMemoB_sound {hp : Heap} (hb : allMemoB hp = true) : AllMemo hp := by
  intro a m l r ha
  have := all_range_get hb ha
  rw [ha] at this
  simpa using this

theorem noPoke_root1 (x : Nat) : NoPoke (Prog.root1 x) := .root x _ (fun v => .ret v)

theorem noPoke_exClient : NoPoke exClient := by
  unfold exClient
  refine .read _ _ (fun c => ?_)
  cases c with
  | none => exact .ret _
  | some v =>
    cases v with
    | inl _ => exact .ret _
    | inr lr =>
      exact .allocLeaf _ _ (fun a => .allocPair _ _ _ (fun b => .root _ _ (fun v => .ret v)))

theorem exHash_noZero : NoZeroOut exHash := by
  intro a b e
  unfold exHash z0 at e
  simp [List.replicate] at e

-- `decide +kernel`: the kernel alone evaluates these closed terms; the elaborator is the slow part
theorem wf_exHeap : WF exHeap := wfB_sound (by decide +kernel)
theorem wf_exHeap3 : WF exHeap3 := wfB_sound (by decide +kernel)
theorem wf_exHeapAll : WF exHeapAll := wfB_sound (by decide +kernel)
theorem valid_exHeap : Valid exHash exHeap := ⟨wf_exHeap, memoValidB_sound (by decide +kernel)⟩
theorem valid_exHeap3 : Valid exHash exHeap3 := ⟨wf_exHeap3, memoValidB_sound (by decide +kernel)⟩
theorem allMemo_exHeapAll : AllMemo exHeapAll := allMemoB_sound (by decide +kernel)

end ZtypV.H
