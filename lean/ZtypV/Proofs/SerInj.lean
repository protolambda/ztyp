/-
`serialize` is injective on typed values of a well-formed type, provided the encoding is shorter
than 2^32 bytes (offsets are `uint32` and wrap; without the bound two different splits of the
same payload can produce the same bytes).  Spec-level only (no model involved).
-/
import ZtypV.Proofs.SerSize
namespace ZtypV

/-! ### little-endian numbers -/

theorem leBytes_inj (k a b : Nat) (ha : a < 256 ^ k) (hb : b < 256 ^ k)
    (h : leBytes k a = leBytes k b) : a = b := by
  have := congrArg leNat h
  rwa [leNat_leBytes, leNat_leBytes, Nat.mod_eq_of_lt ha, Nat.mod_eq_of_lt hb] at this

/-! ### bits -/

theorem getD_eq_of_packBits_eq {a b : List Bool} (h : packBits a = packBits b) (i : Nat) :
    a.getD i false = b.getD i false := by
  rw [← Nat.div_add_mod i 8, ← packBits_getD_bit a _ _ (Nat.mod_lt _ (by decide)),
    ← packBits_getD_bit b _ _ (Nat.mod_lt _ (by decide)), h]

theorem packBits_inj_len {a b : List Bool} (hl : a.length = b.length) (h : packBits a = packBits b) :
    a = b := by
  apply List.ext_getElem hl
  intro i h1 h2
  have := getD_eq_of_packBits_eq h i
  rwa [List.getD_eq_getElem?_getD, List.getD_eq_getElem?_getD, List.getElem?_eq_getElem h1,
    List.getElem?_eq_getElem h2] at this

/-- the delimiter is the last set bit: a list agreeing with `b ++ [true]` is not shorter -/
theorem length_le_of_snoc_true {a b : List Bool}
    (h : ∀ i, (a ++ [true]).getD i false = (b ++ [true]).getD i false) : b.length ≤ a.length := by
  apply Nat.le_of_not_lt
  intro hlt
  have := h b.length
  rw [List.getD_eq_getElem?_getD, List.getD_eq_getElem?_getD, List.getElem?_concat_length,
    List.getElem?_eq_none (by rw [List.length_append]; exact hlt)] at this
  cases this

/-- the delimiter bit makes the bitlist encoding injective without knowing the length -/
theorem packBits_delim_inj {a b : List Bool} (h : packBits (a ++ [true]) = packBits (b ++ [true])) :
    a = b := by
  have hbit := getD_eq_of_packBits_eq h
  have hlen := Nat.le_antisymm (length_le_of_snoc_true fun i => (hbit i).symm)
    (length_le_of_snoc_true hbit)
  exact List.append_cancel_right
    (packBits_inj_len (by rw [List.length_append, List.length_append, hlen]) h)

/-! ### uniform pieces -/

theorem flatten_uniform_inj {α : Type} (s : Nat) (ls ms : List (List α)) (hl : ls.length = ms.length)
    (h1 : ∀ l ∈ ls, l.length = s) (h2 : ∀ l ∈ ms, l.length = s) (h : ls.flatten = ms.flatten) :
    ls = ms := by
  apply List.ext_getElem hl
  intro i hi1 hi2
  rw [← flatten_uniform_drop_take s ls i hi1 h1, ← flatten_uniform_drop_take s ms i hi2 h2, h]

theorem leWords_inj (k : Nat) {os os' : List Nat} (hl : os.length = os'.length)
    (h1 : ∀ o ∈ os, o < 256 ^ k) (h2 : ∀ o ∈ os', o < 256 ^ k)
    (h : (os.map (leBytes k)).flatten = (os'.map (leBytes k)).flatten) : os = os' := by
  have hk : ∀ (xs : List Nat), ∀ l ∈ xs.map (leBytes k), l.length = k := by
    intro xs l hl
    obtain ⟨o, _, rfl⟩ := List.mem_map.1 hl
    exact leBytes_length k o
  have hm := flatten_uniform_inj k _ _ (by rw [List.length_map, List.length_map, hl])
    (hk os) (hk os') h
  apply List.ext_getElem hl
  intro i hi hi'
  have hi1 : i < (os.map (leBytes k)).length := by rwa [List.length_map]
  have hw := List.getElem_of_eq hm hi1
  rw [List.getElem_map, List.getElem_map] at hw
  exact leBytes_inj k _ _ (h1 _ (List.getElem_mem hi)) (h2 _ (List.getElem_mem hi')) hw

/-! ### offsets of a series -/

theorem offsetsOf_length : ∀ (ps : List Bytes) (s : Nat), (offsetsOf s ps).length = ps.length := by
  intro ps
  induction ps with
  | nil => intro s; rfl
  | cons p ps ih => intro s; simp [offsetsOf, ih]

theorem serVarParts_count {ps qs : List Bytes} (hlt : (serVarParts ps).length < 2 ^ 32)
    (h : serVarParts ps = serVarParts qs) : ps.length = qs.length := by
  cases ps with
  | nil =>
    cases qs with
    | nil => rfl
    | cons q qs => cases h
  | cons p ps =>
    cases qs with
    | nil => cases h
    | cons q qs =>
      have hlen := congrArg List.length h
      rw [serVarParts_length, serVarParts_length] at hlen
      rw [serVarParts_length] at hlt
      simp only [serVarParts, offsetsOf, List.flatten_cons, List.append_assoc] at h
      have h4 := (List.append_inj h (by rw [leBytes_length, leBytes_length])).1
      exact Nat.eq_of_mul_eq_mul_left (by decide : 0 < 4) (leBytes_inj 4 _ _
        (Nat.lt_of_le_of_lt (Nat.le_add_right _ _) hlt)
        (Nat.lt_of_le_of_lt (Nat.le_add_right _ _) (hlen ▸ hlt)) h4)

/-- The offsets are `uint32` and wrap: below 2^32 the table determines the offsets as numbers,
    and these with the payload determine the parts. -/
theorem serVarParts_inj (ps qs : List Bytes) (hlt : (serVarParts ps).length < 2 ^ 32)
    (h : serVarParts ps = serVarParts qs) : ps = qs := by
  have hcount := serVarParts_count hlt h
  rw [serVarParts_length] at hlt
  rw [serVarParts, serVarParts, hcount] at h
  obtain ⟨hoff, hpay⟩ := List.append_inj h (by
    rw [offsetsOf_flatten_length, offsetsOf_flatten_length, hcount])
  rw [offsetsOf_eq_map, offsetsOf_eq_map] at hoff
  refine natOffsets_inj ps qs _ (leWords_inj 4 (by rw [natOffsets_length, natOffsets_length, hcount])
    (fun o ho => ?_) (fun o ho => ?_) hoff) hpay
  · exact Nat.lt_of_le_of_lt (natOffsets_le ps _ o ho) (hcount ▸ hlt)
  · exact Nat.lt_of_le_of_lt (natOffsets_le qs _ o ho) (hpay ▸ hcount ▸ hlt)

/-! ### injectivity at one type; series -/

def SerInj (t : Ty) : Prop :=
  ∀ (v w : Val), hasType t v = true → hasType t w = true → (serialize t v).length < 2 ^ 32 →
    serialize t v = serialize t w → v = w

theorem serList_inj {e : Ty} (he : SerInj e) (vs ws : List Val)
    (hv : allHaveType e vs = true) (hws : allHaveType e ws = true)
    (hsz : ∀ l ∈ serList e vs, l.length < 2 ^ 32) (h : serList e vs = serList e ws) : vs = ws := by
  have hl : vs.length = ws.length := by rw [← serList_length e vs, h, serList_length]
  apply List.ext_getElem hl
  intro i hi hi'
  have hi1 : i < (serList e vs).length := by rwa [serList_length]
  have hs := List.getElem_of_eq h hi1
  have hlt := hsz _ (List.getElem_mem hi1)
  rw [serList_getElem e vs i hi] at hs hlt
  rw [serList_getElem e ws i hi'] at hs
  exact he _ _ (allHaveType_getElem e vs hv i hi) (allHaveType_getElem e ws hws i hi') hlt hs

/-- Series (vector or list) of element type `e`.  Fixed-size elements: their number is the
    length divided by the element size, which is not zero. -/
theorem series_inj {e : Ty} (he : SerInj e) (hw : e.wf = true) (vs ws : List Val)
    (hv : allHaveType e vs = true) (hws : allHaveType e ws = true)
    (hlt : (if e.isFixed then (serList e vs).flatten else serVarParts (serList e vs)).length < 2 ^ 32)
    (h : (if e.isFixed then (serList e vs).flatten else serVarParts (serList e vs))
      = (if e.isFixed then (serList e ws).flatten else serVarParts (serList e ws))) :
    vs = ws := by
  have hparts : serList e vs = serList e ws ∧ (serList e vs).flatten.length < 2 ^ 32 := by
    cases hfx : e.isFixed
    · rw [hfx, if_neg Bool.false_ne_true] at hlt
      rw [hfx, if_neg Bool.false_ne_true, if_neg Bool.false_ne_true] at h
      refine ⟨serVarParts_inj _ _ hlt h, ?_⟩
      rw [serVarParts_length] at hlt
      exact Nat.lt_of_le_of_lt (Nat.le_add_left _ _) hlt
    · rw [hfx, if_pos rfl] at hlt
      rw [hfx, if_pos rfl, if_pos rfl] at h
      have hl := congrArg List.length h
      rw [serList_flatten_length_fixed hfx vs hv, serList_flatten_length_fixed hfx ws hws] at hl
      have hcount := Nat.eq_of_mul_eq_mul_right (fixedSize_pos e hw hfx) hl
      exact ⟨flatten_uniform_inj e.fixedSize _ _ (by rw [serList_length, serList_length, hcount])
        (serList_fixed_length hfx vs hv) (serList_fixed_length hfx ws hws) h, hlt⟩
  exact serList_inj he vs ws hv hws
    (fun l hl => Nat.lt_of_le_of_lt (mem_le_flatten_length _ l hl) hparts.2) hparts.1

/-! ### containers -/

/-- the first offset word of a fixed part with a variable-size field is the starting offset -/
theorem first_offset_eq : ∀ (fs : List Ty) (vs ws : List Val) (off off' : Nat),
    fieldsHaveType fs vs = true → fieldsHaveType fs ws = true → Ty.allFixed fs = false →
    serFixedPart off (serFields fs vs) = serFixedPart off' (serFields fs ws) →
    leBytes 4 off = leBytes 4 off' := by
  intro fs
  induction fs with
  | nil => intro _ _ _ _ _ _ hnf; cases hnf
  | cons t ts ih =>
    intro vs ws off off' hv hw
    obtain ⟨v, vs, rfl, hv1, hv2⟩ := fieldsHaveType_cons hv
    obtain ⟨w, ws, rfl, hw1, hw2⟩ := fieldsHaveType_cons hw
    rw [serFields, serFields, Ty.allFixed]
    cases hfx : t.isFixed
    · intro _ heq
      rw [serFixedPart, serFixedPart] at heq
      exact (List.append_inj heq (by rw [leBytes_length, leBytes_length])).1
    · intro hnf heq
      rw [serFixedPart, serFixedPart] at heq
      exact ih vs ws off off' hv2 hw2 hnf (List.append_inj heq (by
        rw [serialize_fixed_length v t hfx hv1, serialize_fixed_length w t hfx hw1])).2

/-- Fields of the same types with the same fixed part and the same variable part are equal:
    a fixed-size field is cut off by its known length, a variable-size one ends where the next
    offset says, or at the end of the payload if it is the last. -/
theorem fields_inj : ∀ (fs : List Ty) (vs ws : List Val) (off : Nat), (∀ t ∈ fs, SerInj t) →
    fieldsHaveType fs vs = true → fieldsHaveType fs ws = true →
    (∀ x ∈ serFields fs vs, x.2.length < 2 ^ 32) →
    off + (serVarPart (serFields fs vs)).length < 2 ^ 32 →
    serFixedPart off (serFields fs vs) = serFixedPart off (serFields fs ws) →
    serVarPart (serFields fs vs) = serVarPart (serFields fs ws) → vs = ws := by
  intro fs
  induction fs with
  | nil =>
    intro vs ws _ _ hv hw _ _ _ _
    rw [fieldsHaveType_nil hv, fieldsHaveType_nil hw]
  | cons t ts ih =>
    intro vs ws off hall hv hw
    obtain ⟨v, vs, rfl, hv1, hv2⟩ := fieldsHaveType_cons hv
    obtain ⟨w, ws, rfl, hw1, hw2⟩ := fieldsHaveType_cons hw
    have hhd := hall t List.mem_cons_self v w hv1 hw1
    have htl := fun o => ih vs ws o (fun x hx => hall x (List.mem_cons_of_mem _ hx)) hv2 hw2
    rw [serFields, serFields]
    cases hfx : t.isFixed
    · simp only [serFixedPart, serVarPart, List.length_append]
      intro hsz hlt hfix hvar
      have htail := List.append_cancel_left hfix
      have hlen : (serialize t v).length = (serialize t w).length := by
        cases haf : Ty.allFixed ts
        · have hl := congrArg List.length hvar
          rw [List.length_append, List.length_append] at hl
          exact Nat.add_left_cancel (leBytes_inj 4 _ _
            (Nat.lt_of_le_of_lt (Nat.add_le_add_left (Nat.le_add_right _ _) _) hlt)
            (Nat.lt_of_le_of_lt (Nat.add_le_add_left (Nat.le_add_right _ _) _) (hl ▸ hlt))
            (first_offset_eq ts vs ws _ _ hv2 hw2 haf htail))
        · rw [serVarPart_allFixed ts vs haf, serVarPart_allFixed ts ws haf, List.append_nil,
            List.append_nil] at hvar
          rw [hvar]
      obtain ⟨hs, hvar'⟩ := List.append_inj hvar hlen
      obtain rfl := hhd (hsz (false, serialize t v) List.mem_cons_self) hs
      rw [← Nat.add_assoc] at hlt
      rw [htl _ (fun x hx => hsz x (List.mem_cons_of_mem _ hx)) hlt htail hvar']
    · simp only [serFixedPart, serVarPart]
      intro hsz hlt hfix hvar
      obtain ⟨hs, htail⟩ := List.append_inj hfix (by
        rw [serialize_fixed_length v t hfx hv1, serialize_fixed_length w t hfx hw1])
      obtain rfl := hhd (hsz (true, serialize t v) List.mem_cons_self) hs
      rw [htl off (fun x hx => hsz x (List.mem_cons_of_mem _ hx)) hlt htail hvar]

theorem container_inj {fs : List Ty} (ih : ∀ t ∈ fs, SerInj t) : SerInj (.container fs) := by
  intro v w hv hws hlt h
  obtain ⟨vs, rfl, hv⟩ := hasType_container_elim hv
  obtain ⟨ws, rfl, hws⟩ := hasType_container_elim hws
  have hfp := fun (us : List Val) (hu : fieldsHaveType fs us = true) =>
    fixedPartLen_serFields fs us (fun v _ t => serialize_fixed_length v t) hu
  unfold serialize at h hlt
  rw [serContainerParts_length, hfp vs hv] at hlt
  rw [serContainerParts, serContainerParts, hfp vs hv, hfp ws hws] at h
  obtain ⟨hfix, hvar⟩ := List.append_inj h (by
    rw [serFixedPart_length, serFixedPart_length, hfp vs hv, hfp ws hws])
  refine congrArg Val.seq (fields_inj fs vs ws _ ih hv hws (fun x hx => ?_) hlt hfix hvar)
  have := part_le_serContainerParts _ x hx
  rw [hfp vs hv] at this
  exact Nat.lt_of_le_of_lt this hlt

/-! ### unions -/

/-- a typed union selector is below 128, so the selector byte determines it -/
theorem union_sel_lt {hn : Bool} {opts : List Ty} {sel : Nat} {x : Val}
    (hw : (Ty.union hn opts).wf = true)
    (hx : (∃ t, unionOpt hn opts sel = some t ∧ hasType t x = true) ∨
      (unionOpt hn opts sel = none ∧ sel = 0 ∧ x = .none)) : sel < 128 := by
  rcases hx with ⟨t, ho, _⟩ | ⟨_, rfl, _⟩
  · exact Nat.lt_of_lt_of_le (unionOpt_some ho).1 (of_decide_eq_true (Bool.and_eq_true_iff.mp hw).2)
  · decide

theorem union_inj {hn : Bool} {opts : List Ty} (hw : (Ty.union hn opts).wf = true)
    (ih : ∀ t ∈ opts, SerInj t) : SerInj (.union hn opts) := by
  intro v w hv hws hlt h
  obtain ⟨sel, x, rfl, hx⟩ := hasType_union_elim hv
  obtain ⟨sel', y, rfl, hy⟩ := hasType_union_elim hws
  unfold serialize at h hlt
  obtain ⟨hsel, h⟩ := List.cons.inj h
  have hss : sel = sel' := by
    have := congrArg UInt8.toNat hsel
    rwa [UInt8.toNat_ofNat', UInt8.toNat_ofNat',
      Nat.mod_eq_of_lt (Nat.lt_trans (union_sel_lt hw hx) (by decide)),
      Nat.mod_eq_of_lt (Nat.lt_trans (union_sel_lt hw hy) (by decide))] at this
  subst hss
  rcases hx with ⟨t, ho, hx⟩ | ⟨ho, _, rfl⟩
  · rcases hy with ⟨t', ho', hy⟩ | ⟨ho', _, _⟩
    · obtain rfl := Option.some.inj (ho.symm.trans ho')
      rw [ho] at h hlt
      rw [ih t (List.mem_of_getElem? (unionOpt_some ho).2.2) x y hx hy (Nat.lt_of_succ_lt hlt) h]
    · rw [ho] at ho'; cases ho'
  · rcases hy with ⟨t', ho', _⟩ | ⟨_, _, rfl⟩
    · rw [ho] at ho'; cases ho'
    · rfl

/-! ### all types -/

theorem bool_inj : SerInj .bool := by
  intro v w hv hws _ h
  obtain ⟨b, rfl⟩ := hasType_bool_elim hv
  obtain ⟨b', rfl⟩ := hasType_bool_elim hws
  cases b <;> cases b' <;> first | rfl | exact absurd (List.head_eq_of_cons_eq h) (by decide)

theorem serInj_all : ∀ (t : Ty), t.wf = true → SerInj t := by
  intro t
  induction t using Ty.induct with
  | uint b =>
    intro _ v w hv hws _ h
    obtain ⟨n, rfl, hn⟩ := hasType_uint_elim hv
    obtain ⟨m, rfl, hm⟩ := hasType_uint_elim hws
    exact congrArg Val.num (leBytes_inj b n m hn hm h)
  | bool => intro _; exact bool_inj
  | bytesN n =>
    intro _ v w hv hws _ h
    obtain ⟨bs, rfl, _⟩ := hasType_bytesN_elim hv
    obtain ⟨bs', rfl, _⟩ := hasType_bytesN_elim hws
    exact congrArg Val.bytes h
  | bitvector n =>
    intro _ v w hv hws _ h
    obtain ⟨bs, rfl, hl⟩ := hasType_bitvector_elim hv
    obtain ⟨bs', rfl, hl'⟩ := hasType_bitvector_elim hws
    exact congrArg Val.bits (packBits_inj_len (hl.trans hl'.symm) h)
  | bitlist n =>
    intro _ v w hv hws _ h
    obtain ⟨bs, rfl, _⟩ := hasType_bitlist_elim hv
    obtain ⟨bs', rfl, _⟩ := hasType_bitlist_elim hws
    exact congrArg Val.bits (packBits_delim_inj h)
  | vector e n ih =>
    intro hw v w hv hws hlt h
    have he := (Bool.and_eq_true_iff.mp hw).2
    obtain ⟨vs, rfl, _, hv⟩ := hasType_vector_elim hv
    obtain ⟨ws, rfl, _, hws⟩ := hasType_vector_elim hws
    exact congrArg Val.seq (series_inj (ih he) he vs ws hv hws hlt h)
  | list e n ih =>
    intro hw v w hv hws hlt h
    obtain ⟨vs, rfl, _, hv⟩ := hasType_list_elim hv
    obtain ⟨ws, rfl, _, hws⟩ := hasType_list_elim hws
    exact congrArg Val.seq (series_inj (ih hw) hw vs ws hv hws hlt h)
  | container fs ih =>
    intro hw
    exact container_inj fun t ht => ih t ht (wfAll_mem fs (Bool.and_eq_true_iff.mp hw).2 t ht)
  | union hn opts ih =>
    intro hw
    have hopts := (Bool.and_eq_true_iff.mp (Bool.and_eq_true_iff.mp hw).1).2
    exact union_inj hw fun t ht => ih t ht (wfAll_mem opts hopts t ht)

/-- `serialize` is injective on the typed values of a well-formed type whose encoding is
    shorter than 2^32 bytes -/
theorem serialize_injective (t : Ty) (v w : Val) (hwf : t.wf = true) (hv : hasType t v = true)
    (hw : hasType t w = true) (hlt : (serialize t v).length < 2 ^ 32)
    (h : serialize t v = serialize t w) : v = w :=
  serInj_all t hwf v w hv hw hlt h

end ZtypV
