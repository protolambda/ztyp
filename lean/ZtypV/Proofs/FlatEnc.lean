/-
C09, encoder half: `flatEncode`, the composition of the `codec.EncodingWriter` helpers by the recipe
of harness/flat.go, against the spec (`flatEncode_correct`).  First the helpers over abstract
`Serializable`s, then induction over the value.  Also the facts about `serialize` on series and
containers that the decoder proofs (FlatDec, FlatSound) use as well.
-/
import ZtypV.Proofs.Flat
import ZtypV.Proofs.SerSize
import ZtypV.Proofs.Bitfields
namespace ZtypV.FlatProofs
open ZtypV ZtypV.View ZtypV.Flat ZtypV.DecodeProofs

/-! ### generic facts about the encoder helpers (abstract `Serializable`s) -/

/-- the item writes `p` and reports its length -/
def SerOK (s : Ser) (p : Bytes) : Prop := s.run = .ok p ∧ s.byteLength = p.length

/-- the container field writes `p.2`, reports its length, and its `FixedLength()` agrees with
    the spec's fixed/variable flag `p.1` -/
def FieldOK (s : Ser) (p : Bool × Bytes) : Prop :=
  SerOK s p.2 ∧ s.fixedLength = (if p.1 = true then p.2.length else 0) ∧
    (p.1 = true → p.2.length ≠ 0)

theorem FieldOK.var {s : Ser} {bs : Bytes} (h : FieldOK s (false, bs)) : s.fixedLength = 0 := h.2.1

theorem FieldOK.fixed {s : Ser} {bs : Bytes} (h : FieldOK s (true, bs)) :
    s.fixedLength = bs.length ∧ s.fixedLength ≠ 0 :=
  ⟨h.2.1, fun hc => h.2.2 rfl (h.2.1.symm.trans hc)⟩

/-- pointwise relation between two lists (core has no `List.Forall₂`) -/
inductive EncAll₂ {α β : Type} (r : α → β → Prop) : List α → List β → Prop
  | nil : EncAll₂ r [] []
  | cons {a : α} {b : β} {as : List α} {bs : List β} : r a b → EncAll₂ r as bs → EncAll₂ r (a :: as) (b :: bs)

theorem EncAll₂.length_eq {α β : Type} {r : α → β → Prop} {as : List α} {bs : List β}
    (h : EncAll₂ r as bs) : as.length = bs.length := by
  induction h with
  | nil => rfl
  | cons _ _ ih => simp [ih]

theorem writeOffset_ok {prev size : Nat} (h : prev + size < 2 ^ 32) :
    writeOffset prev size = .ok (prev + size) := by
  unfold writeOffset
  rw [if_neg (by omega)]

theorem encItems_ok {items : List Ser} {ps : List Bytes} (h : EncAll₂ SerOK items ps) :
    encItems items = .ok ps.flatten := by
  induction h with
  | nil => rfl
  | cons h1 _ ih =>
    rw [encItems, h1.1, R.bind_ok, ih, R.bind_ok, List.flatten_cons]

/-- the offsets loop of `EncodingWriter.List`: the next offset is `prevOffset + prevSize` -/
theorem encOffsets_ok {items : List Ser} {ps : List Bytes} (h : EncAll₂ SerOK items ps) :
    ∀ (po psz : Nat), po + psz + ps.flatten.length < 2 ^ 32 →
      encOffsets po psz items = .ok (offsetsOf (po + psz) ps).flatten := by
  induction h with
  | nil => intro _ _ _; rfl
  | @cons s p its ps h1 _ ih =>
    intro po psz hb
    rw [List.flatten_cons, List.length_append, ← Nat.add_assoc, ← h1.2] at hb
    rw [encOffsets, writeOffset_ok (Nat.lt_of_le_of_lt (Nat.le_add_right _ _)
      (Nat.lt_of_le_of_lt (Nat.le_add_right _ _) hb)), R.bind_ok, ih (po + psz) s.byteLength hb,
      R.bind_ok, offsetsOf, List.flatten_cons, h1.2]

theorem encList_fixed_ok {items : List Ser} {ps : List Bytes} (h : EncAll₂ SerOK items ps)
    {fix : Nat} (hfix : fix ≠ 0) : encList items fix = .ok ps.flatten := by
  rw [encList, if_neg hfix, R.bind_ok, encItems_ok h]
  rfl

theorem encList_var_ok {items : List Ser} {ps : List Bytes} (h : EncAll₂ SerOK items ps)
    (hb : (serVarParts ps).length < 2 ^ 32) : encList items 0 = .ok (serVarParts ps) := by
  rw [serVarParts_length] at hb
  rw [encList, if_pos rfl, h.length_eq, encOffsets_ok h (4 * ps.length) 0 hb,
    R.bind_ok, encItems_ok h]
  rfl

theorem serFixedLen_eq {fields : List Ser} {parts : List (Bool × Bytes)}
    (h : EncAll₂ FieldOK fields parts) : serFixedLen fields = fixedPartLen parts := by
  induction h with
  | nil => rfl
  | @cons f p fs ps h1 _ ih =>
    obtain ⟨fx, bs⟩ := p
    cases fx
    · rw [serFixedLen, fixedPartLen, ih, if_neg (by simp [h1.var])]; rfl
    · have := h1.fixed
      rw [serFixedLen, fixedPartLen, ih, if_pos this.2, this.1]; rfl

/-- first loop of `EncodingWriter.Container`: invariant `prevOffset + prevSize = start` -/
theorem encContainerFixed_ok {fields : List Ser} {parts : List (Bool × Bytes)}
    (h : EncAll₂ FieldOK fields parts) :
    ∀ (po psz : Nat), po + psz + (serVarPart parts).length < 2 ^ 32 →
      encContainerFixed po psz fields = .ok (serFixedPart (po + psz) parts) := by
  induction h with
  | nil => intro _ _ _; rfl
  | @cons f p fs ps h1 _ ih =>
    intro po psz hb
    obtain ⟨fx, bs⟩ := p
    cases fx
    · rw [serVarPart, List.length_append, ← Nat.add_assoc, ← h1.1.2] at hb
      rw [encContainerFixed, if_neg (fun hc => hc h1.var), writeOffset_ok (Nat.lt_of_le_of_lt
        (Nat.le_add_right _ _) (Nat.lt_of_le_of_lt (Nat.le_add_right _ _) hb)), R.bind_ok,
        ih (po + psz) f.byteLength hb, R.bind_ok, serFixedPart, h1.1.2]
    · rw [serVarPart] at hb
      rw [encContainerFixed, if_pos h1.fixed.2, h1.1.1, R.bind_ok, ih po psz hb, R.bind_ok,
        serFixedPart]

theorem encContainerDyn_ok {fields : List Ser} {parts : List (Bool × Bytes)}
    (h : EncAll₂ FieldOK fields parts) : encContainerDyn fields = .ok (serVarPart parts) := by
  induction h with
  | nil => rfl
  | @cons f p fs ps h1 _ ih =>
    obtain ⟨fx, bs⟩ := p
    cases fx
    · rw [encContainerDyn, if_pos (h1.var), h1.1.1, R.bind_ok, ih, R.bind_ok, serVarPart]
    · rw [encContainerDyn, if_neg (h1.fixed).2, ih, serVarPart]

theorem serVarPart_of_all {fields : List Ser} {parts : List (Bool × Bytes)}
    (h : EncAll₂ FieldOK fields parts)
    (hall : fields.all (fun f => f.fixedLength ≠ 0) = true) : serVarPart parts = [] := by
  induction h with
  | nil => rfl
  | @cons f p fs ps h1 _ ih =>
    obtain ⟨fx, bs⟩ := p
    rw [List.all_cons, Bool.and_eq_true] at hall
    cases fx
    · have h0 : f.fixedLength = 0 := h1.var
      simp [h0] at hall
    · rw [serVarPart]; exact ih hall.2

theorem encContainer_ok {fields : List Ser} {parts : List (Bool × Bytes)}
    (h : EncAll₂ FieldOK fields parts) (hb : (serContainerParts parts).length < 2 ^ 32) :
    encContainer fields = .ok (serContainerParts parts) := by
  rw [serContainerParts_length] at hb
  rw [encContainer, serFixedLen_eq h,
    encContainerFixed_ok h (fixedPartLen parts) 0 hb, R.bind_ok, Nat.add_zero]
  by_cases hall : fields.all (fun f => f.fixedLength ≠ 0) = true
  · rw [if_pos hall, R.bind_ok, serContainerParts, serVarPart_of_all h hall]
  · rw [if_neg hall, encContainerDyn_ok h, R.bind_ok, serContainerParts]

/-- `FixedLenContainer`: all fields fixed-size -/
theorem encItems_fields_ok {fields : List Ser} {parts : List (Bool × Bytes)}
    (h : EncAll₂ FieldOK fields parts) (hfx : ∀ x ∈ parts, x.1 = true) :
    ∀ off, encItems fields = .ok (serFixedPart off parts) := by
  induction h with
  | nil => intro _; rfl
  | @cons f p fs ps h1 _ ih =>
    intro off
    obtain ⟨fx, bs⟩ := p
    have : fx = true := hfx (fx, bs) List.mem_cons_self
    subst this
    rw [encItems, h1.1.1, R.bind_ok, ih (fun x hx => hfx x (List.mem_cons_of_mem _ hx)) off,
      R.bind_ok, serFixedPart]

/-- `codec.ContainerLength` -/
theorem containerLength_eq {fields : List Ser} {parts : List (Bool × Bytes)}
    (h : EncAll₂ FieldOK fields parts) :
    containerLength fields = fixedPartLen parts + (serVarPart parts).length := by
  induction h with
  | nil => rfl
  | @cons f p fs ps h1 _ ih =>
    obtain ⟨fx, bs⟩ := p
    cases fx
    · rw [containerLength, if_pos (h1.var), ih, h1.1.2, fixedPartLen, serVarPart,
        List.length_append]
      simp only [Bool.false_eq_true, if_false]
      omega
    · have := h1.fixed
      rw [containerLength, if_neg this.2, ih, this.1, fixedPartLen, serVarPart]
      simp only [if_true]
      omega

/-- `codec.Sum` over fixed-size fields -/
theorem sumLength_eq {fields : List Ser} {parts : List (Bool × Bytes)}
    (h : EncAll₂ FieldOK fields parts) (hfx : ∀ x ∈ parts, x.1 = true) :
    sumLength fields = fixedPartLen parts := by
  induction h with
  | nil => rfl
  | @cons f p fs ps h1 _ ih =>
    obtain ⟨fx, bs⟩ := p
    have : fx = true := hfx (fx, bs) List.mem_cons_self
    subst this
    rw [sumLength, ih (fun x hx => hfx x (List.mem_cons_of_mem _ hx)), h1.1.2, fixedPartLen]
    simp only [if_true]

/-! ### spec side: what the encoder and the decoder proofs use about `serialize` and the types -/

/-- the flat `FixedLength()` of a type against the encoding of one of its values -/
theorem flatFixedLength_part {t : Ty} {v : Val} (hw : t.wf = true) (hv : hasType t v = true) :
    flatFixedLength t = (if t.isFixed = true then (serialize t v).length else 0) ∧
      (t.isFixed = true → (serialize t v).length ≠ 0) := by
  cases hf : t.isFixed with
  | true =>
    rw [flatFixedLength_fixed hw hf, serialize_fixed_length v t hf hv]
    exact ⟨rfl, fun _ => Nat.pos_iff_ne_zero.mp (fixedSize_pos _ hw hf)⟩
  | false => exact ⟨flatFixedLength_var hw hf, fun h => nomatch h⟩

theorem enc_serFields_flags : ∀ (fs : List Ty) (vs : List Val), Ty.allFixed fs = true →
    ∀ x ∈ serFields fs vs, x.1 = true := by
  intro fs
  induction fs with
  | nil => intro vs _ x hx; cases vs <;> cases hx
  | cons t ts ih =>
    intro vs h x hx
    cases vs with
    | nil => cases hx
    | cons v vs =>
      rw [Ty.allFixed, Bool.and_eq_true] at h
      rw [serFields] at hx
      rcases List.mem_cons.mp hx with rfl | hx
      · exact h.1
      · exact ih vs h.2 x hx

theorem enc_fields_lt {fs : List Ty} {vs : List Val} {n : Nat}
    (hlen : (serContainerParts (serFields fs vs)).length < n) :
    ∀ x ∈ serFields fs vs, x.2.length < n := by
  intro x hx
  have := part_le_serContainerParts _ x hx
  rw [serContainerParts_length] at hlen
  omega

theorem enc_serialize_mem_serList (e : Ty) : ∀ (vs : List Val) (v : Val), v ∈ vs →
    serialize e v ∈ serList e vs := by
  intro vs
  induction vs with
  | nil => intro v hv; cases hv
  | cons a vs ih =>
    intro v hv
    rw [serList]
    rcases List.mem_cons.mp hv with rfl | hv
    · exact List.mem_cons_self
    · exact List.mem_cons_of_mem _ (ih v hv)

theorem enc_series_lt {e : Ty} {vs : List Val} {n : Nat}
    (hlt : (if e.isFixed = true then (serList e vs).flatten else serVarParts (serList e vs)).length < n) :
    ∀ v ∈ vs, (serialize e v).length < n := by
  intro v hv
  have h1 := mem_le_flatten_length _ _ (enc_serialize_mem_serList e vs v hv)
  split at hlt
  · omega
  · rw [serVarParts_length] at hlt; omega

theorem enc_chunkOf_eq_self {bs : Bytes} (h : bs.length = 32) : chunkOf bs = bs := by
  rw [chunkOf_of_ge bs (by omega), List.take_of_length_le (by omega)]

/-! The `[]byte` route (`uint8` elements) and the `[]tree.Root` route (`Bytes32` elements): the
bytes / roots read are a well-typed series that encodes to them, and every well-typed series of
these element types arises so. -/

theorem u8_series : ∀ (bs : Bytes), allHaveType (.uint 1) (bs.map numOfByte) = true ∧
    (serList (.uint 1) (bs.map numOfByte)).flatten = bs
  | [] => by simp [allHaveType, serList]
  | b :: bs => by
    obtain ⟨h1, h2⟩ := u8_series bs
    have hb : b.toNat < 256 := UInt8.toNat_lt b
    refine ⟨?_, ?_⟩
    · simp only [List.map_cons, allHaveType, h1, Bool.and_true, numOfByte]
      unfold hasType
      exact decide_eq_true (by omega)
    · simp only [List.map_cons, serList, List.flatten_cons, h2, numOfByte]
      unfold serialize
      simp only [leBytes, Nat.mod_eq_of_lt hb, UInt8.ofNat_toNat]
      rfl

theorem root_series : ∀ (rs : List Bytes), (∀ r ∈ rs, r.length = 32) →
    allHaveType (.bytesN 32) (rs.map Val.bytes) = true ∧
    (serList (.bytesN 32) (rs.map Val.bytes)).flatten = rs.flatten
  | [], _ => ⟨rfl, rfl⟩
  | r :: rs, h => by
    obtain ⟨h1, h2⟩ := root_series rs (List.forall_mem_cons.mp h).2
    have hr := (List.forall_mem_cons.mp h).1
    refine ⟨?_, ?_⟩
    · simp only [List.map_cons, allHaveType, h1, Bool.and_true]
      unfold hasType
      rw [hr]; rfl
    · simp only [List.map_cons, serList, List.flatten_cons, h2]
      unfold serialize
      rfl

theorem enc_u8_series (vs : List Val) (h : allHaveType (.uint 1) vs = true) :
    (serList (.uint 1) vs).flatten = vs.map byteOfVal ∧ (vs.map byteOfVal).map numOfByte = vs := by
  have h2 : (vs.map byteOfVal).map numOfByte = vs := by
    induction vs with
    | nil => rfl
    | cons v vs ih =>
      simp only [allHaveType, Bool.and_eq_true] at h
      cases v <;> simp [hasType] at h
      rename_i n
      have hn : n < 256 := h.1
      rw [List.map_cons, List.map_cons, ih h.2, byteOfVal, numOfByte, UInt8.toNat_ofNat',
        Nat.mod_eq_of_lt hn]
  exact ⟨by conv => lhs; rw [← h2, (u8_series _).2], h2⟩

/-- 32-byte strings are what `copy` into a root leaves as they are -/
theorem enc_root_series : ∀ (vs : List Val), allHaveType (.bytesN 32) vs = true →
    ∃ rs : List Bytes, vs = rs.map Val.bytes ∧ (∀ r ∈ rs, r.length = 32) ∧
      (serList (.bytesN 32) vs).flatten = rs.flatten ∧ vs.map rootOfVal = rs := by
  intro vs
  induction vs with
  | nil => exact fun _ => ⟨[], rfl, (fun r hr => nomatch hr), rfl, rfl⟩
  | cons v vs ih =>
    intro h
    simp only [allHaveType, Bool.and_eq_true] at h
    obtain ⟨rs, rfl, h2, _, h4⟩ := ih h.2
    cases v <;> simp [hasType] at h
    rename_i bs
    have h32 : ∀ r ∈ bs :: rs, r.length = 32 := List.forall_mem_cons.mpr ⟨h.1, h2⟩
    exact ⟨bs :: rs, rfl, h32, (root_series _ h32).2,
      by rw [List.map_cons, h4, rootOfVal, bytesOfVal, enc_chunkOf_eq_self h.1]⟩

/-! ### induction over the value -/

/-- `flatEncode_correct` for one type/value pair -/
def EncOK (t : Ty) (v : Val) : Prop :=
  flatEncode t v = .ok (serialize t v) ∧ flatByteLength t v = (serialize t v).length

/-- induction predicate over values -/
def EncGood (v : Val) : Prop :=
  ∀ t : Ty, t.wf = true → hasType t v = true → (serialize t v).length < 2 ^ 32 → EncOK t v

theorem flatSumLength_eq : ∀ (fs : List Ty) (vs : List Val),
    flatSumLength fs vs = sumLength (flatFieldSers fs vs) := by
  intro fs
  induction fs with
  | nil => intro vs; cases vs <;> simp [flatSumLength, flatFieldSers, sumLength]
  | cons t ts ih =>
    intro vs
    cases vs with
    | nil => simp [flatSumLength, flatFieldSers, sumLength]
    | cons v vs => rw [flatSumLength, flatFieldSers, sumLength, ih vs]

theorem flatContainerLength_eq : ∀ (fs : List Ty) (vs : List Val),
    flatContainerLength fs vs = containerLength (flatFieldSers fs vs) := by
  intro fs
  induction fs with
  | nil => intro vs; cases vs <;> simp [flatContainerLength, flatFieldSers, containerLength]
  | cons t ts ih =>
    intro vs
    cases vs with
    | nil => simp [flatContainerLength, flatFieldSers, containerLength]
    | cons v vs => rw [flatContainerLength, flatFieldSers, containerLength, ih vs]

theorem flatSers_ok (e : Ty) : ∀ (vs : List Val), (∀ v ∈ vs, EncOK e v) →
    EncAll₂ SerOK (flatSers e vs) (serList e vs) := by
  intro vs
  induction vs with
  | nil => intro _; rw [flatSers, serList]; exact .nil
  | cons v vs ih =>
    intro h
    rw [flatSers, serList]
    exact .cons (h v List.mem_cons_self) (ih (List.forall_mem_cons.mp h).2)

theorem flatVarLength_eq (e : Ty) : ∀ (vs : List Val), (∀ v ∈ vs, EncOK e v) →
    flatVarLength e vs = 4 * vs.length + (serList e vs).flatten.length := by
  intro vs
  induction vs with
  | nil => intro _; rw [flatVarLength, serList]; rfl
  | cons v vs ih =>
    intro h
    rw [flatVarLength, serList, List.flatten_cons, List.length_append, List.length_cons,
      ih (List.forall_mem_cons.mp h).2, (h v List.mem_cons_self).2]
    omega

theorem flatFieldSers_ok : ∀ (fs : List Ty) (vs : List Val), Ty.wfAll fs = true →
    fieldsHaveType fs vs = true → (∀ v ∈ vs, EncGood v) →
    (∀ x ∈ serFields fs vs, x.2.length < 2 ^ 32) →
    EncAll₂ FieldOK (flatFieldSers fs vs) (serFields fs vs) := by
  intro fs
  induction fs with
  | nil =>
    intro vs _ ht _ _
    cases vs with
    | nil => simp only [flatFieldSers, serFields]; exact .nil
    | cons v vs => simp [fieldsHaveType] at ht
  | cons t ts ih =>
    intro vs hw ht hg hb
    cases vs with
    | nil => simp [fieldsHaveType] at ht
    | cons v vs =>
      rw [fieldsHaveType, Bool.and_eq_true] at ht
      rw [Ty.wfAll, Bool.and_eq_true] at hw
      rw [serFields] at hb
      obtain ⟨hb1, hb⟩ := List.forall_mem_cons.mp hb
      obtain ⟨hg1, hg⟩ := List.forall_mem_cons.mp hg
      rw [flatFieldSers, serFields]
      exact .cons ⟨hg1 t hw.1 ht.1 hb1, flatFixedLength_part hw.1 ht.1⟩ (ih vs hw.2 ht.2 hg hb)

/-- lists (and vectors, which `flatEncode` treats alike): the three routes of harness/flat.go
    against the spec's series layout -/
theorem enc_list_ok (e : Ty) (lim : Nat) (vs : List Val) (hwe : e.wf = true)
    (hall : allHaveType e vs = true) (ih : ∀ v ∈ vs, EncGood v)
    (hb : (serialize (.list e lim) (.seq vs)).length < 2 ^ 32) : EncOK (.list e lim) (.seq vs) := by
  simp only [EncOK, flatEncode, flatByteLength, serialize] at hb ⊢
  by_cases h8 : isU8 e = true
  · rw [if_pos h8, if_pos h8]
    obtain rfl := isU8_iff.mp h8
    have hfx : (Ty.uint 1).isFixed = true := rfl
    rw [if_pos hfx, (enc_u8_series vs hall).1]
    exact ⟨rfl, (List.length_map _).symm⟩
  rw [if_neg h8, if_neg h8]
  by_cases hr : isRootTy e = true
  · rw [if_pos hr, if_pos hr]
    obtain rfl := isRootTy_iff.mp hr
    obtain ⟨rs, h1, h2, h3, h4⟩ := enc_root_series vs hall
    have hfx : (Ty.bytesN 32).isFixed = true := rfl
    rw [if_pos hfx, writeRoots, h4, h3, flatten_uniform_length 32 rs h2, h1, List.length_map]
    exact ⟨rfl, rfl⟩
  rw [if_neg hr, if_neg hr]
  have hok : ∀ v ∈ vs, EncOK e v := fun v hv =>
    ih v hv e hwe (allHaveType_mem e vs hall v hv) (enc_series_lt hb v hv)
  have hS := flatSers_ok e vs hok
  by_cases hf : e.isFixed = true
  · rw [if_pos hf] at hb ⊢
    have hfix : flatFixedLength e ≠ 0 := (flatFixedLength_ne_zero_iff hwe).mpr hf
    rw [if_pos hfix, encList_fixed_ok hS hfix, flatFixedLength_fixed hwe hf,
      flatten_uniform_length e.fixedSize (serList e vs), serList_length]
    · exact ⟨rfl, rfl⟩
    · intro l hl
      obtain ⟨w, hw, rfl⟩ := mem_serList e vs l hl
      exact serialize_fixed_length w e hf (allHaveType_mem e vs hall w hw)
  · rw [if_neg hf] at hb ⊢
    have h0 : flatFixedLength e = 0 := flatFixedLength_var hwe ((Bool.not_eq_true _).mp hf)
    rw [h0, if_neg (fun hc => hc rfl), encList_var_ok hS hb, flatVarLength_eq e vs hok, serVarParts_length,
      serList_length]
    exact ⟨rfl, rfl⟩

theorem flatEncode_union {hn : Bool} {opts : List Ty} {sel : Nat} {v : Val} {t' : Ty}
    (hne : v ≠ Val.none) (ho : unionOpt hn opts sel = some t') :
    flatEncode (.union hn opts) (.union sel v) = encUnion (UInt8.ofNat sel)
      (some ⟨flatEncode t' v, flatByteLength t' v, flatFixedLength t'⟩) := by
  rw [flatEncode, ho]
  exact hne

theorem flatByteLength_union {hn : Bool} {opts : List Ty} {sel : Nat} {v : Val} {t' : Ty}
    (hne : v ≠ Val.none) (ho : unionOpt hn opts sel = some t') :
    flatByteLength (.union hn opts) (.union sel v) = 1 + flatByteLength t' v := by
  rw [flatByteLength, ho]
  exact hne

theorem enc_container_ok (fs : List Ty) (vs : List Val) (hw : Ty.wfAll fs = true)
    (ht : fieldsHaveType fs vs = true) (ih : ∀ v ∈ vs, EncGood v)
    (hlen : (serialize (.container fs) (.seq vs)).length < 2 ^ 32) :
    EncOK (.container fs) (.seq vs) := by
  simp only [EncOK, flatEncode, flatByteLength, serialize] at hlen ⊢
  have hF := flatFieldSers_ok fs vs hw ht ih (enc_fields_lt hlen)
  by_cases hall : Ty.allFixed fs = true
  · have hfl := enc_serFields_flags fs vs hall
    rw [if_pos hall, if_pos hall, encFixedLenContainer,
      encItems_fields_ok hF hfl (fixedPartLen (serFields fs vs)), flatSumLength_eq,
      sumLength_eq hF hfl, serContainerParts_length, serContainerParts,
      serVarPart_allFixed fs vs hall, List.append_nil]
    exact ⟨rfl, rfl⟩
  · rw [if_neg hall, if_neg hall, encContainer_ok hF hlen, flatContainerLength_eq,
      containerLength_eq hF, serContainerParts_length]
    exact ⟨rfl, rfl⟩

theorem encGood_num (n : Nat) : EncGood (.num n) := by
  intro t hw ht hlen
  cases t <;> try cases ht
  exact ⟨rfl, (leBytes_length _ _).symm⟩

theorem encGood_bool (b : Bool) : EncGood (.bool b) := by
  intro t hw ht hlen
  cases t <;> try cases ht
  exact ⟨rfl, rfl⟩

theorem encGood_bytes (bs : Bytes) : EncGood (.bytes bs) := by
  intro t hw ht hlen
  cases t <;> try cases ht
  rename_i k
  simp only [hasType, beq_iff_eq] at ht
  refine ⟨?_, ht.symm⟩
  rw [flatEncode, serialize]
  split
  · rw [enc_chunkOf_eq_self (by omega)]
  · rfl

theorem encGood_bits (bs : List Bool) : EncGood (.bits bs) := by
  intro t hw ht hlen
  cases t <;> try cases ht
  · simp only [hasType, beq_iff_eq] at ht
    subst ht
    simp only [Ty.wf, decide_eq_true_eq] at hw
    simp only [EncOK, flatEncode, flatByteLength, serialize, encBitVector, packBits_length]
    rw [if_neg (Nat.pos_iff_ne_zero.mp (Nat.div_pos (Nat.add_le_add_right hw 7) (by decide)))]
    exact ⟨rfl, trivial⟩
  · obtain ⟨h1, h2, _⟩ := ZtypV.Bitfields.bitlist_shape bs
    simp only [EncOK, flatEncode, flatByteLength, serialize, encBitList]
    rw [if_neg fun hc => hc.elim (fun hc => Nat.succ_ne_zero _ (h1.symm.trans hc)) h2]
    exact ⟨rfl, trivial⟩

theorem encGood_seq (vs : List Val) (ih : ∀ v ∈ vs, EncGood v) : EncGood (.seq vs) := by
  intro t hw ht hlen
  cases t <;> try cases ht
  · rename_i e k
    simp only [hasType, Bool.and_eq_true, beq_iff_eq] at ht
    simp only [Ty.wf, Bool.and_eq_true] at hw
    have := enc_list_ok e 0 vs hw.2 ht.2 ih (by simpa only [serialize] using hlen)
    simp only [EncOK, flatEncode, flatByteLength, serialize, ← ht.1] at this ⊢
    exact this
  · rename_i e lim
    simp only [hasType, Bool.and_eq_true] at ht
    exact enc_list_ok e lim vs (by simpa only [Ty.wf] using hw) ht.2 ih hlen
  · rename_i fs
    simp only [Ty.wf, Bool.and_eq_true] at hw
    exact enc_container_ok fs vs hw.2 (by simpa only [hasType] using ht) ih hlen

theorem encGood_union (sel : Nat) (v : Val) (ih : EncGood v) : EncGood (.union sel v) := by
  intro t hw ht hlen
  cases t <;> try cases ht
  rename_i hn opts
  simp only [Ty.wf, Bool.and_eq_true] at hw
  simp only [hasType] at ht
  simp only [serialize] at hlen
  unfold EncOK
  simp only [serialize]
  cases ho : unionOpt hn opts sel with
  | none =>
    simp only [ho, Bool.and_eq_true, beq_iff_eq] at ht
    obtain ⟨⟨rfl, rfl⟩, hv⟩ := ht
    obtain rfl : v = Val.none := by cases v <;> first | rfl | cases hv
    exact ⟨rfl, rfl⟩
  | some t' =>
    simp only [ho, List.length_cons] at ht hlen
    have hne : v ≠ Val.none := by
      rintro rfl
      rw [hasType_none] at ht
      cases ht
    have hok := ih t' (wfAll_mem opts hw.1.2 t' (unionOpt_mem ho)) ht (Nat.lt_of_succ_lt hlen)
    rw [flatEncode_union hne ho, flatByteLength_union hne ho, encUnion, hok.1, hok.2]
    exact ⟨rfl, Nat.add_comm _ _⟩

theorem encGood_all : ∀ v : Val, EncGood v := by
  intro v
  induction v using Val.induct with
  | num n => exact encGood_num n
  | bool b => exact encGood_bool b
  | bytes bs => exact encGood_bytes bs
  | bits bs => exact encGood_bits bs
  | seq vs ih => exact encGood_seq vs ih
  | none => exact fun t _ ht _ => by rw [hasType_none] at ht; cases ht
  | union sel v ih => exact encGood_union sel v ih

/-- C09 (encoder): for every well-formed type and well-typed value whose spec encoding is shorter
    than 2^32 bytes, the flat encoder composition writes exactly the SSZ spec bytes (no error, no
    `WriteOffset` panic) and `ByteLength()` is the encoded length. -/
theorem flatEncode_correct (t : Ty) (v : Val) (hw : t.wf = true) (hv : hasType t v = true)
    (hlen : (serialize t v).length < 2 ^ 32) :
    flatEncode t v = .ok (serialize t v) ∧ flatByteLength t v = (serialize t v).length :=
  encGood_all v t hw hv hlen

/-! ### the example value of Props/C09 and Props/C10 meets the hypotheses -/

theorem Ex.typed : Ex.T.wf = true ∧ hasType Ex.T Ex.V = true ∧ (serialize Ex.T Ex.V).length < 2 ^ 32 := by
  decide +kernel

theorem Ex.serialize_eq : serialize Ex.T Ex.V = Ex.enc := by decide +kernel

#print axioms ZtypV.FlatProofs.flatEncode_correct

end ZtypV.FlatProofs
