/-
The constructor route: `construct` succeeds on every typed value of a well-formed type (no side
condition on limits; also for `Vector/List` of `boolean`) and what it builds is a `Rep` backing
of the value (`constructRep_all`).
-/
import ZtypV.Proofs.Shape
import ZtypV.Proofs.ViewSer
namespace ZtypV
open View

/-! ### packed bottom nodes -/

theorem packedNodes_length (bs : Bytes) : (packedNodes bs).length = (bs.length + 31) / 32 := by
  simp [packedNodes, bytesIntoNodes]

theorem packedNodes_getElem (bs : Bytes) (i : Nat) (hi : i < (packedNodes bs).length) :
    (packedNodes bs)[i] = .leaf (chunkOf (bs.drop (32 * i))) := by
  simp only [packedNodes, bytesIntoNodes, List.getElem_map, chunks_getElem]

/-! ### `RepList` / `RepFields` are `Rep` position by position -/

namespace RepMut

theorem repList_iff (h : HashFn) (e : Ty) : ∀ (vs : List Val) (xs : List Node),
    RepList h e vs xs ↔ xs.length = vs.length ∧
      ∀ i (h1 : i < vs.length) (h2 : i < xs.length), Rep h e vs[i] xs[i] := by
  intro vs
  induction vs with
  | nil => intro xs; cases xs <;> simp [RepList]
  | cons v vs ih =>
    intro xs
    cases xs with
    | nil => simp [RepList]
    | cons x xs =>
      simp only [RepList, ih xs, List.length_cons, Nat.add_right_cancel_iff]
      constructor
      · rintro ⟨h0, hl, hr⟩
        refine ⟨hl, fun i h1 h2 => ?_⟩
        cases i with
        | zero => exact h0
        | succ i => exact hr i (by simpa using h1) (by simpa using h2)
      · rintro ⟨hl, hr⟩
        exact ⟨hr 0 (by simp) (by simp), hl, fun i h1 h2 => hr (i + 1) (by simpa) (by simpa)⟩

theorem repList_length (h : HashFn) (e : Ty) (vs : List Val) (xs : List Node)
    (hr : RepList h e vs xs) : xs.length = vs.length :=
  ((repList_iff h e vs xs).mp hr).1

theorem repList_get (h : HashFn) (e : Ty) (vs : List Val) (xs : List Node)
    (hr : RepList h e vs xs) (i : Nat) (h1 : i < vs.length) (h2 : i < xs.length) :
    Rep h e vs[i] xs[i] :=
  ((repList_iff h e vs xs).mp hr).2 i h1 h2

theorem repFields_iff (h : HashFn) : ∀ (fs : List Ty) (vs : List Val) (xs : List Node),
    RepFields h fs vs xs ↔ vs.length = fs.length ∧ xs.length = fs.length ∧
      ∀ i (h0 : i < fs.length) (h1 : i < vs.length) (h2 : i < xs.length),
        Rep h fs[i] vs[i] xs[i] := by
  intro fs
  induction fs with
  | nil => intro vs xs; cases vs <;> cases xs <;> simp [RepFields]
  | cons t ts ih =>
    intro vs xs
    cases vs with
    | nil => simp [RepFields]
    | cons v vs =>
      cases xs with
      | nil => simp [RepFields]
      | cons x xs =>
        simp only [RepFields, ih vs xs, List.length_cons, Nat.add_right_cancel_iff]
        constructor
        · rintro ⟨h0, hv, hl, hr⟩
          refine ⟨hv, hl, fun i h0' h1 h2 => ?_⟩
          cases i with
          | zero => exact h0
          | succ i => exact hr i (by simpa using h0') (by simpa using h1) (by simpa using h2)
        · rintro ⟨hv, hl, hr⟩
          exact ⟨hr 0 (by simp) (by simp) (by simp), hv, hl,
            fun i h0 h1 h2 => hr (i + 1) (by simpa) (by simpa) (by simpa)⟩

theorem repFields_length (h : HashFn) (fs : List Ty) (vs : List Val) (xs : List Node)
    (hr : RepFields h fs vs xs) : vs.length = fs.length ∧ xs.length = fs.length :=
  let ⟨hv, hl, _⟩ := (repFields_iff h fs vs xs).mp hr
  ⟨hv, hl⟩

theorem repFields_get (h : HashFn) (fs : List Ty) (vs : List Val) (xs : List Node)
    (hr : RepFields h fs vs xs) (i : Nat) (h0 : i < fs.length) (h1 : i < vs.length)
    (h2 : i < xs.length) : Rep h fs[i] vs[i] xs[i] :=
  ((repFields_iff h fs vs xs).mp hr).2.2 i h0 h1 h2

end RepMut
open RepMut

theorem rep_union_some {h : HashFn} {hasNone : Bool} {opts : List Ty} {sel : Nat} {v : Val}
    {t : Ty} {n : Node} (ho : unionOpt hasNone opts sel = some t) (hvn : v ≠ .none) :
    Rep h (.union hasNone opts) (.union sel v) n ↔
      ∃ c, Rep h t v c ∧ n = .pair c (.leaf (chunkOf [UInt8.ofNat sel])) := by
  rw [Rep.eq_10 h n hasNone opts sel v (fun hv => hvn hv)]
  simp only [ho]

theorem rep_union_none {h : HashFn} {hasNone : Bool} {opts : List Ty} {sel : Nat} {n : Node} :
    Rep h (.union hasNone opts) (.union sel .none) n ↔
      (hasNone = true ∧ sel = 0 ∧ n = .pair (.leaf z0) (.leaf (chunkOf [UInt8.ofNat sel]))) := by
  simp only [Rep]

/-! ### the constructor route succeeds with a `Rep` backing -/

theorem constructList_rep (h : HashFn) (e : Ty) : ∀ (vs : List Val),
    (∀ v ∈ vs, ∃ n, construct h e v = .ok n ∧ Rep h e v n) →
    ∃ ns, constructList h e vs = .ok ns ∧ RepList h e vs ns
  | [], _ => ⟨[], by simp only [constructList], by simp only [RepList]⟩
  | v :: vs, ih => by
    obtain ⟨n, hn, hr⟩ := ih v List.mem_cons_self
    obtain ⟨ns, hns, hrs⟩ := constructList_rep h e vs (fun w hw => ih w (List.mem_cons_of_mem _ hw))
    exact ⟨n :: ns, by simp only [constructList, hn, hns, R.bind_ok],
      by simp only [RepList]; exact ⟨hr, hrs⟩⟩

theorem constructFields_rep (h : HashFn) : ∀ (fs : List Ty) (vs : List Val),
    fs.length = vs.length →
    (∀ j (h1 : j < fs.length) (h2 : j < vs.length),
      ∃ n, construct h fs[j] vs[j] = .ok n ∧ Rep h fs[j] vs[j] n) →
    ∃ ns, constructFields h fs vs = .ok ns ∧ RepFields h fs vs ns
  | [], [], _, _ => ⟨[], by simp only [constructFields], by simp only [RepFields]⟩
  | t :: ts, v :: vs, hl, ih => by
    obtain ⟨n, hn, hr⟩ := ih 0 (by simp) (by simp)
    obtain ⟨ns, hns, hrs⟩ := constructFields_rep h ts vs (by simpa using hl)
      (fun j h1 h2 => ih (j + 1) (by simp; omega) (by simp; omega))
    simp only [List.getElem_cons_zero] at hn hr
    exact ⟨n :: ns, by simp only [constructFields, hn, hns, R.bind_ok],
      by simp only [RepFields]; exact ⟨hr, hrs⟩⟩
  | [], _ :: _, hl, _ => by simp at hl
  | _ :: _, [], hl, _ => by simp at hl

theorem packed_fill (h : HashFn) (d : Nat) (bs : Bytes) (hfit : (bs.length + 31) / 32 ≤ 2 ^ d) :
    ∃ n, fillToContents h d (bytesIntoNodes bs) = .ok n ∧ SeqShape h d n (packedNodes bs) := by
  obtain ⟨n, hn⟩ := fill_ok_of_length h d (bytesIntoNodes bs) (by simpa [bytesIntoNodes] using hfit)
  exact ⟨n, hn, fill_shape h hn⟩

theorem constructRep_all (h : HashFn) : ∀ t v, t.wf = true → hasType t v = true →
    ∃ n, construct h t v = .ok n ∧ Rep h t v n := by
  refine typed_induct ?uint ?bool ?bytesN ?bitvector ?bitlist ?vector ?list ?container
    ?unionNone ?unionSome
  case uint => intro b k _ _; exact ⟨_, by simp only [construct]; rfl, by simp only [Rep]⟩
  case bool => intro b; exact ⟨_, by simp only [construct]; rfl, by simp only [Rep]⟩
  case bytesN => intro k bs _ _ _; exact ⟨_, by simp only [construct]; rfl, by simp only [Rep]⟩
  case bitvector =>
    intro k bs ht
    obtain ⟨n, hn, hs⟩ := packed_fill h (bitDepth k) (packBits bs)
      (by rw [packBits_length]; exact bits_fit _ k (Nat.le_of_eq ht))
    refine ⟨n, ?_, by simp only [Rep]; exact ⟨ht, hs⟩⟩
    simp only [construct, bitsToBytes]
    rw [if_neg (by omega), hn]; rfl
  case bitlist =>
    intro lim bs ht
    obtain ⟨n, hn, hs⟩ := packed_fill h (bitDepth lim) (packBits bs)
      (by rw [packBits_length]; exact bits_fit _ lim ht)
    refine ⟨.pair n (lengthNode bs.length), ?_, by simp only [Rep]; exact ⟨ht, n, rfl, hs⟩⟩
    simp only [construct, bitsToBytes]
    rw [if_neg (by omega), hn]; rfl
  case vector =>
    intro e k vs _ hwe hlen hall ih
    cases hb : isBasicElem e
    · obtain ⟨ns, hns, hrl⟩ := constructList_rep h e vs ih
      have hl := repList_length _ _ _ _ hrl
      have hp := le_two_pow_coverDepth k
      obtain ⟨n, hn⟩ := fill_ok_of_length h (coverDepth k) ns (by omega)
      refine ⟨n, ?_, ?_⟩
      · simp only [construct, hb, Bool.false_eq_true, if_false]
        rw [if_neg (by omega), hns, R.bind_ok, hn]; rfl
      · simp only [Rep, hb, Bool.false_eq_true, if_false]
        exact ⟨hlen, ns, hrl, fill_shape h hn⟩
    · obtain ⟨b, rfl⟩ := isBasicElem_uint hb
      obtain ⟨n, hn, hs⟩ := packed_fill h (seriesDepth (.uint b) k) (serList (.uint b) vs).flatten
        (by rw [basic_flatten_length b vs hall]; exact basic_fit (uint_per hwe) (by omega))
      refine ⟨n, ?_, by simp only [Rep, isBasicElem, if_true]; exact ⟨hlen, hs⟩⟩
      simp only [construct, isBasicElem, if_true]
      rw [if_neg (by omega), hn]; rfl
  case list =>
    intro e lim vs hwe hlen hall ih
    cases hb : isBasicElem e
    · obtain ⟨ns, hns, hrl⟩ := constructList_rep h e vs ih
      have hl := repList_length _ _ _ _ hrl
      have hp := le_two_pow_coverDepth lim
      obtain ⟨n, hn⟩ := fill_ok_of_length h (coverDepth lim) ns (by omega)
      refine ⟨.pair n (lengthNode vs.length), ?_, ?_⟩
      · simp only [construct, hb, Bool.false_eq_true, if_false]
        rw [if_neg (by omega), hns, R.bind_ok, hn]; rfl
      · simp only [Rep, hb, Bool.false_eq_true, if_false]
        exact ⟨hlen, ns, hrl, n, rfl, fill_shape h hn⟩
    · obtain ⟨b, rfl⟩ := isBasicElem_uint hb
      obtain ⟨n, hn, hs⟩ := packed_fill h (seriesDepth (.uint b) lim) (serList (.uint b) vs).flatten
        (by rw [basic_flatten_length b vs hall]; exact basic_fit (uint_per hwe) hlen)
      refine ⟨.pair n (lengthNode vs.length), ?_,
        by simp only [Rep, isBasicElem, if_true]; exact ⟨hlen, n, rfl, hs⟩⟩
      simp only [construct, isBasicElem, if_true]
      rw [if_neg (by omega), hn]; rfl
  case container =>
    intro fs vs _ hlen _ ih
    obtain ⟨ns, hns, hrf⟩ := constructFields_rep h fs vs hlen ih
    have hl := (repFields_length _ _ _ _ hrf).2
    have hp := le_two_pow_coverDepth fs.length
    obtain ⟨n, hn⟩ := fill_ok_of_length h (coverDepth fs.length) ns (by omega)
    refine ⟨n, ?_, by simp only [Rep]; exact ⟨ns, hrf, fill_shape h hn⟩⟩
    simp only [construct]
    rw [if_neg (by omega), hns, R.bind_ok, hn]
  case unionNone =>
    intro opts
    exact ⟨_, by simp only [construct], rep_union_none.mpr ⟨rfl, rfl, rfl⟩⟩
  case unionSome =>
    intro hasNone opts sel v t ho hvn _ _ _ ih
    obtain ⟨c, hc, hrc⟩ := ih
    refine ⟨.pair c (.leaf (chunkOf [UInt8.ofNat sel])), ?_, (rep_union_some ho hvn).mpr ⟨c, hrc, rfl⟩⟩
    cases v <;> first
      | exact absurd rfl hvn
      | (simp only [construct, ho, hc, R.bind_ok])

theorem construct_rep (h : HashFn) {t : Ty} {v : Val} {n : Node} (hwf : t.wf = true)
    (hty : hasType t v = true) (hc : construct h t v = .ok n) : Rep h t v n := by
  obtain ⟨n', hn', hr⟩ := constructRep_all h t v hwf hty
  rw [hc] at hn'
  cases hn'
  exact hr

theorem constructList_repList (h : HashFn) {e : Ty} {vs : List Val} {ns : List Node}
    (_hwf : e.wf = true) (hall : allHaveType e vs = true) (hcl : constructList h e vs = .ok ns) :
    RepList h e vs ns := by
  obtain ⟨ns', hns', hr⟩ := constructList_rep h e vs
    (fun v hv => constructRep_all h e v _hwf (allHaveType_mem e vs hall v hv))
  rw [hcl] at hns'
  cases hns'
  exact hr

theorem constructFields_repFields (h : HashFn) {fs : List Ty} {vs : List Val} {ns : List Node}
    (_hwf : Ty.wfAll fs = true) (hall : fieldsHaveType fs vs = true)
    (hcl : constructFields h fs vs = .ok ns) : RepFields h fs vs ns := by
  obtain ⟨ns', hns', hr⟩ := constructFields_rep h fs vs (fieldsHaveType_length fs vs hall)
    (fun j h1 h2 => constructRep_all h _ _ (wfAll_get fs j _ _hwf (List.getElem?_eq_getElem h1))
      (fieldsHaveType_getElem fs vs hall j h1 h2))
  rw [hcl] at hns'
  cases hns'
  exact hr

namespace View

def ConstructOk (h : HashFn) (v : Val) : Prop :=
  ∀ (t : Ty), t.wf = true → hasType t v = true → ∃ n, construct h t v = .ok n

theorem construct_total (h : HashFn) : ∀ v, ConstructOk h v :=
  fun v t hw ht => let ⟨n, hn, _⟩ := constructRep_all h t v hw ht; ⟨n, hn⟩

end View
end ZtypV
