/-
Facts about the Spec's `hasType`, `serialize` and `Ty.wf`: lists of typed values, element and field
encodings, a value of a fixed-size type has exactly `fixedSize` bytes, what a typed value of each
type looks like, what well-formedness gives for each constructor, and the offset table `offsetsOf`
as numbers.
-/
import ZtypV.Proofs.SerLemmas
namespace ZtypV

/-! ### lists of typed values -/

theorem hasType_none (t : Ty) : hasType t .none = false := by
  cases t <;> rfl

theorem allHaveType_mem (e : Ty) : ∀ (vs : List Val), allHaveType e vs = true → ∀ v, v ∈ vs →
    hasType e v = true := by
  intro vs
  induction vs with
  | nil => intro _ v hv; cases hv
  | cons a vs ih =>
    intro h v hv
    simp only [allHaveType, Bool.and_eq_true] at h
    rcases List.mem_cons.mp hv with rfl | hv
    · exact h.1
    · exact ih h.2 v hv

theorem allHaveType_getElem (e : Ty) (vs : List Val) (h : allHaveType e vs = true) (i : Nat)
    (hi : i < vs.length) : hasType e vs[i] = true :=
  allHaveType_mem e vs h _ (List.getElem_mem hi)

theorem fieldsHaveType_length : ∀ (fs : List Ty) (vs : List Val), fieldsHaveType fs vs = true →
    fs.length = vs.length := by
  intro fs
  induction fs with
  | nil => intro vs h; cases vs <;> simp [fieldsHaveType] at h ⊢
  | cons t ts ih =>
    intro vs h
    cases vs with
    | nil => simp [fieldsHaveType] at h
    | cons v vs =>
      simp only [fieldsHaveType, Bool.and_eq_true] at h
      simp [ih vs h.2]

theorem fieldsHaveType_nil {vs : List Val} (h : fieldsHaveType [] vs = true) : vs = [] := by
  cases vs with
  | nil => rfl
  | cons _ _ => cases h

theorem fieldsHaveType_cons {t : Ty} {ts : List Ty} {vs : List Val}
    (h : fieldsHaveType (t :: ts) vs = true) :
    ∃ v vs', vs = v :: vs' ∧ hasType t v = true ∧ fieldsHaveType ts vs' = true := by
  cases vs with
  | nil => cases h
  | cons v vs =>
    rw [fieldsHaveType, Bool.and_eq_true] at h
    exact ⟨v, vs, rfl, h⟩

/-! ### element and field encodings -/

theorem serList_cons (e : Ty) (v : Val) (vs : List Val) :
    serList e (v :: vs) = serialize e v :: serList e vs := by rw [serList]

@[simp] theorem serList_length (e : Ty) : ∀ (vs : List Val), (serList e vs).length = vs.length := by
  intro vs
  induction vs with
  | nil => simp [serList]
  | cons v vs ih => simp [serList, ih]

theorem serList_getElem (e : Ty) : ∀ (vs : List Val) (i : Nat) (hi : i < vs.length),
    (serList e vs)[i]'(by simpa using hi) = serialize e vs[i] := by
  intro vs
  induction vs with
  | nil => intro i hi; simp at hi
  | cons v vs ih =>
    intro i hi
    cases i with
    | zero => simp [serList]
    | succ i => simp [serList, ih i (by simpa using hi)]

theorem mem_serList (e : Ty) : ∀ (vs : List Val) (l : Bytes), l ∈ serList e vs →
    ∃ v, v ∈ vs ∧ l = serialize e v := by
  intro vs
  induction vs with
  | nil => intro l hl; simp [serList] at hl
  | cons v vs ih =>
    intro l hl
    simp only [serList, List.mem_cons] at hl
    rcases hl with rfl | hl
    · exact ⟨v, List.mem_cons_self, rfl⟩
    · obtain ⟨w, hw, rfl⟩ := ih l hl
      exact ⟨w, List.mem_cons_of_mem _ hw, rfl⟩

@[simp] theorem serFields_length : ∀ (fs : List Ty) (vs : List Val),
    (serFields fs vs).length = min fs.length vs.length := by
  intro fs
  induction fs with
  | nil => intro vs; rw [List.length_nil, Nat.zero_min]; cases vs <;> rfl
  | cons t ts ih =>
    intro vs
    cases vs with
    | nil => rw [List.length_nil, Nat.min_zero]; rfl
    | cons v vs =>
      rw [serFields, List.length_cons, List.length_cons, List.length_cons, ih vs,
        Nat.succ_min_succ]

/-! ### fixed-size types -/

theorem fixedPartLen_serFields : ∀ (fs : List Ty) (vs : List Val),
    (∀ v ∈ vs, ∀ t : Ty, t.isFixed = true → hasType t v = true →
      (serialize t v).length = t.fixedSize) →
    fieldsHaveType fs vs = true → fixedPartLen (serFields fs vs) = Ty.fixedPart fs := by
  intro fs
  induction fs with
  | nil =>
    intro vs _ h
    cases vs with
    | nil => rfl
    | cons v vs => simp [fieldsHaveType] at h
  | cons t ts ih =>
    intro vs hall h
    cases vs with
    | nil => simp [fieldsHaveType] at h
    | cons v vs =>
      simp only [fieldsHaveType, Bool.and_eq_true] at h
      simp only [serFields, fixedPartLen, Ty.fixedPart]
      rw [ih vs (fun w hw => hall w (List.mem_cons_of_mem _ hw)) h.2]
      cases hfx : t.isFixed
      · simp
      · simp [hall v List.mem_cons_self t hfx h.1]

theorem serVarPart_allFixed : ∀ (fs : List Ty) (vs : List Val), Ty.allFixed fs = true →
    serVarPart (serFields fs vs) = [] := by
  intro fs
  induction fs with
  | nil => intro vs _; cases vs <;> rfl
  | cons t ts ih =>
    intro vs h
    cases vs with
    | nil => rfl
    | cons v vs =>
      simp only [Ty.allFixed, Bool.and_eq_true] at h
      simp only [serFields, h.1, serVarPart]
      exact ih vs h.2

theorem serialize_fixed_length : ∀ (v : Val) (t : Ty), t.isFixed = true → hasType t v = true →
    (serialize t v).length = t.fixedSize := by
  intro v
  induction v using Val.induct with
  | num n =>
    intro t hf ht
    cases t with
    | uint b => exact leBytes_length b n
    | _ => cases ht
  | bool b =>
    intro t hf ht
    cases t with
    | bool => rfl
    | _ => cases ht
  | bytes bs =>
    intro t hf ht
    cases t with
    | bytesN k => exact beq_iff_eq.mp ht
    | _ => cases ht
  | bits bs =>
    intro t hf ht
    cases t with
    | bitvector k =>
      simp only [hasType, beq_iff_eq] at ht
      simp only [serialize, Ty.fixedSize, packBits_length, ht]
    | bitlist lim => cases hf
    | _ => cases ht
  | seq vs ih =>
    intro t hf ht
    cases t with
    | vector e k =>
      simp only [hasType, Bool.and_eq_true, beq_iff_eq] at ht
      simp only [Ty.isFixed] at hf
      simp only [serialize, hf, if_true, Ty.fixedSize]
      rw [flatten_uniform_length e.fixedSize, serList_length, ht.1]
      intro l hl
      obtain ⟨w, hw, rfl⟩ := mem_serList e vs l hl
      exact ih w hw e hf (allHaveType_mem e vs ht.2 w hw)
    | container fs =>
      simp only [hasType] at ht
      simp only [Ty.isFixed] at hf
      simp only [serialize, Ty.fixedSize]
      rw [serContainerParts_length, serVarPart_allFixed fs vs hf,
        fixedPartLen_serFields fs vs ih ht]
      rfl
    | list e lim => cases hf
    | _ => cases ht
  | none =>
    intro t hf ht
    cases t <;> cases ht
  | union sel v ih =>
    intro t hf ht
    cases t with
    | union hn opts => cases hf
    | _ => cases ht

theorem serList_fixed_length {e : Ty} (hfx : e.isFixed = true) (vs : List Val)
    (hall : allHaveType e vs = true) : ∀ l ∈ serList e vs, l.length = e.fixedSize := by
  intro l hl
  obtain ⟨w, hw, rfl⟩ := mem_serList _ vs l hl
  exact serialize_fixed_length w e hfx (allHaveType_mem _ vs hall w hw)

theorem serList_flatten_length_fixed {e : Ty} (hfx : e.isFixed = true) (vs : List Val)
    (hall : allHaveType e vs = true) : (serList e vs).flatten.length = vs.length * e.fixedSize := by
  rw [flatten_uniform_length e.fixedSize _ (serList_fixed_length hfx vs hall), serList_length]

/-! ### the values of each type -/

theorem hasType_uint_elim {b : Nat} {v : Val} (h : hasType (.uint b) v = true) :
    ∃ n, v = .num n ∧ n < 256 ^ b := by
  cases v with
  | num n => exact ⟨n, rfl, of_decide_eq_true h⟩
  | _ => cases h

theorem hasType_bool_elim {v : Val} (h : hasType .bool v = true) : ∃ b, v = .bool b := by
  cases v with
  | bool b => exact ⟨b, rfl⟩
  | _ => cases h

theorem hasType_bytesN_elim {n : Nat} {v : Val} (h : hasType (.bytesN n) v = true) :
    ∃ bs, v = .bytes bs ∧ bs.length = n := by
  cases v with
  | bytes bs => exact ⟨bs, rfl, beq_iff_eq.mp h⟩
  | _ => cases h

theorem hasType_bitvector_elim {n : Nat} {v : Val} (h : hasType (.bitvector n) v = true) :
    ∃ bs, v = .bits bs ∧ bs.length = n := by
  cases v with
  | bits bs => exact ⟨bs, rfl, beq_iff_eq.mp h⟩
  | _ => cases h

theorem hasType_bitlist_elim {lim : Nat} {v : Val} (h : hasType (.bitlist lim) v = true) :
    ∃ bs, v = .bits bs ∧ bs.length ≤ lim := by
  cases v with
  | bits bs => exact ⟨bs, rfl, of_decide_eq_true h⟩
  | _ => cases h

theorem hasType_vector_elim {e : Ty} {n : Nat} {v : Val} (h : hasType (.vector e n) v = true) :
    ∃ vs, v = .seq vs ∧ vs.length = n ∧ allHaveType e vs = true := by
  cases v with
  | seq vs =>
    have ⟨hl, ha⟩ := Bool.and_eq_true_iff.mp h
    exact ⟨vs, rfl, beq_iff_eq.mp hl, ha⟩
  | _ => cases h

theorem hasType_list_elim {e : Ty} {lim : Nat} {v : Val} (h : hasType (.list e lim) v = true) :
    ∃ vs, v = .seq vs ∧ vs.length ≤ lim ∧ allHaveType e vs = true := by
  cases v with
  | seq vs =>
    have ⟨hl, ha⟩ := Bool.and_eq_true_iff.mp h
    exact ⟨vs, rfl, of_decide_eq_true hl, ha⟩
  | _ => cases h

theorem hasType_container_elim {fs : List Ty} {v : Val} (h : hasType (.container fs) v = true) :
    ∃ vs, v = .seq vs ∧ fieldsHaveType fs vs = true := by
  cases v with
  | seq vs => exact ⟨vs, rfl, h⟩
  | _ => cases h

theorem hasType_union_elim {hn : Bool} {opts : List Ty} {v : Val}
    (h : hasType (.union hn opts) v = true) :
    ∃ sel x, v = .union sel x ∧
      ((∃ t, unionOpt hn opts sel = some t ∧ hasType t x = true) ∨
        (unionOpt hn opts sel = none ∧ sel = 0 ∧ x = .none)) := by
  cases v with
  | union sel x =>
    refine ⟨sel, x, rfl, ?_⟩
    unfold hasType at h
    cases ho : unionOpt hn opts sel with
    | some t =>
      rw [ho] at h
      exact .inl ⟨t, rfl, h⟩
    | none =>
      rw [ho] at h
      have ⟨h1, hx⟩ := Bool.and_eq_true_iff.mp h
      refine .inr ⟨rfl, beq_iff_eq.mp (Bool.and_eq_true_iff.mp h1).2, ?_⟩
      cases x with
      | none => rfl
      | _ => cases hx
  | _ => cases h

/-! ### well-formed types -/

theorem wfAll_mem : ∀ (fs : List Ty), Ty.wfAll fs = true → ∀ t ∈ fs, t.wf = true := by
  intro fs
  induction fs with
  | nil => intro _ t ht; cases ht
  | cons a fs ih =>
    intro hw t ht
    rw [Ty.wfAll, Bool.and_eq_true] at hw
    rcases List.mem_cons.mp ht with rfl | ht
    · exact hw.1
    · exact ih hw.2 t ht

theorem wf_uint {b : Nat} (hw : (Ty.uint b).wf = true) : b = 1 ∨ b = 2 ∨ b = 4 ∨ b = 8 ∨ b = 32 := by
  have hw' : (b == 1 || b == 2 || b == 4 || b == 8 || b == 32) = true := hw
  simpa only [Bool.or_eq_true, beq_iff_eq, or_assoc] using hw'

theorem wf_vector {e : Ty} {k : Nat} (hw : (Ty.vector e k).wf = true) : 1 ≤ k ∧ e.wf = true :=
  have ⟨hk, he⟩ := Bool.and_eq_true_iff.mp hw
  ⟨of_decide_eq_true hk, he⟩

theorem wf_list {e : Ty} {lim : Nat} (hw : (Ty.list e lim).wf = true) : e.wf = true := hw

theorem wf_container {fs : List Ty} (hw : (Ty.container fs).wf = true) : ∀ t ∈ fs, t.wf = true :=
  wfAll_mem fs (Bool.and_eq_true_iff.mp hw).2

theorem wf_union {hasNone : Bool} {opts : List Ty} (hw : (Ty.union hasNone opts).wf = true) :
    (∀ t ∈ opts, t.wf = true) ∧ opts.length + (if hasNone then 1 else 0) ≤ 128 :=
  have ⟨h1, h2⟩ := Bool.and_eq_true_iff.mp hw
  ⟨wfAll_mem opts (Bool.and_eq_true_iff.mp h1).2, of_decide_eq_true h2⟩

/-- a well-formed fixed-size type is not empty, so the length of a series of such elements
    determines their number -/
theorem fixedSize_pos : ∀ (t : Ty), t.wf = true → t.isFixed = true → 0 < t.fixedSize := by
  intro t
  induction t using Ty.induct with
  | uint b =>
    intro hw _
    rcases wf_uint hw with rfl | rfl | rfl | rfl | rfl <;> exact Nat.succ_pos _
  | bool => intro _ _; exact Nat.one_pos
  | bytesN n => intro hw _; exact of_decide_eq_true (Bool.and_eq_true_iff.mp hw).1
  | bitvector n =>
    intro hw _
    exact Nat.div_pos (Nat.add_le_add_right (of_decide_eq_true hw) 7) (by decide)
  | bitlist n => intro _ hf; cases hf
  | vector e n ih =>
    intro hw hf
    have ⟨hn, he⟩ := Bool.and_eq_true_iff.mp hw
    have hf : e.isFixed = true := hf
    show 0 < if e.isFixed = true then n * e.fixedSize else 0
    rw [if_pos hf]
    exact Nat.mul_pos (of_decide_eq_true hn) (ih he hf)
  | list e n ih => intro _ hf; cases hf
  | container fs ih =>
    intro hw hf
    cases fs with
    | nil => cases hw
    | cons t ts =>
      have ht := wfAll_mem _ (Bool.and_eq_true_iff.mp hw).2 t List.mem_cons_self
      have hft : t.isFixed = true := (Bool.and_eq_true_iff.mp hf).1
      show 0 < (if t.isFixed = true then t.fixedSize else 4) + Ty.fixedPart ts
      rw [if_pos hft]
      exact Nat.add_pos_left (ih t List.mem_cons_self ht hft) _
  | union hn opts ih => intro _ hf; cases hf

/-! ### the offset table as numbers -/

/-- the offsets `offsetsOf` writes, as numbers -/
def natOffsets (start : Nat) : List Bytes → List Nat
  | [] => []
  | p :: ps => start :: natOffsets (start + p.length) ps

theorem offsetsOf_eq_map : ∀ (ps : List Bytes) (start : Nat),
    offsetsOf start ps = (natOffsets start ps).map (leBytes 4) := by
  intro ps
  induction ps with
  | nil => intro _; rfl
  | cons p ps ih => intro start; simp only [offsetsOf, natOffsets, List.map_cons, ih]

theorem natOffsets_length : ∀ (ps : List Bytes) (start : Nat),
    (natOffsets start ps).length = ps.length := by
  intro ps
  induction ps with
  | nil => intro _; rfl
  | cons p ps ih => intro start; simp only [natOffsets, List.length_cons, ih]

theorem natOffsets_le : ∀ (ps : List Bytes) (start : Nat), ∀ o ∈ natOffsets start ps,
    o ≤ start + ps.flatten.length := by
  intro ps
  induction ps with
  | nil => intro _ o ho; cases ho
  | cons q ps ih =>
    intro start o ho
    rw [List.flatten_cons, List.length_append, ← Nat.add_assoc]
    rcases List.mem_cons.mp ho with rfl | ho
    · exact Nat.le_trans (Nat.le_add_right _ _) (Nat.le_add_right _ _)
    · exact ih _ o ho

/-- the offset after a part: the next part's offset, or the end of the series after the last part -/
theorem natOffsets_headD (ps : List Bytes) (s : Nat) :
    (natOffsets s ps).headD (s + ps.flatten.length) = s := by
  cases ps <;> rfl

/-- consecutive offsets give the lengths of all parts but the last, the payload gives the last -/
theorem natOffsets_inj : ∀ (ps qs : List Bytes) (s : Nat), natOffsets s ps = natOffsets s qs →
    ps.flatten = qs.flatten → ps = qs := by
  intro ps
  induction ps with
  | nil =>
    intro qs s h _
    cases qs with
    | nil => rfl
    | cons _ _ => cases h
  | cons p ps ih =>
    intro qs s h hpay
    cases qs with
    | nil => cases h
    | cons q qs =>
      have hrest := List.tail_eq_of_cons_eq h
      have hpq : p.length = q.length := by
        cases ps with
        | nil =>
          cases qs with
          | nil =>
            rw [List.flatten_cons, List.flatten_cons, List.flatten_nil, List.append_nil,
              List.append_nil] at hpay
            rw [hpay]
          | cons _ _ => cases hrest
        | cons _ _ =>
          cases qs with
          | nil => cases hrest
          | cons _ _ => exact Nat.add_left_cancel (List.head_eq_of_cons_eq hrest)
      rw [List.flatten_cons, List.flatten_cons] at hpay
      obtain ⟨rfl, hfl⟩ := List.append_inj hpay hpq
      rw [ih qs _ hrest hfl]

end ZtypV
