/-
The Merkle root of any `Rep` backing (Proofs/Rep.lean) is the SSZ-spec root (`rep_root`), by
`shape_root` / `listShape_root` at every series.
-/
import ZtypV.Proofs.RepConstruct
import ZtypV.Proofs.ViewRoot
namespace ZtypV
open View

theorem packedNodes_roots (h : HashFn) (bs : Bytes) :
    (packedNodes bs).map (Node.root h) = chunks bs :=
  ViewRoot.map_root_bytesIntoNodes h bs

theorem repList_roots (h : HashFn) (e : Ty) : ∀ (vs : List Val) (xs : List Node),
    (∀ v ∈ vs, ∀ n, Rep h e v n → n.root h = htr h e v) →
    RepList h e vs xs → xs.map (Node.root h) = htrList h e vs
  | [], [], _, _ => rfl
  | v :: vs, x :: xs, ih, hr => by
    simp only [RepList] at hr
    simp only [List.map_cons, htrList, ih v List.mem_cons_self x hr.1,
      repList_roots h e vs xs (fun w hw => ih w (List.mem_cons_of_mem _ hw)) hr.2]
  | [], _ :: _, _, hr => by simp only [RepList] at hr
  | _ :: _, [], _, hr => by simp only [RepList] at hr

theorem repFields_roots (h : HashFn) : ∀ (fs : List Ty) (vs : List Val) (xs : List Node),
    (∀ j (h0 : j < fs.length) (h1 : j < vs.length) n, Rep h fs[j] vs[j] n →
      n.root h = htr h fs[j] vs[j]) →
    RepFields h fs vs xs → xs.map (Node.root h) = htrFields h fs vs
  | [], [], [], _, _ => rfl
  | t :: ts, v :: vs, x :: xs, ih, hr => by
    simp only [RepFields] at hr
    simp only [List.map_cons, htrFields, List.getElem_cons_zero, ih 0 (by simp) (by simp) x hr.1,
      repFields_roots h ts vs xs (fun j h0 h1 => ih (j + 1) (by simp; omega) (by simp; omega)) hr.2]
  | [], [], _ :: _, _, hr => by simp only [RepFields] at hr
  | [], _ :: _, _, _, hr => by simp only [RepFields] at hr
  | _ :: _, [], _, _, hr => by simp only [RepFields] at hr
  | _ :: _, _ :: _, [], _, hr => by simp only [RepFields] at hr

theorem repRoot_all (h : HashFn) : ∀ t v, t.wf = true → hasType t v = true →
    ∀ n, noBoolSeries t = true → Rep h t v n → n.root h = htr h t v := by
  refine typed_induct ?uint ?bool ?bytesN ?bitvector ?bitlist ?vector ?list ?container
    ?unionNone ?unionSome
  case uint =>
    intro b k _ _ n _ hr
    simp only [Rep] at hr
    subst hr
    simp only [Node.root, htr]
  case bool =>
    intro b n _ hr
    simp only [Rep] at hr
    subst hr
    simp only [Node.root, htr]
  case bytesN =>
    intro k bs h1 h32 ht n _ hr
    simp only [Rep] at hr
    subst hr
    have hk : (k + 31) / 32 = 1 := by omega
    have hc : coverDepth 1 = 0 := by decide
    simp only [Node.root, htr, hk, hc, ViewRoot.chunks_single bs (by omega) (by omega), merk,
      List.headD]
  case bitvector =>
    intro k bs _ n _ hr
    simp only [Rep] at hr
    rw [shape_root h hr.2, packedNodes_roots]
    simp only [htr, bitDepth]
  case bitlist =>
    intro lim bs _ n _ hr
    simp only [Rep] at hr
    rw [listShape_root h hr.2, packedNodes_roots]
    simp only [htr, bitDepth]
  case vector =>
    intro e k vs _ hwe _ _ ih n hnb hr
    simp only [noBoolSeries, Bool.and_eq_true, Bool.not_eq_true'] at hnb
    have hbe := ViewRoot.isBasic_eq_isBasicElem e hnb.1
    cases hb : isBasicElem e
    · simp only [Rep, hb, Bool.false_eq_true, if_false] at hr
      obtain ⟨_, xs, hrl, hs⟩ := hr
      rw [shape_root h hs, repList_roots h e vs xs (fun v hv n => ih v hv n hnb.2) hrl]
      simp only [htr, hbe, hb, Bool.false_eq_true, if_false]
    · obtain ⟨b, rfl⟩ := isBasicElem_uint hb
      simp only [Rep, isBasicElem, if_true] at hr
      rw [shape_root h hr.2, packedNodes_roots]
      simp only [htr, hbe, hb, if_true, ViewRoot.seriesDepth_uint b k hwe, Ty.fixedSize]
  case list =>
    intro e lim vs hwe _ _ ih n hnb hr
    simp only [noBoolSeries, Bool.and_eq_true, Bool.not_eq_true'] at hnb
    have hbe := ViewRoot.isBasic_eq_isBasicElem e hnb.1
    cases hb : isBasicElem e
    · simp only [Rep, hb, Bool.false_eq_true, if_false] at hr
      obtain ⟨_, xs, hrl, hs⟩ := hr
      rw [listShape_root h hs, repList_roots h e vs xs (fun v hv n => ih v hv n hnb.2) hrl]
      simp only [htr, hbe, hb, Bool.false_eq_true, if_false]
    · obtain ⟨b, rfl⟩ := isBasicElem_uint hb
      simp only [Rep, isBasicElem, if_true] at hr
      rw [listShape_root h hr.2, packedNodes_roots]
      simp only [htr, hbe, hb, if_true, ViewRoot.seriesDepth_uint b lim hwe, Ty.fixedSize]
  case container =>
    intro fs vs _ _ _ ih n hnb hr
    simp only [noBoolSeries] at hnb
    simp only [Rep] at hr
    obtain ⟨xs, hrf, hs⟩ := hr
    rw [shape_root h hs, repFields_roots h fs vs xs (fun j h0 h1 n =>
      ih j h0 h1 n (ViewRoot.noBoolSeriesAll_mem fs _ hnb (List.getElem_mem h0))) hrf]
    simp only [htr]
  case unionNone =>
    intro opts n _ hr
    obtain ⟨_, _, hn⟩ := rep_union_none.mp hr
    subst hn
    have ho : unionOpt true opts 0 = none := by simp [unionOpt]
    simp only [Node.root, htr, ho, mixin, ViewRoot.selector_chunk 0 (by omega)]
  case unionSome =>
    intro hasNone opts sel v t ho hvn hs _ _ ih n hnb hr
    simp only [noBoolSeries] at hnb
    obtain ⟨c, hrc, hn⟩ := (rep_union_some ho hvn).mp hr
    subst hn
    have hrec := ih c
      (ViewRoot.noBoolSeriesAll_mem opts t hnb (List.mem_of_getElem? (unionOpt_some ho).2.2)) hrc
    simp only [Node.root, htr, ho, mixin, ViewRoot.selector_chunk sel hs, hrec]

/-- C01: the Merkle root of a `Rep` backing is the SSZ-spec `hash_tree_root`.  `noBoolSeries`
    because the views treat `boolean` elements as complex (one node each) where the spec packs
    them (finding D3). -/
theorem rep_root (h : HashFn) {t : Ty} {v : Val} {n : Node} (hwf : t.wf = true)
    (hnb : noBoolSeries t = true) (hty : hasType t v = true) (hr : Rep h t v n) :
    n.root h = htr h t v :=
  repRoot_all h t v hwf hty n hnb hr

end ZtypV
