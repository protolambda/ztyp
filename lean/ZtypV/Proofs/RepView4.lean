/-
The default route.  The default value of a well-formed type is typed (`defaultVal_hasType`);
`DefaultNode` does not fail and what it returns is a `Rep` backing of the default value
(`defaultRep_all`, `default_rep`).
-/
import ZtypV.Proofs.RepConstruct
import ZtypV.Proofs.ViewRoot
namespace ZtypV
open View RepMut

/-! ### shapes of `fillToDepth` / `fillToLength` -/

theorem zeroTree_fillToDepth (h : HashFn) : ∀ d : Nat, ZeroTree h d (fillToDepth (zeroNode h 0) d)
  | 0 => ZeroTree.leaf 0
  | d + 1 => ZeroTree.pair (zeroTree_fillToDepth h d) (zeroTree_fillToDepth h d)

/-- `SubtreeFillToDepth(zero leaf, d)`: any number `m ≤ 2^d` of leading zero chunks, rest padding -/
theorem fillToDepth_zero_shape (h : HashFn) : ∀ (d m : Nat), m ≤ 2 ^ d →
    SeqShape h d (fillToDepth (zeroNode h 0) d) (List.replicate m (.leaf z0))
  | d, 0, _ => (ShapeAux.seqShape_nil ..).mpr (zeroTree_fillToDepth h d)
  | 0, m + 1, hm => by
    have : m = 0 := by simpa using hm
    subst this
    simp only [List.replicate, SeqShape]
    rfl
  | d + 1, m + 1, hm => by
    have h2 : 2 ^ (d + 1) = 2 ^ d + 2 ^ d := by rw [Nat.pow_succ]; omega
    show SeqShape h (d + 1) (.pair (fillToDepth (zeroNode h 0) d) (fillToDepth (zeroNode h 0) d)) _
    refine (ShapeAux.seqShape_succ_pair ..).mpr ⟨?_, ?_⟩
    · rw [List.take_replicate]
      exact fillToDepth_zero_shape h d _ (Nat.min_le_left _ _)
    · rw [List.drop_replicate]
      exact fillToDepth_zero_shape h d _ (by omega)

/-- `SubtreeFillToLength(bottom, d, len)`: `len` copies of `bottom`, zero padded -/
theorem fillToLength_shape (h : HashFn) (b : Node) (d : Nat) {len : Nat} {n : Node}
    (hpos : 0 < len) (hf : fillToLength h b d len = .ok n) :
    SeqShape h d n (List.replicate len b) :=
  fill_shape h (fillToLength_eq_fillToContents h b d len hpos ▸ hf)

/-- the default list-like view: zero summary contents, zero length node -/
theorem listShape_default (h : HashFn) (d : Nat) :
    ListShape h d (.pair (zeroNode h d) (zeroNode h 0)) [] 0 := by
  refine ⟨zeroNode h d, ?_, (ShapeAux.seqShape_nil ..).mpr (ZeroTree.leaf d)⟩
  have : lengthNode 0 = zeroNode h 0 := by
    unfold lengthNode zeroNode
    rw [ViewRoot.z0_number_chunk]; rfl
  rw [this]

/-! ### all-zero packed contents -/

theorem packedNodes_zeros (k : Nat) :
    packedNodes (List.replicate k 0) = List.replicate ((k + 31) / 32) (.leaf z0) := by
  unfold packedNodes bytesIntoNodes
  rw [ViewRoot.chunks_zeros, List.map_replicate]

theorem serList_default_uint_eq (b : Nat) : ∀ n : Nat,
    (serList (.uint b) (List.replicate n (.num 0))).flatten = List.replicate (n * b) 0
  | 0 => by simp [serList]
  | n + 1 => by
    simp only [List.replicate_succ, serList, serialize, List.flatten_cons,
      serList_default_uint_eq b n, leBytes_zero, List.replicate_append_replicate]
    congr 1
    rw [Nat.succ_mul]; omega

theorem repList_replicate {h : HashFn} {e : Ty} {v : Val} {x : Node} (hr : Rep h e v x) :
    ∀ n : Nat, RepList h e (List.replicate n v) (List.replicate n x)
  | 0 => by simp only [List.replicate, RepList]
  | n + 1 => by
    simp only [List.replicate, RepList]
    exact ⟨hr, repList_replicate hr n⟩

theorem defaultVal_ne_none (t : Ty) : defaultVal t ≠ .none := by
  cases t with
  | union hasNone opts =>
    cases hasNone <;> cases opts <;> simp [defaultVal]
  | _ => simp [defaultVal]

/-! ### the default value is a typed value -/

theorem allHaveType_replicate (e : Ty) (v : Val) (hv : hasType e v = true) : ∀ n : Nat,
    allHaveType e (List.replicate n v) = true
  | 0 => rfl
  | n + 1 => by
    simp only [List.replicate_succ, allHaveType, Bool.and_eq_true]
    exact ⟨hv, allHaveType_replicate e v hv n⟩

mutual
theorem defaultVal_hasType : (t : Ty) → t.wf = true → hasType t (defaultVal t) = true
  | .uint b, _ => by
    simp only [defaultVal, hasType, decide_eq_true_eq]
    exact Nat.pow_pos (by decide)
  | .bool, _ => rfl
  | .bytesN n, _ => by simp only [defaultVal, hasType, List.length_replicate, beq_self_eq_true]
  | .bitvector n, _ => by simp only [defaultVal, hasType, List.length_replicate, beq_self_eq_true]
  | .bitlist lim, _ => by
    simp only [defaultVal, hasType, List.length_nil, Nat.zero_le, decide_true]
  | .vector e n, hw => by
    simp only [Ty.wf, Bool.and_eq_true] at hw
    simp only [defaultVal, hasType, List.length_replicate, beq_self_eq_true, Bool.true_and]
    exact allHaveType_replicate e _ (defaultVal_hasType e hw.2) n
  | .list e lim, _ => by
    simp only [defaultVal, hasType, allHaveType, List.length_nil, Nat.zero_le, decide_true,
      Bool.and_self]
  | .container fs, hw => by
    simp only [Ty.wf, Bool.and_eq_true] at hw
    simp only [defaultVal, hasType]
    exact defaultVals_hasType fs hw.2
  | .union true opts, _ => by
    unfold defaultVal
    simp only [if_true, hasType, unionOpt]
    rfl
  | .union false [], hw => by
    simp only [Ty.wf, Bool.and_eq_true] at hw
    exact absurd hw.1.1 (by decide)
  | .union false (t :: ts), hw => by
    simp only [Ty.wf, Ty.wfAll, Bool.and_eq_true] at hw
    simp only [defaultVal, Bool.false_eq_true, if_false, hasType, unionOpt, List.getElem?_cons_zero]
    exact defaultVal_hasType t hw.1.2.1
theorem defaultVals_hasType : (fs : List Ty) → Ty.wfAll fs = true →
    fieldsHaveType fs (defaultVals fs) = true
  | [], _ => rfl
  | t :: ts, hw => by
    simp only [Ty.wfAll, Bool.and_eq_true] at hw
    simp only [defaultVals, fieldsHaveType, Bool.and_eq_true]
    exact ⟨defaultVal_hasType t hw.1, defaultVals_hasType ts hw.2⟩
end

/-! ### the default backing -/

/-- induction predicate of `default_rep`: `DefaultNode` succeeds with a `Rep` backing of the
    default value -/
def DefaultRep (h : HashFn) (t : Ty) : Prop :=
  t.wf = true → ∃ n, defaultNode h t = .ok n ∧ Rep h t (defaultVal t) n

theorem defaultNodes_rep (h : HashFn) : ∀ fs : List Ty,
    (∀ t ∈ fs, DefaultRep h t) → Ty.wfAll fs = true →
    ∃ ns, defaultNodes h fs = .ok ns ∧ RepFields h fs (defaultVals fs) ns
  | [], _, _ => ⟨[], by simp only [defaultNodes], by simp only [defaultVals, RepFields]⟩
  | t :: ts, ih, hw => by
    simp only [Ty.wfAll, Bool.and_eq_true] at hw
    obtain ⟨n, hn, hr⟩ := ih t List.mem_cons_self hw.1
    obtain ⟨ns, hns, hrs⟩ := defaultNodes_rep h ts (fun u hu => ih u (List.mem_cons_of_mem _ hu)) hw.2
    exact ⟨n :: ns, by simp only [defaultNodes, hn, hns, R.bind_ok],
      by simp only [defaultVals, RepFields]; exact ⟨hr, hrs⟩⟩

theorem defaultRep_all (h : HashFn) : ∀ t, DefaultRep h t := by
  intro t
  induction t using Ty.induct with
  | uint b =>
    intro _
    refine ⟨zeroNode h 0, by simp only [defaultNode], ?_⟩
    simp only [defaultVal, Rep, leBytes_zero, chunkOf_zeros]
    rfl
  | bool =>
    intro _
    refine ⟨zeroNode h 0, by simp only [defaultNode], ?_⟩
    simp only [defaultVal, Rep]
    have : chunkOf [if false = true then (1 : UInt8) else 0] = z0 := chunkOf_zeros 1
    rw [this]; rfl
  | bytesN k =>
    intro _
    refine ⟨zeroNode h 0, by simp only [defaultNode], ?_⟩
    simp only [defaultVal, Rep, chunkOf_zeros]
    rfl
  | bitvector k =>
    intro _
    refine ⟨fillToDepth (zeroNode h 0) (bitDepth k), by simp only [defaultNode], ?_⟩
    simp only [defaultVal, Rep, List.length_replicate, true_and]
    rw [ViewRoot.packBits_false, packedNodes_zeros]
    exact fillToDepth_zero_shape h _ _ (bits_fit k k (Nat.le_refl _))
  | bitlist lim =>
    intro _
    refine ⟨.pair (zeroNode h (bitDepth lim)) (zeroNode h 0), by simp only [defaultNode], ?_⟩
    simp only [defaultVal, Rep, List.length_nil, Nat.zero_le, true_and]
    have : packedNodes (packBits []) = [] := rfl
    rw [this]
    exact listShape_default h _
  | vector e k ih =>
    intro hw
    simp only [Ty.wf, Bool.and_eq_true, decide_eq_true_eq] at hw
    cases hb : isBasicElem e
    · obtain ⟨d, hd, hrd⟩ := ih hw.2
      obtain ⟨c, hc⟩ := fillToLength_ok h d (coverDepth k) k (by omega) (le_two_pow_coverDepth k)
      refine ⟨c, by simp only [defaultNode, hb, Bool.false_eq_true, if_false, hd, R.bind_ok, hc,
        orNil], ?_⟩
      simp only [defaultVal, Rep, hb, Bool.false_eq_true, if_false, List.length_replicate, true_and]
      exact ⟨List.replicate k d, repList_replicate hrd k,
        fillToLength_shape h d (coverDepth k) (by omega) hc⟩
    · obtain ⟨b, rfl⟩ := isBasicElem_uint hb
      refine ⟨fillToDepth (zeroNode h 0) (seriesDepth (.uint b) k),
        by simp only [defaultNode, isBasicElem, if_true], ?_⟩
      simp only [defaultVal, Rep, isBasicElem, if_true, List.length_replicate, true_and]
      rw [serList_default_uint_eq, packedNodes_zeros]
      exact fillToDepth_zero_shape h _ _ (basic_fit (uint_per hw.2) (Nat.le_refl _))
  | list e lim _ =>
    intro _
    refine ⟨.pair (zeroNode h (seriesDepth e lim)) (zeroNode h 0), by simp only [defaultNode], ?_⟩
    cases hb : isBasicElem e
    · simp only [defaultVal, Rep, hb, Bool.false_eq_true, if_false, List.length_nil, Nat.zero_le,
        true_and]
      refine ⟨[], by simp only [RepList], ?_⟩
      rw [seriesDepth_complex hb lim]
      exact listShape_default h _
    · simp only [defaultVal, Rep, hb, if_true, List.length_nil, Nat.zero_le, true_and]
      have : packedNodes (serList e []).flatten = [] := by
        simp only [serList, List.flatten_nil]; rfl
      rw [this]
      exact listShape_default h _
  | container fs ih =>
    intro hw
    simp only [Ty.wf, Bool.and_eq_true] at hw
    obtain ⟨ns, hns, hrf⟩ := defaultNodes_rep h fs ih hw.2
    have hl := (repFields_length _ _ _ _ hrf).2
    obtain ⟨c, hc⟩ := fill_ok_of_length h (coverDepth fs.length) ns
      (by rw [hl]; exact le_two_pow_coverDepth _)
    refine ⟨c, by simp only [defaultNode, hns, R.bind_ok, hc, orNil], ?_⟩
    simp only [defaultVal, Rep]
    exact ⟨ns, hrf, fill_shape h hc⟩
  | union hasNone opts ih =>
    intro hw
    simp only [Ty.wf, Bool.and_eq_true, decide_eq_true_eq] at hw
    cases opts with
    | nil => simp at hw
    | cons t rest =>
      have hz : chunkOf [UInt8.ofNat 0] = z0 := chunkOf_zeros 1
      cases hasNone with
      | true =>
        refine ⟨.pair (.leaf z0) (.leaf z0), by simp only [defaultNode, if_true], ?_⟩
        simp only [defaultVal, if_true]
        refine rep_union_none.mpr ⟨rfl, rfl, ?_⟩
        rw [hz]
      | false =>
        simp only [Ty.wfAll, Bool.and_eq_true] at hw
        obtain ⟨d, hd, hrd⟩ := ih t List.mem_cons_self hw.1.2.1
        refine ⟨.pair d (.leaf z0),
          by simp only [defaultNode, Bool.false_eq_true, if_false, hd, R.bind_ok], ?_⟩
        have ho : unionOpt false (t :: rest) 0 = some t := by simp [unionOpt]
        simp only [defaultVal, Bool.false_eq_true, if_false]
        refine (rep_union_some ho (defaultVal_ne_none t)).mpr ⟨d, hrd, ?_⟩
        rw [hz]

/-- C01, default route: the default backing of a well-formed type is a `Rep` backing of the spec
    default value -/
theorem default_rep (h : HashFn) {t : Ty} {n : Node} (hwf : t.wf = true)
    (hd : defaultNode h t = .ok n) : Rep h t (defaultVal t) n := by
  obtain ⟨n', hn', hr⟩ := defaultRep_all h t hwf
  rw [hd] at hn'
  cases hn'
  exact hr

end ZtypV
