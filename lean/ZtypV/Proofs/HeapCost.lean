/-
Model H: which cells `MerkleRoot` writes and how often it hashes when the hash never returns the
zero root (C07), and what poke-free clients preserve of the memo state (every cell but a pair with
unset memo, hence `TopMemo`; `MemoClosed`).
-/
import ZtypV.Proofs.Heap
namespace ZtypV.H

/-! ### nodes that answer from their memo -/

theorem TopMemo.memo_ne {hp : Heap} {x : Nat} {m : Root} {l r : Nat} (ht : TopMemo hp x)
    (e : hp[x]? = some (Cell.pair m l r)) : m ≠ z0 := by
  rcases ht with ⟨r0, e0⟩ | ⟨m', l', r', e0, hm⟩
  · rw [e] at e0; cases e0
  · rw [e] at e0
    obtain ⟨rfl, _, _⟩ := Cell.pair.inj (Option.some.inj e0)
    exact hm

theorem topMemo_congr {hp hp' : Heap} {x : Nat} (e : hp'[x]? = hp[x]?) (ht : TopMemo hp x) :
    TopMemo hp' x := by
  unfold TopMemo; rw [e]; exact ht

theorem topMemo_lt {hp : Heap} {x : Nat} (ht : TopMemo hp x) : x < hp.size := by
  rcases ht with ⟨r, e⟩ | ⟨m, l, r, e, _⟩ <;> exact get_lt_size e

theorem topMemo_of_get {hp : Heap} {x : Nat} {c : Cell} (hc : hp[x]? = some c)
    (hm : ∀ l r, c ≠ Cell.pair z0 l r) : TopMemo hp x := by
  cases c with
  | leaf r => exact .inl ⟨r, hc⟩
  | pair m l r => exact .inr ⟨m, l, r, hc, fun e => hm l r (by rw [e])⟩

theorem fullyMemo_child {hp : Heap} {x : Nat} {m : Root} {l r : Nat} (hf : FullyMemo hp x)
    (hx : hp[x]? = some (Cell.pair m l r)) : FullyMemo hp l ∧ FullyMemo hp r :=
  ⟨fun y m' l' r' hr => hf y m' l' r' (.left m l r hx hr),
   fun y m' l' r' hr => hf y m' l' r' (.right m l r hx hr)⟩

theorem topMemo_of_fullyMemo {hp : Heap} {x : Nat} (hf : FullyMemo hp x) (hx : x < hp.size) :
    TopMemo hp x := by
  obtain ⟨c, hc⟩ := get_some_of_lt hx
  refine topMemo_of_get hc (fun l r e => ?_)
  subst e
  exact hf x z0 l r (.refl x) hc rfl

/-- hashed once = hashed everywhere below -/
theorem fullyMemo_of_top {hp : Heap} (hc : MemoClosed hp) {x : Nat} (ht : TopMemo hp x) :
    FullyMemo hp x := by
  have key : ∀ {x y}, Reach hp x y → TopMemo hp x → TopMemo hp y := by
    intro x y hr
    induction hr with
    | refl x => exact id
    | left m l r e _ ih => exact fun ht => ih (hc _ _ _ _ e (ht.memo_ne e)).1
    | right m l r e _ ih => exact fun ht => ih (hc _ _ _ _ e (ht.memo_ne e)).2
  intro y m l r hr hy
  exact (key hr ht).memo_ne hy

/-! ### reachability through unset pairs -/

theorem UReach.src_unset {hp : Heap} {x y : Nat} (hu : UReach hp x y) : Unset hp x := by
  cases hu with
  | here l r e => exact ⟨l, r, e⟩
  | left l r e _ => exact ⟨l, r, e⟩
  | right l r e _ => exact ⟨l, r, e⟩

theorem UReach.tgt_unset {hp : Heap} {x y : Nat} (hu : UReach hp x y) : Unset hp y := by
  induction hu with
  | here l r e => exact ⟨l, r, e⟩
  | left l r _ _ ih => exact ih
  | right l r _ _ ih => exact ih

theorem UReach.trans {hp : Heap} {x y z : Nat} (h1 : UReach hp x y) (h2 : UReach hp y z) :
    UReach hp x z := by
  induction h1 with
  | here l r e => exact h2
  | left l r e _ ih => exact .left l r e (ih h2)
  | right l r e _ ih => exact .right l r e (ih h2)

theorem UReach.le {hp : Heap} (hw : WF hp) {x y : Nat} (hu : UReach hp x y) : y ≤ x := by
  induction hu with
  | here l r e => exact Nat.le_refl _
  | left l r e _ ih => have := hw _ _ _ _ e; omega
  | right l r e _ ih => have := hw _ _ _ _ e; omega

theorem UReach.reach {hp : Heap} {x y : Nat} (hu : UReach hp x y) : Reach hp x y := by
  induction hu with
  | here l r e => exact .refl _
  | left l r e _ ih => exact .left z0 l r e ih
  | right l r e _ ih => exact .right z0 l r e ih

theorem UReach.of_unset {hp : Heap} {a l r y : Nat} (ha : hp[a]? = some (Cell.pair z0 l r))
    (hu : UReach hp a y) : y = a ∨ UReach hp l y ∨ UReach hp r y := by
  cases hu with
  | here l' r' e => exact .inl rfl
  | left l' r' e hu' =>
    obtain ⟨_, rfl, rfl⟩ := Cell.pair.inj (Option.some.inj (ha.symm.trans e))
    exact .inr (.inl hu')
  | right l' r' e hu' =>
    obtain ⟨_, rfl, rfl⟩ := Cell.pair.inj (Option.some.inj (ha.symm.trans e))
    exact .inr (.inr hu')

/-- what was to be hashed below `r` and is not below `l` is still to be hashed below `r` when the
    cells not to be hashed below `l` are left as they were -/
theorem ureach_kept {hp hp1 : Heap} {l : Nat} (hkeep : ∀ y, ¬ UReach hp l y → hp1[y]? = hp[y]?)
    {r y : Nat} (hu : UReach hp r y) (hn : ¬ UReach hp l y) : UReach hp1 r y := by
  induction hu with
  | here l' r' e => exact .here l' r' (by rw [hkeep _ hn]; exact e)
  | left l' r' e hu' ih =>
    exact .left l' r' (by rw [hkeep _ (fun hx => hn (hx.trans (.left l' r' e hu')))]; exact e) (ih hn)
  | right l' r' e hu' ih =>
    exact .right l' r' (by rw [hkeep _ (fun hx => hn (hx.trans (.right l' r' e hu')))]; exact e) (ih hn)

/-! ### the effect of `MerkleRoot` -/

theorem topMemo_memoStep {hp hp' : Heap} {x : Nat} (ht : TopMemo hp x) (hs : MemoStep hp hp') :
    TopMemo hp' x := by
  rcases hs x with e | ⟨l, r, v, e, _⟩
  · exact topMemo_congr e ht
  · exact absurd rfl (ht.memo_ne e)

theorem rootH_top (h : HashFn) {f : Nat} {hp : Heap} {a : Nat} (ht : TopMemo hp a) :
    (rootH h f hp a).2.1 = hp ∧ (rootH h f hp a).2.2.writes = [] ∧ (rootH h f hp a).2.2.calls = 0 :=
  rootH_noop h (fun ⟨_, _, e⟩ => ht.memo_ne e rfl)

/-- `MerkleRoot` at `a` with a hash that never returns the zero root: exactly the pairs reachable
    through unset pairs (`W` lists them) get their memo set, nothing else changes; each of them is
    written once and costs one of the `c` hash calls. -/
structure RootEff (h : HashFn) (hp : Heap) (a : Nat) (W : List Nat) (hp' : Heap) (c : Nat) : Prop where
  fill : Fill h hp a W hp'
  nodup : W.Nodup
  all : ∀ y, UReach hp a y → y ∈ W
  calls : c = W.length

theorem RootEff.mem {h : HashFn} {hp hp' : Heap} {a c : Nat} {W : List Nat}
    (e : RootEff h hp a W hp' c) {y : Nat} : y ∈ W ↔ UReach hp a y :=
  ⟨fun hy => (e.fill.2 y hy).1, e.all y⟩

theorem RootEff.keep {h : HashFn} {hp hp' : Heap} {a c : Nat} {W : List Nat}
    (e : RootEff h hp a W hp' c) {y : Nat} (hn : ¬ UReach hp a y) : hp'[y]? = hp[y]? :=
  e.fill.1 y (fun hy => hn (e.mem.mp hy))

theorem RootEff.set {h : HashFn} (hz : NoZeroOut h) {hp hp' : Heap} {a c : Nat} {W : List Nat}
    (e : RootEff h hp a W hp' c) {y : Nat} (hu : UReach hp a y) :
    ∃ l r v, hp[y]? = some (Cell.pair z0 l r) ∧ hp'[y]? = some (Cell.pair v l r) ∧ v ≠ z0 :=
  let ⟨_, l, r, u, w, e0, e1⟩ := e.fill.2 y (e.all y hu)
  ⟨l, r, h u w, e0, e1, hz u w⟩

/-- hashing the pair at `a`: what is hashed below `r` is what `l` left unset -/
theorem RootEff.step {h : HashFn} (hz : NoZeroOut h) {hp hp1 hp2 : Heap} {W1 W2 : List Nat}
    {a l r c1 c2 : Nat} (hw : WF hp) (ha : hp[a]? = some (Cell.pair z0 l r))
    (e1 : RootEff h hp l W1 hp1 c1) (e2 : RootEff h hp1 r W2 hp2 c2) (u w : Root) :
    RootEff h hp a (W1 ++ W2 ++ [a]) (hp2.setIfInBounds a (Cell.pair (h u w) l r)) (c1 + c2 + 1) := by
  have hlr := hw a z0 l r ha
  have K : ∀ y, UReach hp1 r y → UReach hp r y ∧ ¬ UReach hp l y := by
    intro y hu
    refine ⟨ureach_of_memoStep e1.fill.memoStep hu, fun hl => ?_⟩
    obtain ⟨l', r', v, _, e', hv⟩ := e1.set hz hl
    obtain ⟨l'', r'', e''⟩ := hu.tgt_unset
    exact hv (Cell.pair.inj (Option.some.inj (e'.symm.trans e''))).1
  have below : ∀ y, UReach hp l y ∨ UReach hp r y → y < a := by
    rintro y (hy | hy) <;> have := hy.le hw <;> omega
  refine ⟨Fill.step ha e1.fill e2.fill u w, ?_, fun y hy => ?_, ?_⟩
  · rw [List.nodup_append, List.nodup_append]
    refine ⟨⟨e1.nodup, e2.nodup, ?_⟩, List.pairwise_singleton _ a, ?_⟩
    · intro y hy z hz' e
      subst e
      exact (K y (e2.mem.mp hz')).2 (e1.mem.mp hy)
    · intro y hy z hz' e
      rw [List.mem_singleton] at hz'
      subst e; subst hz'
      rcases List.mem_append.mp hy with h1 | h2
      · have := below _ (.inl (e1.mem.mp h1)); omega
      · have := below _ (.inr (K _ (e2.mem.mp h2)).1); omega
  · rw [List.mem_append, List.mem_append, List.mem_singleton]
    rcases hy.of_unset ha with rfl | hl | hr
    · exact .inr rfl
    · exact .inl (.inl (e1.all y hl))
    · by_cases hl : UReach hp l y
      · exact .inl (.inl (e1.all y hl))
      · exact .inl (.inr (e2.all y (ureach_kept (fun y => e1.keep) hr hl)))
  · rw [e1.calls, e2.calls]
    simp only [List.length_append, List.length_singleton]

theorem rootH_eff (h : HashFn) (hz : NoZeroOut h) : ∀ f hp a, WF hp → a < f →
    RootEff h hp a (rootH h f hp a).2.2.writes (rootH h f hp a).2.1 (rootH h f hp a).2.2.calls := by
  intro f
  induction f with
  | zero => intro hp a _ hlt; omega
  | succ f ih =>
    intro hp a hw hlt
    by_cases hu : Unset hp a
    · obtain ⟨l, r, ha⟩ := hu
      have hlr := hw a z0 l r ha
      rw [rootH_unset h ha, Trace.node_writes, Trace.node_calls]
      exact .step hz hw ha (ih hp l hw (by omega)) (ih _ r (rootH_wf h f l hw) (by omega)) _ _
    · obtain ⟨e, w, c⟩ := rootH_noop h (f := f+1) hu
      rw [e, w, c]
      exact ⟨⟨fun _ _ => rfl, fun y hy => by cases hy⟩, List.nodup_nil,
        fun y hy => absurd hy.src_unset hu, rfl⟩

/-- after `MerkleRoot` at `a`, a node answers from its memo if it was to be hashed whenever it
    was an unset pair -/
theorem RootEff.topMemo {h : HashFn} (hz : NoZeroOut h) {hp hp' : Heap} {a c : Nat} {W : List Nat}
    (e : RootEff h hp a W hp' c) {y : Nat} (hy : y < hp.size)
    (hu : Unset hp y → UReach hp a y) : TopMemo hp' y := by
  by_cases huy : UReach hp a y
  · obtain ⟨l, r, v, _, e1, hv⟩ := e.set hz huy
    exact .inr ⟨v, l, r, e1, hv⟩
  · obtain ⟨c, hc⟩ := get_some_of_lt hy
    exact topMemo_of_get (by rw [e.keep huy]; exact hc) (fun l r ec => huy (hu ⟨l, r, by rw [hc, ec]⟩))

theorem rootH_memoClosed (h : HashFn) (hz : NoZeroOut h) {f : Nat} {hp : Heap} {x : Nat}
    (hw : WF hp) (hc : MemoClosed hp) (hlt : x < f) : MemoClosed (rootH h f hp x).2.1 := by
  have e := rootH_eff h hz f hp x hw hlt
  intro a m l r ha hm
  by_cases hu : UReach hp x a
  · -- the children of a pair that gets hashed are hashed with it
    obtain ⟨l', r', v, e0, e1, _⟩ := e.set hz hu
    obtain ⟨_, rfl, rfl⟩ := Cell.pair.inj (Option.some.inj (ha.symm.trans e1))
    have hlr := hw a z0 l r e0
    have := get_lt_size e0
    exact ⟨e.topMemo hz (by omega) (fun ⟨l', r', hc⟩ => hu.trans (.left l r e0 (.here l' r' hc))),
      e.topMemo hz (by omega) (fun ⟨l', r', hc⟩ => hu.trans (.right l r e0 (.here l' r' hc)))⟩
  · rw [e.keep hu] at ha
    obtain ⟨t1, t2⟩ := hc a m l r ha hm
    have ms := rootH_memoStep h f hp x
    exact ⟨topMemo_memoStep t1 ms, topMemo_memoStep t2 ms⟩

/-! ### what poke-free clients preserve of the memo state -/

/-- exact extension: old cells are untouched, memo fields included -/
def PExt (hp hp' : Heap) : Prop := hp.size ≤ hp'.size ∧ ∀ z, z < hp.size → hp'[z]? = hp[z]?

theorem PExt.refl (hp : Heap) : PExt hp hp := ⟨Nat.le_refl _, fun _ _ => rfl⟩
theorem PExt.trans {a b c : Heap} (h1 : PExt a b) (h2 : PExt b c) : PExt a c :=
  ⟨Nat.le_trans h1.1 h2.1, fun z hz => by rw [h2.2 z (Nat.lt_of_lt_of_le hz h1.1), h1.2 z hz]⟩
theorem pext_push (hp : Heap) (c : Cell) : PExt hp (hp.push c) :=
  ⟨by simp, fun _ hz => get_push_lt c hz⟩
theorem PExt.ext {hp hp' : Heap} (he : PExt hp hp') : Ext hp hp' :=
  ⟨he.1, fun z hz => by rw [he.2 z hz]⟩

theorem PExt.get {hp hp' : Heap} (he : PExt hp hp') {x : Nat} {c : Cell} (e : hp[x]? = some c) :
    hp'[x]? = some c := (he.2 x (get_lt_size e)).trans e

theorem topMemo_pext {hp hp' : Heap} (he : PExt hp hp') {a : Nat} (ht : TopMemo hp a) :
    TopMemo hp' a := topMemo_congr (he.2 a (topMemo_lt ht)) ht

theorem run_keep (h : HashFn) {p : Prog α} (hnp : NoPoke p) (hp : Heap) (hw : WF hp) {y : Nat}
    (hlt : y < hp.size) (hy : ¬ Unset hp y) :
    (run h p hp).2.1[y]? = hp[y]? :=
  (run_inv h (P := fun hp' => hp'[y]? = hp[y]? ∧ y < hp'.size)
    (fun hp' c _ _ e => ⟨(get_push_lt c e.2).trans e.1, Nat.lt_of_lt_of_le e.2 (by simp)⟩)
    (fun hp' a _ _ e => by
      rcases rootH_memoStep h (a+1) hp' a y with e2 | ⟨l, r, v, e0, _⟩
      · exact ⟨e2.trans e.1, by rw [rootH_size]; exact e.2⟩
      · exact absurd ⟨l, r, e.1 ▸ e0⟩ hy) hnp hp hw ⟨rfl, hlt⟩).2.1

theorem run_topMemo (h : HashFn) {p : Prog α} (hnp : NoPoke p) {x : Nat} (hp : Heap) (hw : WF hp)
    (ht : TopMemo hp x) : TopMemo (run h p hp).2.1 x :=
  topMemo_congr (run_keep h hnp hp hw (topMemo_lt ht) (fun ⟨_, _, e⟩ => ht.memo_ne e rfl)) ht

theorem memoClosed_push {hp : Heap} (hc : MemoClosed hp) {c : Cell} (hf : Fresh hp c) :
    MemoClosed (hp.push c) := by
  intro a m l r ha hm
  rcases get_push_some ha with ha | ⟨rfl, rfl⟩
  · obtain ⟨t1, t2⟩ := hc a m l r ha hm
    exact ⟨topMemo_pext (pext_push hp c) t1, topMemo_pext (pext_push hp c) t2⟩
  · exact absurd hf.1 hm

theorem run_memoClosed (h : HashFn) (hz : NoZeroOut h) {p : Prog α} (hnp : NoPoke p) (hp : Heap)
    (hw : WF hp) (hc : MemoClosed hp) : MemoClosed (run h p hp).2.1 :=
  (run_inv h (P := MemoClosed) (fun _ _ _ hf hc => memoClosed_push hc hf)
    (fun _ a hw _ hc => rootH_memoClosed h hz hw hc (Nat.lt_succ_self a)) hnp hp hw hc).2

/-! ### single requests; soundness of the executable checks -/

theorem run_root1 (h : HashFn) {hp : Heap} {x : Nat} (hx : x < hp.size) :
    run h (Prog.root1 x) hp =
      (some (rootH h (x+1) hp x).1, (rootH h (x+1) hp x).2.1, (rootH h (x+1) hp x).2.2) := by
  unfold Prog.root1
  rw [run_root_ok h _ hx, run_ret, pre, Trace.app_nil]

theorem run_root1_top (h : HashFn) {hp : Heap} {x : Nat} (ht : TopMemo hp x) :
    (run h (Prog.root1 x) hp).2.2.calls = 0 ∧ (run h (Prog.root1 x) hp).2.2.writes = []
      ∧ (run h (Prog.root1 x) hp).2.1 = hp := by
  rw [run_root1 h (topMemo_lt ht)]
  obtain ⟨e, w, c⟩ := rootH_top h (f := x+1) ht
  exact ⟨c, w, e⟩

theorem run_root1_topMemo (h : HashFn) (hz : NoZeroOut h) {hp : Heap} (hw : WF hp) {x : Nat}
    (hx : x < hp.size) : TopMemo (run h (Prog.root1 x) hp).2.1 x := by
  rw [run_root1 h hx]
  exact (rootH_eff h hz _ hp x hw (Nat.lt_succ_self x)).topMemo hz hx (fun ⟨l, r, e⟩ => .here l r e)

theorem unset_of_get {hp : Heap} {y l r : Nat} (e : hp[y]? = some (Cell.pair z0 l r)) :
    (hp[y]?).map Cell.isUnsetPair = some true := by
  rw [e]; simp [Cell.isUnsetPair]

theorem topMemoB_sound {hp : Heap} {a : Nat} (hb : topMemoB hp a = true) : TopMemo hp a := by
  unfold topMemoB at hb
  cases ha : hp[a]? with
  | none => rw [ha] at hb; cases hb
  | some c =>
    refine topMemo_of_get ha (fun l r e => ?_)
    rw [ha, e] at hb
    simp at hb

theorem memoClosedB_sound {hp : Heap} (hb : memoClosedB hp = true) : MemoClosed hp := by
  intro a m l r ha hm
  have := all_range_get hb ha
  rw [ha] at this
  simp only [Bool.or_eq_true, decide_eq_true_eq, Bool.and_eq_true] at this
  rcases this with e | ⟨h1, h2⟩
  · exact absurd e hm
  · exact ⟨topMemoB_sound h1, topMemoB_sound h2⟩

/-- a hash function that may return the zero root -/
def zeroHash : HashFn := fun _ _ => z0

end ZtypV.H
