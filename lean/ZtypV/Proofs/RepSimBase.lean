/-
C04 "typed mutations behave like a plain value model": the simulation relation `Sim` between the
object machine's store (`stepM`) and the value machine's store (`stepV`) of Model/Sim.lean, the
per-type side condition `TyGood`, what the harness guarantees about the arguments of an
operation (`OpOk`), and whole histories (`runM` / `runV` / `OpsOk`).
-/
import ZtypV.Proofs.RepMut
import ZtypV.Proofs.RepView
import ZtypV.Proofs.Sizes
namespace ZtypV
open ZtypV.View ZtypV.Sim

/-- a type on which the view layer agrees with the spec on every read and mutation:
    well-formed, navigable (`inRange`: depths < 64, limits < 2^64), and no `Vector/List` of
    `boolean` anywhere inside (finding D3: their `hash_tree_root` differs).
    The fourth condition one might expect, `t.maxSize < 2^32` (`Serialize` panics when an offset
    does not fit `uint32`), is NOT part of it: the harness uses limits up to 2^40, so it is asked
    per observation instead (`ObsOk`, implied by `TySmall`). -/
def TyGood (t : Ty) : Prop :=
  t.wf = true ∧ inRange t = true ∧ noBoolSeries t = true

instance (t : Ty) : Decidable (TyGood t) := by unfold TyGood; exact inferInstance

/-- every value of the type has an encoding shorter than `2^32` bytes (`C15_sound`) -/
def TySmall (t : Ty) : Prop := t.maxSize < 2 ^ 32

instance (t : Ty) : Decidable (TySmall t) := by unfold TySmall; exact inferInstance

theorem TyGood.wf {t : Ty} (h : TyGood t) : t.wf = true := h.1
theorem TyGood.inRange {t : Ty} (h : TyGood t) : inRange t = true := h.2.1
theorem TyGood.noBool {t : Ty} (h : TyGood t) : noBoolSeries t = true := h.2.2
theorem TyGood.depthOk {t : Ty} (h : TyGood t) : DepthOk t := depthOk_of_inRange t h.inRange

theorem tyGood_basic_bool : TyGood .bool := by decide

theorem TyGood.vector_elem {e : Ty} {k : Nat} (h : TyGood (.vector e k)) : TyGood e := by
  obtain ⟨hw, hr, hn⟩ := h
  simp only [Ty.wf, Bool.and_eq_true, decide_eq_true_eq] at hw
  simp only [View.inRange, Bool.and_eq_true] at hr
  simp only [noBoolSeries, Bool.and_eq_true] at hn
  exact ⟨hw.2, hr.2, hn.2⟩

theorem TyGood.list_elem {e : Ty} {lim : Nat} (h : TyGood (.list e lim)) : TyGood e := by
  obtain ⟨hw, hr, hn⟩ := h
  simp only [Ty.wf] at hw
  simp only [View.inRange, Bool.and_eq_true] at hr
  simp only [noBoolSeries, Bool.and_eq_true] at hn
  exact ⟨hw, hr.2, hn.2⟩

theorem TyGood.field {fs : List Ty} {i : Nat} {ft : Ty} (h : TyGood (.container fs))
    (hi : fs[i]? = some ft) : TyGood ft := by
  obtain ⟨hw, hr, hn⟩ := h
  simp only [Ty.wf, Bool.and_eq_true] at hw
  simp only [View.inRange, Bool.and_eq_true] at hr
  simp only [noBoolSeries] at hn
  exact ⟨View.wfAll_get fs i ft hw.2 hi, View.inRangeAll_get fs i ft hr.2 hi,
    ViewRoot.noBoolSeriesAll_mem fs ft hn (List.mem_of_getElem? hi)⟩

theorem TyGood.opt_mem {hasNone : Bool} {opts : List Ty} {ot : Ty}
    (h : TyGood (.union hasNone opts)) (hm : ot ∈ opts) : TyGood ot := by
  obtain ⟨hw, hr, hn⟩ := h
  obtain ⟨k, hk⟩ := List.getElem?_of_mem hm
  simp only [Ty.wf, Bool.and_eq_true] at hw
  simp only [View.inRange] at hr
  simp only [noBoolSeries] at hn
  exact ⟨wfAll_mem opts hw.1.2 ot hm, View.inRangeAll_get opts k ot hr hk,
    ViewRoot.noBoolSeriesAll_mem opts ot hn hm⟩

theorem TyGood.opt {hasNone : Bool} {opts : List Ty} {sel : Nat} {ot : Ty}
    (h : TyGood (.union hasNone opts)) (ho : unionOpt hasNone opts sel = some ot) : TyGood ot :=
  h.opt_mem (List.mem_of_getElem? (unionOpt_some ho).2.2)

theorem TyGood.slotTy {t : Ty} (h : TyGood t) (i : Nat) : TyGood (slotTy t i) := by
  cases t with
  | vector e k => exact h.vector_elem
  | list e lim => exact h.list_elem
  | container fs =>
    show TyGood ((fs[i]?).getD (fs.headD .bool))
    cases hf : fs[i]? with
    | some ft => exact h.field hf
    | none =>
      cases fs with
      | nil => exact tyGood_basic_bool
      | cons a _ => exact h.field (i := 0) rfl
  | _ => exact tyGood_basic_bool

theorem valElem_slotTy {t : Ty} {v : Val} {i : Nat} {et : Ty} {x : Val}
    (he : valElem t v i = some (et, x)) : et = slotTy t i := by
  unfold valElem at he
  split at he <;>
    simp only [Option.map_eq_some_iff, Option.bind_eq_bind, Option.bind_eq_some_iff,
      Option.pure_def, Option.some.injEq, Prod.mk.injEq, reduceCtorEq] at he
  · obtain ⟨_, _, rfl, _⟩ := he; rfl
  · obtain ⟨_, _, rfl, _⟩ := he; rfl
  · next fs _ =>
    obtain ⟨ft, hf, _, _, rfl, _⟩ := he
    show ft = (fs[i]?).getD _
    rw [hf]; rfl
  · obtain ⟨_, _, rfl, _⟩ := he; rfl
  · obtain ⟨_, _, rfl, _⟩ := he; rfl

theorem TyGood.valElem {t : Ty} {v : Val} {i : Nat} {et : Ty} {x : Val} (h : TyGood t)
    (he : valElem t v i = some (et, x)) : TyGood et :=
  valElem_slotTy he ▸ h.slotTy i

theorem slotTyV_eq (t : Ty) (i : Nat) : slotTyV t i = slotTy t i := by
  cases t <;> rfl

/-- parents whose `Get` hands out hooked element views (`Sim.hooked`): complex series and
    containers — exactly the types whose slots hold element nodes -/
def hookParent : Ty → Bool
  | .vector e _ | .list e _ => !isBasicElem e
  | .container _ => true
  | _ => false

theorem hookParent_packedSlot {t : Ty} (h : hookParent t = true) : packedSlot t = false := by
  cases t <;> first | rfl | cases h | exact (Bool.not_eq_true' _).mp h

theorem hooked_hookParent {pt et : Ty} (h : hooked pt et = true) : hookParent pt = true :=
  (Bool.and_eq_true_iff.mp h).2

/-- one view object against one plain value -/
structure ObjRel (h : HashFn) (o : VObj) (vo : VObjV) : Prop where
  ty_eq : vo.ty = o.ty
  hook_eq : vo.parent = o.hook
  good : TyGood o.ty
  typed : hasType o.ty vo.val = true
  rep : Rep h o.ty vo.val o.node

/-- hook well-formedness of object `id`: the parent was created earlier, is a complex series
    or a container, and its slot type is this object's type -/
def HookOk (ms : Store) (id : Nat) (o : VObj) : Prop :=
  ∀ p slot, o.hook = some (p, slot) →
    p < id ∧ ∃ po, ms[p]? = some po ∧ hookParent po.ty = true ∧ slotTy po.ty slot = o.ty

/-- the simulation relation between the object store and the value store.  Every object
    is related to its own value individually; a child's value is NOT required to equal the
    parent's slot (a stale sub-view legitimately differs). -/
def Sim (h : HashFn) (ms : Store) (vs : VStore) : Prop :=
  ms.size = vs.size ∧
  ∀ id o, ms[id]? = some o → ∃ vo, vs[id]? = some vo ∧ ObjRel h o vo ∧ HookOk ms id o

/-- the size side condition of `Serialize` for the observation of one object: the type writes no
    offsets, or every encoding of the type fits `uint32`, or the current value's byte length
    (as the view itself reports it) does -/
def ObsOk (o : VObj) : Prop :=
  offsetFree o.ty = true ∨ TySmall o.ty ∨ ∃ n, valueByteLength o.ty o.node = .ok n ∧ n < 2 ^ 32

/-- argument well-formedness of one operation in store `ms` (nothing is required for unknown
    handles: both machines answer `nohandle`) -/
def OpOk (ms : Store) : Op → Prop
  | .set id i x => ∀ o, ms[id]? = some o → hasType (slotTy o.ty i) x = true
  | .app id x => ∀ o, ms[id]? = some o → hasType (slotTy o.ty 0) x = true
  | .setv id i s => ∀ o so, ms[id]? = some o → ms[s]? = some so → so.ty = slotTy o.ty i
  | .appv id s => ∀ o so, ms[id]? = some o → ms[s]? = some so → so.ty = slotTy o.ty 0
  | .chg id sel x => ∀ o hasNone opts, ms[id]? = some o → o.ty = .union hasNone opts →
      sel < 256 ∧ (x = .none → sel = 0 → hasNone = true) ∧
      (x ≠ .none → ¬ (hasNone = true ∧ sel = 0)) ∧
      (x ≠ .none → hasType ((unionOpt hasNone opts sel).getD (opts.headD .bool)) x = true)
  | .obs id => ∀ o, ms[id]? = some o → ObsOk o
  | _ => True

def runM (h : HashFn) : Store → List Op → List Out
  | _, [] => []
  | st, op :: ops => (stepM h st op).2 :: runM h (stepM h st op).1 ops

def runV (h : HashFn) : VStore → List Op → List Out
  | _, [] => []
  | st, op :: ops => (stepV h st op).2 :: runV h (stepV h st op).1 ops

def finalM (h : HashFn) : Store → List Op → Store
  | st, [] => st
  | st, op :: ops => finalM h (stepM h st op).1 ops

def finalV (h : HashFn) : VStore → List Op → VStore
  | st, [] => st
  | st, op :: ops => finalV h (stepV h st op).1 ops

/-- `OpOk` along the run (each operation is checked in the store it is applied to) -/
def OpsOk (h : HashFn) : Store → List Op → Prop
  | _, [] => True
  | st, op :: ops => OpOk st op ∧ OpsOk h (stepM h st op).1 ops

theorem Sim.size_eq {h : HashFn} {ms : Store} {vs : VStore} (hs : Sim h ms vs) : ms.size = vs.size := hs.1

theorem Sim.lookup {h : HashFn} {ms : Store} {vs : VStore} (hs : Sim h ms vs) {id : Nat} {o : VObj}
    (hm : ms[id]? = some o) : ∃ vo, vs[id]? = some vo ∧ ObjRel h o vo ∧ HookOk ms id o := hs.2 id o hm

/-- `Sim.lookup` with the value object spelled out: it repeats the object's type and hook -/
theorem Sim.lookup_val {h : HashFn} {ms : Store} {vs : VStore} (hs : Sim h ms vs) {id : Nat} {o : VObj}
    (hm : ms[id]? = some o) :
    ∃ v, vs[id]? = some ⟨o.ty, v, o.hook⟩ ∧ TyGood o.ty ∧ hasType o.ty v = true ∧
      Rep h o.ty v o.node := by
  obtain ⟨⟨ty, v, par⟩, hv, hrel, _⟩ := hs.lookup hm
  cases hrel.ty_eq; cases hrel.hook_eq
  exact ⟨v, hv, hrel.good, hrel.typed, hrel.rep⟩

theorem Sim.lookup_none {h : HashFn} {ms : Store} {vs : VStore} (hs : Sim h ms vs) {id : Nat}
    (hm : ms[id]? = none) : vs[id]? = none := by
  rw [Array.getElem?_eq_none_iff] at hm ⊢
  rw [← hs.1]; exact hm

theorem lookup_lt {α : Type} {xs : Array α} {i : Nat} {a : α} (h : xs[i]? = some a) : i < xs.size := by
  obtain ⟨hlt, _⟩ := Array.getElem?_eq_some_iff.mp h
  exact hlt

/-- `HookOk` only looks at the types of earlier objects -/
theorem HookOk.mono {ms ms' : Store} {id : Nat} {o o' : VObj}
    (hk : HookOk ms id o) (hh : o'.hook = o.hook) (ht : o'.ty = o.ty)
    (hty : ∀ (p : Nat) (po : VObj), ms[p]? = some po → ∃ po' : VObj, ms'[p]? = some po' ∧ po'.ty = po.ty) :
    HookOk ms' id o' := by
  intro p slot hp
  rw [hh] at hp
  obtain ⟨hlt, po, hpo, hpar, hslot⟩ := hk p slot hp
  obtain ⟨po', hpo', hty'⟩ := hty p po hpo
  exact ⟨hlt, po', hpo', by rw [hty']; exact hpar, by rw [hty', ht]; exact hslot⟩

theorem Sim.set {h : HashFn} {ms : Store} {vs : VStore} (hs : Sim h ms vs) {id : Nat} {o : VObj}
    {vo : VObjV} (hm : ms[id]? = some o) (hv : vs[id]? = some vo) {nv : Val} {b : Node}
    (hr : Rep h o.ty nv b) (ht : hasType o.ty nv = true) :
    Sim h (ms.set! id { o with node := b }) (vs.set! id { vo with val := nv }) := by
  have hself : (ms.set! id { o with node := b })[id]? = some { o with node := b } :=
    Array.getElem?_setIfInBounds_self_of_lt (lookup_lt hm)
  have hty : ∀ (p : Nat) (po : VObj), ms[p]? = some po →
      ∃ po' : VObj, (ms.set! id { o with node := b })[p]? = some po' ∧ po'.ty = po.ty := by
    intro p po hpo
    by_cases hp : id = p
    · subst hp
      cases hm.symm.trans hpo
      exact ⟨_, hself, rfl⟩
    · exact ⟨po, (Array.getElem?_setIfInBounds_ne hp).trans hpo, rfl⟩
  refine ⟨by simp only [Array.set!_eq_setIfInBounds, Array.size_setIfInBounds]; exact hs.1, ?_⟩
  intro j oj hj
  by_cases hp : id = j
  · subst hp
    cases hself.symm.trans hj
    obtain ⟨vo', hvo', hrel, hk⟩ := hs.lookup hm
    cases hv.symm.trans hvo'
    exact ⟨_, Array.getElem?_setIfInBounds_self_of_lt (lookup_lt hv),
      ⟨hrel.ty_eq, hrel.hook_eq, hrel.good, ht, hr⟩, hk.mono rfl rfl hty⟩
  · obtain ⟨voj, hvoj, hrel, hk⟩ := hs.lookup ((Array.getElem?_setIfInBounds_ne hp).symm.trans hj)
    exact ⟨voj, (Array.getElem?_setIfInBounds_ne hp).trans hvoj, hrel, hk.mono rfl rfl hty⟩

theorem Sim.push {h : HashFn} {ms : Store} {vs : VStore} (hs : Sim h ms vs) {o : VObj} {vo : VObjV}
    (hrel : ObjRel h o vo) (hk : HookOk ms ms.size o) : Sim h (ms.push o) (vs.push vo) := by
  have hty : ∀ (p : Nat) (po : VObj), ms[p]? = some po →
      ∃ po' : VObj, (ms.push o)[p]? = some po' ∧ po'.ty = po.ty := by
    intro p po hpo
    have hlt := lookup_lt hpo
    rw [Array.getElem?_push, if_neg (by omega)]
    exact ⟨po, hpo, rfl⟩
  refine ⟨by simp only [Array.size_push, hs.1], ?_⟩
  intro j oj hj
  rw [Array.getElem?_push] at hj
  rw [Array.getElem?_push, ← hs.1]
  by_cases hp : j = ms.size
  · simp only [hp, if_true, Option.some.injEq] at hj ⊢
    subst hj
    exact ⟨_, rfl, hrel, hk.mono rfl rfl hty⟩
  · simp only [hp, if_false] at hj ⊢
    obtain ⟨voj, hvoj, hrelj, hkj⟩ := hs.lookup hj
    exact ⟨voj, hvoj, hrelj, hkj.mono rfl rfl hty⟩

theorem Sim.push_root {h : HashFn} {ms : Store} {vs : VStore} (hs : Sim h ms vs) {t : Ty} {v : Val}
    {n : Node} (hg : TyGood t) (hv : hasType t v = true) (hr : Rep h t v n) :
    Sim h (ms.push { ty := t, node := n, hook := none })
      (vs.push { ty := t, val := v, parent := none }) :=
  hs.push ⟨rfl, rfl, hg, hv, hr⟩ nofun

end ZtypV
