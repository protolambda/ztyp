/-
C04: typed mutators on views whose slots hold element *nodes* (complex vector / list,
container, union): `hookSet`, `Set`, `Get`, `Append`, `Pop`, `Change` preserve `Rep` and agree
with the value-level operations of Model/Sim.lean, error cases included.
Only the tree-level interface of Proofs/Shape.lean is used (`shape_set`, `shape_get`,
`listShape_*`).
-/
import ZtypV.Proofs.RepMutBase
namespace ZtypV
open ZtypV.View ZtypV.Sim
namespace RepMut

/-- outcome of a mutator `r` against the value-level result `ov` -/
def MutSpec (h : HashFn) (t : Ty) (ov : Option Val) (r : R Node) : Prop :=
  match ov with
  | some v' => ∃ n', r = .ok n' ∧ Rep h t v' n' ∧ hasType t v' = true
  | none => ∃ e, r = .error e ∧ e ≠ .panic

/-- outcome of the typed getter against the value-level element read -/
def GetSpec (h : HashFn) (ov : Option (Ty × Val)) (r : R (Ty × Node)) : Prop :=
  match ov with
  | some (et, x) => ∃ en, r = .ok (et, en) ∧ Rep h et x en ∧ viewFromBackingOk et en = true ∧
      hasType et x = true
  | none => ∃ e, r = .error e ∧ e ≠ .panic

theorem mutSpec_err (h : HashFn) (t : Ty) : MutSpec h t none (.error .other) :=
  ⟨.other, rfl, by decide⟩

theorem getSpec_err (h : HashFn) : GetSpec h none (.error .other) :=
  ⟨.other, rfl, by decide⟩

/-! ### slot writes at the shape level -/

theorem seqShape_subtreeSet (h : HashFn) {d : Nat} {n : Node} {xs : List Node} {i : Nat}
    (hs : SeqShape h d n xs) (hi : i < xs.length) (hd : d < 64) (x : Node) :
    ∃ n', subtreeSet h n d i x = .ok n' ∧ SeqShape h d n' (xs.set i x) := by
  obtain ⟨p, n', hp, hset, hs'⟩ := shape_set h hs hi hd x false
  exact ⟨n', by simp only [subtreeSet, hp, R.bind_ok, hset], hs'⟩

theorem listShape_subtreeSet (h : HashFn) {d : Nat} {n : Node} {xs : List Node} {len i : Nat}
    (hs : ListShape h d n xs len) (hi : i < xs.length) (hd : d + 1 < 64) (x : Node) :
    ∃ n', subtreeSet h n (d + 1) i x = .ok n' ∧ ListShape h d n' (xs.set i x) len := by
  obtain ⟨p, n', hp, hset, hs'⟩ := listShape_set h hs hi hd x false
  exact ⟨n', by simp only [subtreeSet, hp, R.bind_ok, hset], hs'⟩

/-! ### `Rep` of the three kinds of view with element nodes -/

theorem viewDepth_vector_complex {e : Ty} (k : Nat) (hbe : isBasicElem e = false) :
    viewDepth (.vector e k) = coverDepth k := by simp [viewDepth, seriesDepth, hbe]

theorem viewDepth_list_complex {e : Ty} (lim : Nat) (hbe : isBasicElem e = false) :
    viewDepth (.list e lim) = coverDepth lim + 1 := by simp [viewDepth, seriesDepth, hbe]

theorem rep_vector_complex_iff (h : HashFn) {e : Ty} (k : Nat) (hbe : isBasicElem e = false)
    (vs : List Val) (n : Node) :
    Rep h (.vector e k) (.seq vs) n ↔
      vs.length = k ∧ ∃ xs, RepList h e vs xs ∧ SeqShape h (coverDepth k) n xs := by
  simp only [Rep, hbe, Bool.false_eq_true, if_false]

theorem rep_list_complex_iff (h : HashFn) {e : Ty} (lim : Nat) (hbe : isBasicElem e = false)
    (vs : List Val) (n : Node) :
    Rep h (.list e lim) (.seq vs) n ↔
      vs.length ≤ lim ∧ ∃ xs, RepList h e vs xs ∧ ListShape h (coverDepth lim) n xs vs.length := by
  simp only [Rep, hbe, Bool.false_eq_true, if_false]

theorem rep_container_iff (h : HashFn) (fs : List Ty) (vs : List Val) (n : Node) :
    Rep h (.container fs) (.seq vs) n ↔
      ∃ xs, RepFields h fs vs xs ∧ SeqShape h (coverDepth fs.length) n xs := by
  simp only [Rep]

/-- the pieces of `Rep` of a complex vector, with the depth bound -/
theorem rep_vector_complex_inv (h : HashFn) {e : Ty} {k : Nat} {vs : List Val} {n : Node}
    (hd : DepthOk (.vector e k)) (hbe : isBasicElem e = false)
    (hr : Rep h (.vector e k) (.seq vs) n) :
    vs.length = k ∧ coverDepth k < 64 ∧
      ∃ xs, xs.length = vs.length ∧ RepList h e vs xs ∧ SeqShape h (coverDepth k) n xs := by
  obtain ⟨hlen, xs, hrl, hs⟩ := (rep_vector_complex_iff h k hbe vs n).mp hr
  simp only [DepthOk, seriesDepth, hbe, Bool.false_eq_true, if_false] at hd
  exact ⟨hlen, hd, xs, repList_length h e vs xs hrl, hrl, hs⟩

/-- the pieces of `Rep` of a complex list, with the length read -/
theorem rep_list_complex_inv (h : HashFn) {e : Ty} {lim : Nat} {vs : List Val} {n : Node}
    (hd : DepthOk (.list e lim)) (hbe : isBasicElem e = false)
    (hr : Rep h (.list e lim) (.seq vs) n) :
    vs.length ≤ lim ∧ coverDepth lim + 1 < 64 ∧ listLength n lim = .ok vs.length ∧
      ∃ xs, xs.length = vs.length ∧ RepList h e vs xs ∧ ListShape h (coverDepth lim) n xs vs.length := by
  obtain ⟨hlen, xs, hrl, hs⟩ := (rep_list_complex_iff h lim hbe vs n).mp hr
  simp only [DepthOk, seriesDepth, hbe, Bool.false_eq_true, if_false] at hd
  exact ⟨hlen, hd.2, listShape_length h hs hlen (by omega), xs, repList_length h e vs xs hrl, hrl, hs⟩

theorem rep_container_inv (h : HashFn) {fs : List Ty} {vs : List Val} {n : Node}
    (hd : DepthOk (.container fs)) (hr : Rep h (.container fs) (.seq vs) n) :
    coverDepth fs.length < 64 ∧ ∃ xs, vs.length = fs.length ∧ xs.length = fs.length ∧
      RepFields h fs vs xs ∧ SeqShape h (coverDepth fs.length) n xs := by
  obtain ⟨xs, hrf, hs⟩ := (rep_container_iff h fs vs n).mp hr
  obtain ⟨hvl, hxl⟩ := repFields_length h fs vs xs hrf
  exact ⟨hd, xs, hvl, hxl, hrf, hs⟩

/-! ### parent-side write-back (`hookSet`) -/

theorem hookSet_vector (h : HashFn) (e : Ty) (k : Nat) (vs : List Val) (n : Node) (i : Nat)
    (x : Val) (en : Node)
    (hd : DepthOk (.vector e k)) (hbe : isBasicElem e = false)
    (ht : hasType (.vector e k) (.seq vs) = true) (hr : Rep h (.vector e k) (.seq vs) n)
    (hx : hasType e x = true) (hen : Rep h e x en) :
    MutSpec h (.vector e k) (valSet (.vector e k) (.seq vs) i x) (hookSet h (.vector e k) n i en) := by
  obtain ⟨hlen, hdd, xs, hxl, hrl, hs⟩ := rep_vector_complex_inv h hd hbe hr
  unfold valSet hookSet
  simp only [viewDepth_vector_complex k hbe]
  by_cases hi : i < vs.length
  · rw [if_pos hi, if_neg (by omega)]
    obtain ⟨n', hset, hs'⟩ := seqShape_subtreeSet h hs (by omega : i < xs.length) hdd en
    exact ⟨n', hset, (rep_vector_complex_iff h k hbe _ n').mpr
      ⟨by rw [List.length_set]; exact hlen, _, repList_set h e x en hen vs xs i hrl, hs'⟩,
      valSet_hasType _ _ i x _ ht hx (if_pos hi)⟩
  · rw [if_neg hi, if_pos (by omega)]
    exact mutSpec_err h _

theorem hookSet_list (h : HashFn) (e : Ty) (lim : Nat) (vs : List Val) (n : Node) (i : Nat)
    (x : Val) (en : Node)
    (hd : DepthOk (.list e lim)) (hbe : isBasicElem e = false)
    (ht : hasType (.list e lim) (.seq vs) = true) (hr : Rep h (.list e lim) (.seq vs) n)
    (hx : hasType e x = true) (hen : Rep h e x en) :
    MutSpec h (.list e lim) (valSet (.list e lim) (.seq vs) i x) (hookSet h (.list e lim) n i en) := by
  obtain ⟨hlen, hdd, hll, xs, hxl, hrl, hs⟩ := rep_list_complex_inv h hd hbe hr
  unfold valSet hookSet
  simp only [viewDepth_list_complex lim hbe, hll, R.bind_ok]
  by_cases hi : i < vs.length
  · rw [if_pos hi, if_neg (by omega), if_neg (by omega)]
    obtain ⟨n', hset, hs'⟩ := listShape_subtreeSet h hs (by omega : i < xs.length) hdd en
    exact ⟨n', hset, (rep_list_complex_iff h lim hbe _ n').mpr
      ⟨by rw [List.length_set]; exact hlen, _, repList_set h e x en hen vs xs i hrl,
        by rw [List.length_set]; exact hs'⟩,
      valSet_hasType _ _ i x _ ht hx (if_pos hi)⟩
  · rw [if_neg hi, if_pos (by omega)]
    exact mutSpec_err h _

theorem hookSet_container (h : HashFn) (fs : List Ty) (vs : List Val) (n : Node) (i : Nat)
    (x : Val) (en : Node)
    (hd : DepthOk (.container fs))
    (ht : hasType (.container fs) (.seq vs) = true) (hr : Rep h (.container fs) (.seq vs) n)
    (hx : hasType (slotTy (.container fs) i) x = true) (hen : Rep h (slotTy (.container fs) i) x en) :
    MutSpec h (.container fs) (valSet (.container fs) (.seq vs) i x)
      (hookSet h (.container fs) n i en) := by
  obtain ⟨hdd, xs, hvl, hxl, hrf, hs⟩ := rep_container_inv h hd hr
  unfold valSet hookSet
  simp only [viewDepth]
  by_cases hi : i < vs.length
  · have hif : i < fs.length := by omega
    rw [if_pos hi, if_neg (by omega)]
    obtain ⟨n', hset, hs'⟩ := seqShape_subtreeSet h hs (by omega : i < xs.length) hdd en
    rw [slotTy_container hif] at hen
    exact ⟨n', hset, (rep_container_iff h fs _ n').mpr ⟨_, repFields_set h x en fs vs xs i hif hen hrf, hs'⟩,
      valSet_hasType _ _ i x _ ht hx (if_pos hi)⟩
  · rw [if_neg hi, if_pos (by omega)]
    exact mutSpec_err h _

/-! ### `Set` on complex slots is the hook write -/

theorem set_eq_hookSet (h : HashFn) (t : Ty) (n : Node) (i : Nat) (x : Val) (en : Node)
    (hc : packedSlot t = false) : Mut.set h t n i x en = hookSet h t n i en := by
  cases t with
  | vector e k | list e lim =>
    have hbe : isBasicElem e = false := hc
    unfold Mut.set hookSet
    simp only [hbe, Bool.false_eq_true, if_false]
  | bitvector _ | bitlist _ => cases hc
  | _ => rfl

/-! ### `Get` -/

theorem getElem_vector_complex (h : HashFn) (e : Ty) (k : Nat) (vs : List Val) (n : Node) (i : Nat)
    (hd : DepthOk (.vector e k)) (hbe : isBasicElem e = false)
    (ht : hasType (.vector e k) (.seq vs) = true) (hr : Rep h (.vector e k) (.seq vs) n) :
    GetSpec h (valElem (.vector e k) (.seq vs) i) (getElemNode (.vector e k) n i) := by
  simp only [hasType, Bool.and_eq_true, beq_iff_eq] at ht
  obtain ⟨hlen, hdd, xs, hxl, hrl, hs⟩ := rep_vector_complex_inv h hd hbe hr
  unfold valElem getElemNode
  simp only [viewDepth_vector_complex k hbe, hbe, Bool.false_eq_true, if_false]
  by_cases hi : i < vs.length
  · have hix : i < xs.length := by omega
    rw [List.getElem?_eq_getElem hi, if_neg (by omega), shape_get h hs hix hdd]
    have hre := repList_get h e vs xs hrl i hi hix
    exact ⟨_, rfl, hre, rep_viewOk h e _ _ hre, allHaveType_getElem e vs ht.2 i hi⟩
  · rw [List.getElem?_eq_none (by omega), if_pos (by omega)]
    exact getSpec_err h

theorem getElem_list_complex (h : HashFn) (e : Ty) (lim : Nat) (vs : List Val) (n : Node) (i : Nat)
    (hd : DepthOk (.list e lim)) (hbe : isBasicElem e = false)
    (ht : hasType (.list e lim) (.seq vs) = true) (hr : Rep h (.list e lim) (.seq vs) n) :
    GetSpec h (valElem (.list e lim) (.seq vs) i) (getElemNode (.list e lim) n i) := by
  simp only [hasType, Bool.and_eq_true, decide_eq_true_eq] at ht
  obtain ⟨hlen, hdd, hll, xs, hxl, hrl, hs⟩ := rep_list_complex_inv h hd hbe hr
  unfold valElem getElemNode
  simp only [viewDepth_list_complex lim hbe, hbe, Bool.false_eq_true, if_false, hll, R.bind_ok]
  by_cases hi : i < vs.length
  · have hix : i < xs.length := by omega
    rw [List.getElem?_eq_getElem hi, if_neg (by omega), if_neg (by omega),
      listShape_get h hs hix hdd]
    have hre := repList_get h e vs xs hrl i hi hix
    exact ⟨_, rfl, hre, rep_viewOk h e _ _ hre, allHaveType_getElem e vs ht.2 i hi⟩
  · rw [List.getElem?_eq_none (by omega), if_pos (by omega)]
    exact getSpec_err h

theorem getElem_container (h : HashFn) (fs : List Ty) (vs : List Val) (n : Node) (i : Nat)
    (hd : DepthOk (.container fs))
    (ht : hasType (.container fs) (.seq vs) = true) (hr : Rep h (.container fs) (.seq vs) n) :
    GetSpec h (valElem (.container fs) (.seq vs) i) (getElemNode (.container fs) n i) := by
  simp only [hasType] at ht
  obtain ⟨hdd, xs, hvl, hxl, hrf, hs⟩ := rep_container_inv h hd hr
  unfold valElem getElemNode
  simp only [viewDepth]
  by_cases hi : i < fs.length
  · have hiv : i < vs.length := by omega
    have hix : i < xs.length := by omega
    rw [List.getElem?_eq_getElem hi, List.getElem?_eq_getElem hiv]
    simp only [shape_get h hs hix hdd, R.bind_ok]
    have hre := repFields_get h fs vs xs hrf i hi hiv hix
    exact ⟨_, rfl, hre, rep_viewOk h _ _ _ hre, fieldsHaveType_getElem fs vs ht i hi hiv⟩
  · rw [List.getElem?_eq_none (by omega)]
    exact getSpec_err h

/-! ### `Append` / `Pop` on complex lists -/

theorem append_list_complex (h : HashFn) (e : Ty) (lim : Nat) (vs : List Val) (n : Node)
    (x : Val) (en : Node)
    (hd : DepthOk (.list e lim)) (hbe : isBasicElem e = false)
    (ht : hasType (.list e lim) (.seq vs) = true) (hr : Rep h (.list e lim) (.seq vs) n)
    (hx : hasType e x = true) (hen : Rep h e x en) :
    MutSpec h (.list e lim) (valAppend (.list e lim) (.seq vs) x)
      (Mut.append h (.list e lim) n x en) := by
  obtain ⟨hlen, hdd, hll, xs, hxl, hrl, hs⟩ := rep_list_complex_inv h hd hbe hr
  unfold valAppend Mut.append
  simp only [viewDepth_list_complex lim hbe, hbe, Bool.false_eq_true, if_false, hll, R.bind_ok]
  by_cases hi : vs.length < lim
  · rw [if_pos hi, if_neg (by omega)]
    have hcap : xs.length < 2 ^ coverDepth lim := by
      have := le_two_pow_coverDepth lim; omega
    obtain ⟨p, n1, hp, hset, hs1⟩ := listShape_append h hs hcap hdd en
    obtain ⟨n2, hsl, hs2⟩ := listShape_setLength h hs1 (vs.length + 1)
    rw [hxl] at hp
    exact ⟨n2, by simp only [hp, R.bind_ok, hset, hsl], (rep_list_complex_iff h lim hbe _ n2).mpr
      ⟨by rw [List.length_append]; exact hi, _, repList_append h e x en hen vs xs hrl,
        by rw [List.length_append]; exact hs2⟩,
      valAppend_hasType _ _ x _ ht hx (if_pos hi)⟩
  · rw [if_neg hi, if_pos (by omega)]
    exact mutSpec_err h _

theorem pop_list_complex (h : HashFn) (e : Ty) (lim : Nat) (vs : List Val) (n : Node)
    (hd : DepthOk (.list e lim)) (hbe : isBasicElem e = false)
    (ht : hasType (.list e lim) (.seq vs) = true) (hr : Rep h (.list e lim) (.seq vs) n) :
    MutSpec h (.list e lim) (valPop (.list e lim) (.seq vs)) (Mut.pop h (.list e lim) n) := by
  obtain ⟨hlen, hdd, hll, xs, hxl, hrl, hs⟩ := rep_list_complex_inv h hd hbe hr
  unfold valPop Mut.pop
  simp only [viewDepth_list_complex lim hbe, hbe, Bool.false_eq_true, if_false, hll, R.bind_ok,
    List.isEmpty_iff_length_eq_zero]
  by_cases hi : vs.length = 0
  · rw [if_pos hi, if_pos hi]
    exact mutSpec_err h _
  · rw [if_neg hi, if_neg hi]
    have hxne : xs ≠ [] := fun hnil => hi (by rw [← hxl, hnil]; rfl)
    obtain ⟨p, n1, hp, hset, hs1⟩ := listShape_pop h hs hxne hdd
    obtain ⟨n2, hsl, hs2⟩ := listShape_setLength h hs1 (vs.length - 1)
    rw [hxl] at hp
    exact ⟨n2, by simp only [hp, R.bind_ok, hset, hsl], (rep_list_complex_iff h lim hbe _ n2).mpr
      ⟨by rw [List.length_dropLast]; omega, _, repList_dropLast h e vs xs hrl,
        by rw [List.length_dropLast]; exact hs2⟩,
      valPop_hasType _ _ _ ht (if_neg (by simpa using hi))⟩

/-! ### `Change` on unions -/

/-- number of options in the Go sense (the None option counts) -/
def unionCount (hasNone : Bool) (opts : List Ty) : Nat := opts.length + (if hasNone then 1 else 0)

theorem unionOpt_isSome_iff (hasNone : Bool) (opts : List Ty) (sel : Nat) :
    (unionOpt hasNone opts sel).isSome = true ↔
      sel < unionCount hasNone opts ∧ ¬ (hasNone = true ∧ sel = 0) := by
  unfold unionOpt unionCount
  cases hasNone
  · simp
  · simp only [if_true]
    by_cases h0 : sel = 0
    · simp [h0]
    · simp only [if_neg h0, Option.isSome_iff_exists, List.getElem?_eq_some_iff]
      constructor
      · rintro ⟨_, hlt, _⟩; omega
      · rintro ⟨hlt, _⟩; exact ⟨_, by omega, rfl⟩

theorem unionCount_mod {hasNone : Bool} {opts : List Ty} (hw : (Ty.union hasNone opts).wf = true) :
    (opts.length + (if hasNone then 1 else 0)) % 256 = unionCount hasNone opts := by
  simp only [Ty.wf, Bool.and_eq_true, decide_eq_true_eq] at hw
  unfold unionCount
  exact Nat.mod_eq_of_lt (by omega)

/-- `Change` for a well-formed union type and a `uint8` selector, without the reductions mod 256 -/
theorem change_eq {hasNone : Bool} {opts : List Ty} (hw : (Ty.union hasNone opts).wf = true)
    {sel : Nat} (hsel : sel < 256) (content : Option Node) :
    Mut.change (.union hasNone opts) sel content =
      if sel ≥ unionCount hasNone opts then .error .other
      else match content with
        | none =>
          if sel ≠ 0 then .error .other
          else .ok (.pair (.leaf z0) (.leaf (chunkOf [UInt8.ofNat sel])))
        | some c => .ok (.pair c (.leaf (chunkOf [UInt8.ofNat sel]))) := by
  unfold Mut.change
  simp only [unionCount_mod hw, Nat.mod_eq_of_lt hsel]
  cases content <;> rfl

theorem change_union_nil (h : HashFn) (hasNone : Bool) (opts : List Ty) (sel : Nat)
    (hw : (Ty.union hasNone opts).wf = true) (hsel : sel < 256)
    (hfitA : sel = 0 → hasNone = true) :
    MutSpec h (.union hasNone opts) (valChange (.union hasNone opts) sel .none)
      (Mut.change (.union hasNone opts) sel none) := by
  have hv : valChange (.union hasNone opts) sel .none =
      if (hasNone && sel == 0) = true then some (.union 0 .none) else none := rfl
  rw [change_eq hw hsel, hv]
  dsimp only
  by_cases h0 : sel = 0
  · subst h0
    have hn := hfitA rfl
    subst hn
    have hc : ¬ (0 ≥ unionCount true opts) := by unfold unionCount; simp
    rw [if_neg hc, if_neg (by simp : ¬ ((0 : Nat) ≠ 0)), if_pos (by simp : (true && (0 : Nat) == 0) = true)]
    refine ⟨_, rfl, ?_, ?_⟩
    · simp only [Rep]; exact ⟨trivial, trivial, trivial⟩
    · simp [hasType, unionOpt]
  · rw [if_neg (by simp [h0])]
    by_cases hlt : sel ≥ unionCount hasNone opts
    · rw [if_pos hlt]; exact mutSpec_err h _
    · rw [if_neg hlt, if_pos h0]; exact mutSpec_err h _

theorem change_union_some (h : HashFn) (hasNone : Bool) (opts : List Ty) (sel : Nat) (x : Val) (c : Node)
    (hw : (Ty.union hasNone opts).wf = true) (hsel : sel < 256) (hx : x ≠ .none)
    (hc : ∀ ot, unionOpt hasNone opts sel = some ot → hasType ot x = true ∧ Rep h ot x c)
    (hfitB : ¬ (hasNone = true ∧ sel = 0)) :
    MutSpec h (.union hasNone opts) (valChange (.union hasNone opts) sel x)
      (Mut.change (.union hasNone opts) sel (some c)) := by
  have hiff := unionOpt_isSome_iff hasNone opts sel
  rw [valChange_of_ne_none hx, change_eq hw hsel]
  dsimp only
  by_cases hlt : sel < unionCount hasNone opts
  · rw [if_neg (by omega : ¬ sel ≥ unionCount hasNone opts), if_pos (hiff.mpr ⟨hlt, hfitB⟩)]
    obtain ⟨ot, hot⟩ := Option.isSome_iff_exists.mp (hiff.mpr ⟨hlt, hfitB⟩)
    obtain ⟨hxt, hxr⟩ := hc ot hot
    refine ⟨_, rfl, ?_, ?_⟩
    · cases x <;> first | exact absurd rfl hx | (simp only [Rep, hot]; exact ⟨c, hxr, rfl⟩)
    · simp only [hasType, hot]; exact hxt
  · rw [if_pos (by omega : sel ≥ unionCount hasNone opts)]
    have : (unionOpt hasNone opts sel).isSome = false := by
      cases hs : (unionOpt hasNone opts sel).isSome
      · rfl
      · exact absurd (hiff.mp hs).1 hlt
    rw [this]
    exact mutSpec_err h _

/-- what Go's `Change` does not check: a non-nil value for the None option is accepted, although
    the value model rejects it (`hfitB` of `change_union_some` excludes this case) -/
theorem change_none_slot_accepts_value (opts : List Ty) (x : Val) (c : Node) (hx : x ≠ .none)
    (hw : (Ty.union true opts).wf = true) :
    Mut.change (.union true opts) 0 (some c) = .ok (.pair c (.leaf (chunkOf [UInt8.ofNat 0]))) ∧
      valChange (.union true opts) 0 x = none := by
  constructor
  · rw [change_eq hw (by decide), if_neg (by simp [unionCount])]
  · rw [valChange_of_ne_none hx]; rfl

/-- Go's `Change` accepts a nil value for selector 0 of a union without a None option, although
    the value model rejects it (`hfitA` of `change_union_nil` excludes this case) -/
theorem change_typed_slot_accepts_nil (t : Ty) (opts : List Ty)
    (hw : (Ty.union false (t :: opts)).wf = true) :
    Mut.change (.union false (t :: opts)) 0 none =
        .ok (.pair (.leaf z0) (.leaf (chunkOf [UInt8.ofNat 0]))) ∧
      valChange (.union false (t :: opts)) 0 .none = none := by
  constructor
  · rw [change_eq hw (by decide), if_neg (by simp [unionCount])]; rfl
  · rfl

end RepMut
end ZtypV
