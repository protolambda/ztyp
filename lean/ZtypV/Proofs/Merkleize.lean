/-
Proof that the streaming `Mk.merkleize` (model of `tree.Merkleize`) computes the SSZ-spec
root `merk`: binary-counter invariant over the scratch array, zero-padding carry of the final
`merge(count)`, limit-depth extension loop.
-/
import ZtypV.Model.Merkleize
import ZtypV.Proofs.SerLemmas
namespace ZtypV.Mk
open ZtypV

/-! ### padded complete tree in function form -/

/-- root of the complete height-`j` subtree number `k` over the `n` leaves `L`, zero padded -/
def node (h : HashFn) (n : Nat) (L : Nat → Root) : Nat → Nat → Root
  | 0, k => if k < n then L k else z0
  | j+1, k => h (node h n L j (2*k)) (node h n L j (2*k+1))

theorem node_zero_region (h : HashFn) (n : Nat) (L : Nat → Root) :
    ∀ j k, n ≤ 2^j * k → node h n L j k = zh h j := by
  intro j
  induction j with
  | zero => intro k hk; exact if_neg (by omega)
  | succ j ih =>
    intro k hk
    rw [Nat.pow_succ, Nat.mul_assoc] at hk
    have h2 : n ≤ 2^j * (2*k+1) := Nat.le_trans hk (Nat.mul_le_mul_left _ (Nat.le_succ _))
    simp only [node, zh, ih _ hk, ih _ h2]

theorem node_succ_of_odd (h : HashFn) (n : Nat) (L : Nat → Root) (j q : Nat) (hq : q % 2 = 1) :
    h (node h n L j (q - 1)) (node h n L j q) = node h n L (j+1) (q / 2) := by
  have e : 2 * (q / 2) + 1 = q := hq ▸ Nat.div_add_mod q 2
  show _ = h (node h n L j (2 * (q / 2))) (node h n L j (2 * (q / 2) + 1))
  rw [e, Nat.sub_eq_of_eq_add e.symm]

theorem node_succ_of_even (h : HashFn) (n : Nat) (L : Nat → Root) (j q : Nat) (hq : q % 2 = 0)
    (hn : n ≤ 2^j * (q + 1)) :
    h (node h n L j q) (zh h j) = node h n L (j+1) (q / 2) := by
  have e : 2 * (q / 2) = q := (Nat.add_zero _).symm.trans (hq ▸ Nat.div_add_mod q 2)
  show _ = h (node h n L j (2 * (q / 2))) (node h n L j (2 * (q / 2) + 1))
  rw [e, node_zero_region h n L j _ hn]

/-! ### machine-integer bit test -/

theorem and_two_pow_eq_zero_iff (i j : Nat) : (i &&& 2^j = 0) ↔ i / 2^j % 2 = 0 := by
  have ht : i.testBit j = decide (i / 2^j % 2 = 1) := Nat.testBit_eq_decide_div_mod_eq
  constructor
  · intro h0
    have : (i &&& 2^j).testBit j = false := by rw [h0]; simp
    rw [Nat.testBit_and, Nat.testBit_two_pow_self, Bool.and_true, ht] at this
    have : ¬ (i / 2^j % 2 = 1) := by simpa using this
    omega
  · intro h0
    apply Nat.eq_of_testBit_eq
    intro k
    rw [Nat.testBit_and, Nat.testBit_two_pow, Nat.zero_testBit]
    by_cases hk : j = k
    · subst hk; rw [ht]; simp; omega
    · simp [hk]

/-- Go's `i & (uint64(1) << j) == 0` tests bit `j` of `i` (and is true for `j ≥ 64`) -/
theorem and_shl1_eq_zero_iff (i j : Nat) (hi : i < 2^64) :
    (i &&& shl1 j = 0) ↔ i / 2^j % 2 = 0 := by
  unfold shl1
  split
  · exact and_two_pow_eq_zero_iff i j
  · rename_i hj
    have : (2:Nat)^64 ≤ 2^j := Nat.pow_le_pow_right (by omega) (by omega)
    rw [Nat.div_eq_of_lt (by omega)]
    simp

/-! ### loop invariant -/

/-- invariant of the scratch array after `i` leaves: every set bit `j` of `i` holds the root
    of the complete height-`j` subtree ending at `i` -/
def Inv (h : HashFn) (n : Nat) (L : Nat → Root) (sz : Nat) (i : Nat) (tmp : Array Root) : Prop :=
  tmp.size = sz ∧ ∀ j, i / 2^j % 2 = 1 → tmp[j]? = some (node h n L j (i / 2^j - 1))

theorem shift_succ (i j : Nat) : i / 2^(j+1) = i / 2^j / 2 := by
  rw [Nat.pow_succ, Nat.div_div_eq_div_mul]

/-- where the loop stops: a clear bit that is not a zero-padding level -/
def Stop (n depth i k : Nat) : Prop := i / 2^k % 2 = 0 ∧ ¬ (i = n ∧ k < depth)

theorem mergeLoop_stop (h : HashFn) (n depth : Nat) (tmp : Array Root) (i : Nat) (hi64 : i < 2^64)
    (fuel j : Nat) (hArr : Root) (hs : Stop n depth i j) :
    mergeLoop h n depth tmp i (fuel+1) j hArr = some (j, hArr) := by
  unfold mergeLoop
  rw [if_pos ((and_shl1_eq_zero_iff i j hi64).mpr hs.1), if_neg hs.2]

/-- One round of the carry chain: entered with the root of the subtree at level `j` that
    contains leaf `i`, it goes on with the one at level `j+1`, either taking the left sibling
    from the scratch array or, past the last leaf, the zero hash as right sibling. -/
theorem mergeLoop_step (h : HashFn) (n depth sz : Nat) (L : Nat → Root) (tmp : Array Root) (i : Nat)
    (hinv : Inv h n L sz i tmp) (hi64 : i < 2^64) (hd : depth ≤ 64)
    (fuel j : Nat) (hs : ¬ Stop n depth i j) :
    mergeLoop h n depth tmp i (fuel+1) j (node h n L j (i / 2^j)) =
      mergeLoop h n depth tmp i fuel (j+1) (node h n L (j+1) (i / 2^(j+1))) := by
  rw [mergeLoop]
  by_cases hb : i / 2^j % 2 = 0
  · have hc : i = n ∧ j < depth := Classical.not_not.mp fun hc => hs ⟨hb, hc⟩
    rw [if_pos ((and_shl1_eq_zero_iff i j hi64).mpr hb), if_pos hc,
      if_pos (Nat.lt_of_lt_of_le hc.2 (Nat.le_trans hd (by decide))), shift_succ,
      node_succ_of_even h n L j _ hb (hc.1 ▸ Nat.le_of_lt (Nat.lt_mul_div_succ i (Nat.two_pow_pos j)))]
  · have hb1 : i / 2^j % 2 = 1 := Nat.mod_two_ne_zero.mp hb
    rw [if_neg (fun hz => hb ((and_shl1_eq_zero_iff i j hi64).mp hz)), hinv.2 j hb1, shift_succ,
      ← node_succ_of_odd h n L j _ hb1]

/-- The carry chain: started at level `j` with enough fuel, the loop does not panic and ends
    at the first stopping level `j' ≥ j` with the root of the level-`j'` subtree containing
    leaf `i`. -/
theorem mergeLoop_run (h : HashFn) (n depth sz : Nat) (L : Nat → Root) (tmp : Array Root) (i : Nat)
    (hinv : Inv h n L sz i tmp) (hi64 : i < 2^64) (hd : depth ≤ 64) :
    ∀ fuel j, i < 2^(j+fuel) → depth ≤ j + fuel →
      ∃ j', mergeLoop h n depth tmp i (fuel+1) j (node h n L j (i / 2^j)) =
          some (j', node h n L j' (i / 2^j')) ∧
        j ≤ j' ∧ Stop n depth i j' ∧ ∀ k, j ≤ k → k < j' → ¬ Stop n depth i k := by
  intro fuel
  induction fuel with
  | zero =>
    intro j hlt hdj
    have hs : Stop n depth i j := ⟨by rw [Nat.div_eq_of_lt (show i < 2^j from hlt)], by omega⟩
    exact ⟨j, mergeLoop_stop h n depth tmp i hi64 _ j _ hs, Nat.le_refl _, hs,
      fun k h1 h2 => absurd h1 (Nat.not_le_of_lt h2)⟩
  | succ fuel ih =>
    intro j hlt hdj
    by_cases hs : Stop n depth i j
    · exact ⟨j, mergeLoop_stop h n depth tmp i hi64 _ j _ hs, Nat.le_refl _, hs,
        fun k h1 h2 => absurd h1 (Nat.not_le_of_lt h2)⟩
    · obtain ⟨j', e, hle, hst, hbelow⟩ := ih (j+1) (by rw [Nat.add_right_comm]; exact hlt)
        (by rw [Nat.add_right_comm]; exact hdj)
      refine ⟨j', ?_, Nat.le_of_succ_le hle, hst, ?_⟩
      · rw [mergeLoop_step h n depth sz L tmp i hinv hi64 hd _ j hs, e]
      · intro k h1 h2
        by_cases hk : k = j
        · exact hk ▸ hs
        · exact hbelow k (Nat.lt_of_le_of_ne h1 (Ne.symm hk)) h2

/-- `merge(i)` entered with the level-0 node at position `i` (leaf `i`, or the zero hash for
    `i = n`): the loop ends at the first stopping level `j'`, with the root of the level-`j'`
    subtree that contains position `i`. -/
theorem mergeLoop_from_leaf (h : HashFn) (n depth sz : Nat) (L : Nat → Root) (tmp : Array Root) (i : Nat)
    (hinv : Inv h n L sz i tmp) (hi64 : i < 2^64) (hd : depth ≤ 64) :
    ∃ j', mergeLoop h n depth tmp i 66 0 (node h n L 0 i) = some (j', node h n L j' (i / 2^j')) ∧
      Stop n depth i j' ∧ ∀ k, k < j' → ¬ Stop n depth i k := by
  obtain ⟨j', e, _, hst, hbelow⟩ := mergeLoop_run h n depth sz L tmp i hinv hi64 hd 65 0
    (Nat.lt_trans hi64 (by decide)) (Nat.le_trans hd (by decide))
  rw [Nat.pow_zero, Nat.div_one] at e
  exact ⟨j', e, hst, fun k hk => hbelow k (Nat.zero_le k) hk⟩

/-- the `uint8` loop variable: the loop of `merge(i)` always ends at some level `j' ≤ 64`
    (so neither the fuel of the model nor the `uint8` range is ever exhausted, and
    `uint64(1) << j` is only evaluated for `j ≤ 64`) -/
theorem mergeLoop_j_le_64 (h : HashFn) (n depth sz : Nat) (L : Nat → Root) (tmp : Array Root) (i : Nat)
    (hinv : Inv h n L sz i tmp) (hi : i ≤ n) (hi64 : i < 2^64) (hd : depth ≤ 64) (hArr : Root)
    (hh : hArr = node h n L 0 (i / 2^0)) :
    ∃ j' r, mergeLoop h n depth tmp i 66 0 hArr = some (j', r) ∧ j' ≤ 64 := by
  obtain ⟨j', e, _, hbelow⟩ := mergeLoop_from_leaf h n depth sz L tmp i hinv hi64 hd
  rw [Nat.pow_zero, Nat.div_one] at hh
  exact ⟨j', _, hh ▸ e, Nat.le_of_not_lt fun hgt =>
    hbelow 64 hgt ⟨by rw [Nat.div_eq_of_lt hi64], fun hc => Nat.not_lt.mpr hd hc.2⟩⟩

/-- the store `tmp[j] = hArr` that ends `merge(i)` -/
theorem merge_of_loop {h : HashFn} {n depth : Nat} {tmp : Array Root} {i : Nat} {hArr r : Root} {j : Nat}
    (e : mergeLoop h n depth tmp i 66 0 hArr = some (j, r)) (hj : j < tmp.size) :
    merge h n depth tmp i hArr = some (tmp.setIfInBounds j r) := by
  unfold merge
  rw [e]
  exact if_pos hj

/-! ### incrementing a binary counter -/

theorem div_pow_split (a j0 d : Nat) : a / 2^(j0+d) = a / 2^j0 / 2^d := by
  rw [Nat.pow_add, Nat.div_div_eq_div_mul]

theorem succ_div_of_lowbits (i : Nat) :
    ∀ j, (∀ k, k < j → i / 2^k % 2 = 1) → (i + 1) / 2^j = i / 2^j + 1 := by
  intro j
  induction j with
  | zero => intro _; simp
  | succ j ih =>
    intro hk
    have h1 := ih (fun k hk' => hk k (Nat.lt_succ_of_lt hk'))
    have h2 := hk j (Nat.lt_succ_self j)
    rw [shift_succ, shift_succ, h1]
    omega

theorem succ_div_of_even (q d : Nat) (hq : q % 2 = 0) : (q + 1) / 2^(d+1) = q / 2^(d+1) := by
  rw [Nat.pow_succ', ← Nat.div_div_eq_div_mul, ← Nat.div_div_eq_div_mul]
  congr 1
  omega

/-- The set bits of `i+1`, where `j0` is the lowest clear bit of `i`: bit `j0` itself, newly
    set, and the set bits of `i` above it, with the same higher part. -/
theorem succ_bits (i j0 : Nat) (hlow : ∀ k, k < j0 → i / 2^k % 2 = 1) (hclear : i / 2^j0 % 2 = 0)
    (j : Nat) (hj : (i + 1) / 2^j % 2 = 1) :
    (j = j0 ∧ (i + 1) / 2^j = i / 2^j + 1) ∨ (j0 < j ∧ (i + 1) / 2^j = i / 2^j) := by
  have hcarry := succ_div_of_lowbits i
  rcases Nat.lt_trichotomy j j0 with hlt | rfl | hgt
  · -- below `j0` the bits of `i + 1` are clear
    rw [hcarry j (fun k hk => hlow k (Nat.lt_trans hk hlt)), Nat.add_mod, hlow j hlt] at hj
    exact absurd hj (by decide)
  · exact Or.inl ⟨rfl, hcarry j hlow⟩
  · obtain ⟨d, rfl⟩ := Nat.exists_eq_add_of_lt hgt
    refine Or.inr ⟨hgt, ?_⟩
    rw [Nat.add_assoc, div_pow_split (i+1) j0, div_pow_split i j0, hcarry j0 hlow,
      succ_div_of_even _ _ hclear]

/-! ### cover depth -/

theorem coverDepth_mono {a b : Nat} (hab : a ≤ b) : coverDepth a ≤ coverDepth b :=
  (coverDepth_le_iff a _).mpr (Nat.le_trans hab (le_two_pow_coverDepth b))

/-! ### the leaf loop -/

theorem bit_le_of_le_pow (m j d : Nat) (hm : m ≤ 2^d) (hb : m / 2^j % 2 = 1) : j ≤ d := by
  apply Classical.byContradiction
  intro hn
  have : (2:Nat)^d < 2^j := (Nat.pow_lt_pow_iff_right (by omega)).mpr (by omega)
  rw [Nat.div_eq_of_lt (by omega)] at hb
  omega

theorem succ_mod_two {m : Nat} (hm : m % 2 = 0) : (m + 1) % 2 = 1 := by
  rw [Nat.add_mod, hm]

/-- one leaf merged: the invariant moves from i to i+1 (and the merge does not panic) -/
theorem inv_step (h : HashFn) (n depth ld : Nat) (L : Nat → Root) (tmp : Array Root) (i : Nat)
    (hinv : Inv h n L (ld+1) i tmp) (hi : i < n) (hn64 : n < 2^64) (hd : depth ≤ 64)
    (hnld : n ≤ 2^ld) :
    ∃ tmp', merge h n depth tmp i (L i) = some tmp' ∧ Inv h n L (ld+1) (i+1) tmp' := by
  obtain ⟨j0, e, ⟨hclear, _⟩, hbelow⟩ :=
    mergeLoop_from_leaf h n depth (ld+1) L tmp i hinv (Nat.lt_trans hi hn64) hd
  rw [show node h n L 0 i = L i from if_pos hi] at e
  -- `i < n`, so the loop stopped at the lowest clear bit of `i`
  have hlow : ∀ k, k < j0 → i / 2^k % 2 = 1 := fun k hk =>
    Nat.mod_two_ne_zero.mp fun h0 => hbelow k hk ⟨h0, fun hh => Nat.ne_of_lt hi hh.1⟩
  have hj0sz : j0 < tmp.size :=
    hinv.1 ▸ Nat.lt_succ_of_le (bit_le_of_le_pow (i+1) j0 ld (Nat.le_trans hi hnld)
      (succ_div_of_lowbits i j0 hlow ▸ succ_mod_two hclear))
  refine ⟨_, merge_of_loop e hj0sz, (Array.size_setIfInBounds ..).trans hinv.1, fun j hj => ?_⟩
  rw [Array.getElem?_setIfInBounds]
  obtain ⟨rfl, e1⟩ | ⟨hlt, e1⟩ := succ_bits i j0 hlow hclear j hj
  · rw [if_pos rfl, if_pos hj0sz, e1, Nat.add_sub_cancel]
  · rw [if_neg (Nat.ne_of_lt hlt), e1]
    exact hinv.2 j (e1 ▸ hj)

/-- the leaf loop `for i := 0; i < count; i++ { hArr = leaf(i); merge(i) }` -/
theorem inv_fold (h : HashFn) (n depth ld : Nat) (L : Nat → Root) (leaf : Nat → Option Root)
    (hleaf : ∀ i, i < n → leaf i = some (L i)) (tmp0 : Array Root) (hsz : tmp0.size = ld + 1)
    (hn : n < 2^64) (hd : depth ≤ 64) (hnld : n ≤ 2^ld) :
    ∀ m, m ≤ n → ∃ tmp',
      (List.range m).foldlM (fun tmp i => do let r ← leaf i; merge h n depth tmp i r) tmp0 = some tmp'
      ∧ Inv h n L (ld+1) m tmp' := by
  intro m
  induction m with
  | zero => intro _; exact ⟨tmp0, rfl, hsz, fun j hj => by simp at hj⟩
  | succ m ih =>
    intro hm
    obtain ⟨tmp1, e1, hinv1⟩ := ih (Nat.le_of_succ_le hm)
    obtain ⟨tmp2, e2, hinv2⟩ := inv_step h n depth ld L tmp1 m hinv1 hm hn hd hnld
    refine ⟨tmp2, ?_, hinv2⟩
    rw [List.range_succ, List.foldlM_append, e1]
    simp only [Option.bind_eq_bind, Option.bind_some, List.foldlM_cons, List.foldlM_nil]
    rw [hleaf m hm]
    simp only [Option.bind_some, e2]
    rfl

/-! ### zero-padding merge, extension to the limit depth -/

/-- the final zero-padding merge lands exactly on level `depth` with the root of the padded tree -/
theorem final_merge (h : HashFn) (n ld : Nat) (L : Nat → Root) (tmp : Array Root)
    (hinv : Inv h n L (ld+1) n tmp) (hn : n < 2^64) (hnld : n ≤ 2^ld)
    (hne : 2^(coverDepth n) ≠ n) :
    ∃ tmp', merge h n (coverDepth n) tmp n (zh h 0) = some tmp' ∧ tmp'.size = ld + 1 ∧
      tmp'[coverDepth n]? = some (node h n L (coverDepth n) 0) := by
  have hlt : n < 2^(coverDepth n) := Nat.lt_of_le_of_ne (le_two_pow_coverDepth n) hne.symm
  obtain ⟨j0, e, hst, hbelow⟩ := mergeLoop_from_leaf h n (coverDepth n) (ld+1) L tmp n hinv hn
    ((coverDepth_le_iff _ _).mpr (Nat.le_of_lt hn))
  rw [show node h n L 0 n = zh h 0 from if_neg (Nat.lt_irrefl n)] at e
  -- levels below `coverDepth n` are padding levels, and bit `coverDepth n` of `n` is clear
  obtain rfl : j0 = coverDepth n :=
    Nat.le_antisymm
      (Nat.le_of_not_lt fun hh =>
        hbelow _ hh ⟨by rw [Nat.div_eq_of_lt hlt], fun hc => Nat.lt_irrefl _ hc.2⟩)
      (Nat.le_of_not_lt fun hh => hst.2 ⟨rfl, hh⟩)
  rw [Nat.div_eq_of_lt hlt] at e
  have hsz : coverDepth n < tmp.size := hinv.1 ▸ Nat.lt_succ_of_le ((coverDepth_le_iff _ _).mpr hnld)
  refine ⟨_, merge_of_loop e hsz, (Array.size_setIfInBounds ..).trans hinv.1, ?_⟩
  rw [Array.getElem?_setIfInBounds, if_pos rfl, if_pos hsz]

/-- the extension loop `for j := depth; j < limitDepth; j++ { tmp[j+1] = hasher(tmp[j], ZeroHashes[j]) }` -/
theorem extend_spec (h : HashFn) (n : Nat) (L : Nat → Root) (depth sz : Nat) (hnd : n ≤ 2^depth) :
    ∀ m (tmp : Array Root), tmp.size = sz → depth + m < sz → depth + m ≤ 64 →
      tmp[depth]? = some (node h n L depth 0) →
      ∃ tmp', (List.range m).foldlM (extendStep h depth) tmp = some tmp' ∧ tmp'.size = sz ∧
        tmp'[depth + m]? = some (node h n L (depth + m) 0) := by
  intro m
  induction m with
  | zero => intro tmp hs _ _ ht; exact ⟨tmp, rfl, hs, ht⟩
  | succ m ih =>
    intro tmp hs hsz h64 ht
    obtain ⟨tmp1, e1, hs1, ht1⟩ := ih tmp hs (Nat.lt_of_succ_lt hsz) (Nat.le_of_succ_le h64) ht
    have hsz1 : depth + m + 1 < tmp1.size := hs1 ▸ hsz
    have hpad : n ≤ 2^(depth + m) * (0 + 1) :=
      Nat.le_trans hnd (by rw [Nat.mul_one]; exact Nat.pow_le_pow_right (by decide) (Nat.le_add_right ..))
    refine ⟨tmp1.setIfInBounds (depth + m + 1) (node h n L (depth + m + 1) 0), ?_, ?_, ?_⟩
    · rw [List.range_succ, List.foldlM_append, e1]
      simp only [Option.bind_eq_bind, Option.bind_some, List.foldlM_cons, List.foldlM_nil]
      unfold extendStep
      simp only [ht1]
      rw [if_pos ⟨Nat.lt_succ_of_le (Nat.le_of_succ_le h64), hsz1⟩, node_succ_of_even h n L _ 0 rfl hpad]
      rfl
    · rw [Array.size_setIfInBounds]; exact hs1
    · rw [← Nat.add_assoc, Array.getElem?_setIfInBounds, if_pos rfl, if_pos hsz1]

theorem shl1_ne_iff (n : Nat) (hn : n < 2^64) (hd : coverDepth n ≤ 64) :
    shl1 (coverDepth n) ≠ n ↔ 2^(coverDepth n) ≠ n := by
  unfold shl1
  split
  · exact Iff.rfl
  · rename_i hlt
    have h64 : coverDepth n = 64 := by omega
    rw [h64]
    have hn0 : n ≠ 0 := by
      intro h0; subst h0; simp [coverDepth] at h64
    constructor <;> intro _ <;> omega

/-- after `if (uint64(1) << depth) != count { … merge(count) }` level `depth` holds the root of
    the padded tree over all leaves -/
theorem padMerge_spec (h : HashFn) (n ld : Nat) (L : Nat → Root) (tmp : Array Root)
    (hinv : Inv h n L (ld+1) n tmp) (hn : n < 2^64) (hnld : n ≤ 2^ld) :
    ∃ tmp', padMerge h n (coverDepth n) tmp = some tmp' ∧ tmp'.size = ld + 1 ∧
      tmp'[coverDepth n]? = some (node h n L (coverDepth n) 0) := by
  have hd64 : coverDepth n ≤ 64 := (coverDepth_le_iff _ _).mpr (Nat.le_of_lt hn)
  unfold padMerge
  by_cases hne : 2^(coverDepth n) ≠ n
  · rw [if_pos ((shl1_ne_iff n hn hd64).mpr hne)]
    exact final_merge h n ld L tmp hinv hn hnld hne
  · rw [if_neg (fun hx => hne ((shl1_ne_iff n hn hd64).mp hx))]
    -- `n` is the power of two `2^depth`: its only set bit holds the whole tree
    have heq : 2^(coverDepth n) = n := Classical.not_not.mp hne
    have hq : n / 2^(coverDepth n) = 1 := by
      rw [heq]; exact Nat.div_self (heq ▸ Nat.two_pow_pos _)
    have := hinv.2 (coverDepth n) (by rw [hq])
    rw [hq] at this
    exact ⟨tmp, rfl, hinv.1, this⟩

/-- the streaming routine returns the root of the padded complete tree of height `coverDepth limit` -/
theorem merkleize_node (h : HashFn) (count limit : Nat) (leaf : Nat → Option Root) (L : Nat → Root)
    (hleaf : ∀ i, i < count → leaf i = some (L i))
    (hcl : count ≤ limit) (h2 : 2 ≤ limit) (hlim : limit < 2^64) :
    merkleize h count limit leaf = some (node h count L (coverDepth limit) 0) := by
  have hcnt : count < 2^64 := Nat.lt_of_le_of_lt hcl hlim
  have hcld : count ≤ 2^(coverDepth limit) := Nat.le_trans hcl (le_two_pow_coverDepth limit)
  have hm : coverDepth count + (coverDepth limit - coverDepth count) = coverDepth limit :=
    Nat.add_sub_cancel' (coverDepth_mono hcl)
  obtain ⟨tmp1, e1, hinv1⟩ := inv_fold h count (coverDepth count) (coverDepth limit) L leaf hleaf
    (Array.replicate (coverDepth limit + 1) z0) Array.size_replicate hcnt
    ((coverDepth_le_iff _ _).mpr (Nat.le_of_lt hcnt)) hcld count (Nat.le_refl _)
  obtain ⟨tmp2, e2, hs2, ht2⟩ := padMerge_spec h count (coverDepth limit) L tmp1 hinv1 hcnt hcld
  obtain ⟨tmp3, e3, hs3, ht3⟩ := extend_spec h count L (coverDepth count) (coverDepth limit + 1)
    (le_two_pow_coverDepth count) (coverDepth limit - coverDepth count) tmp2 hs2 (by rw [hm]; exact Nat.lt_succ_self _)
    (by rw [hm]; exact (coverDepth_le_iff _ _).mpr (Nat.le_of_lt hlim)) ht2
  unfold merkleize
  rw [if_neg (Nat.not_lt.mpr hcl), if_neg (Nat.ne_of_gt (Nat.lt_of_lt_of_le Nat.zero_lt_two h2)),
    if_neg (Nat.ne_of_gt (Nat.lt_of_lt_of_le Nat.one_lt_two h2))]
  dsimp only
  rw [e1]
  simp only [Option.bind_eq_bind, Option.bind_some]
  rw [e2, Option.bind_some, e3, Option.bind_some]
  exact hm ▸ ht3

/-! ### list form of the spec -/

theorem merk_take (h : HashFn) : ∀ d (cs : List Root), merk h d (cs.take (2^d)) = merk h d cs := by
  intro d
  induction d with
  | zero => intro cs; cases cs <;> rfl
  | succ d ih =>
    intro cs
    have e : (2:Nat)^(d+1) = 2^d + 2^d := by rw [Nat.pow_succ, Nat.mul_two]
    simp only [merk]
    rw [List.take_take, Nat.min_eq_left (e ▸ Nat.le_add_right _ _), List.drop_take, e,
      Nat.add_sub_cancel, ih (cs.drop (2^d))]

theorem node_eq_merk (h : HashFn) (n : Nat) (L : Nat → Root) :
    ∀ j k, node h n L j k = merk h j (((List.range n).map L).drop (2^j * k)) := by
  intro j
  induction j with
  | zero =>
    intro k
    rw [Nat.pow_zero, Nat.one_mul]
    simp only [node, merk, List.headD_eq_head?_getD, List.head?_drop, List.getElem?_map]
    by_cases hk : k < n
    · rw [if_pos hk, List.getElem?_range hk]; rfl
    · rw [if_neg hk, List.getElem?_eq_none (by rw [List.length_range]; exact Nat.le_of_not_lt hk)]; rfl
  | succ j ih =>
    intro k
    simp only [node, merk]
    rw [ih, ih, merk_take, List.drop_drop, Nat.pow_succ, Nat.mul_assoc, Nat.mul_succ]

/-- `tree.Merkleize` = SSZ `merkleize(chunks, limit)`, all limits including 0 and 1 -/
theorem merkleize_spec (h : HashFn) (count limit : Nat) (leaf : Nat → Option Root) (L : Nat → Root)
    (hleaf : ∀ i, i < count → leaf i = some (L i))
    (hcl : count ≤ limit) (hlim : limit < 2^64) :
    merkleize h count limit leaf = some (merk h (coverDepth limit) ((List.range count).map L)) := by
  by_cases h2 : 2 ≤ limit
  · rw [merkleize_node h count limit leaf L hleaf hcl h2 hlim, node_eq_merk, Nat.mul_zero,
      List.drop_zero]
  · -- the special cases `limit = 0`, `limit = 1` of the Go code
    obtain rfl | rfl : limit = 0 ∨ limit = 1 := by omega
    · obtain rfl : count = 0 := Nat.le_zero.mp hcl
      rfl
    · obtain rfl | rfl := Nat.le_one_iff_eq_zero_or_eq_one.mp hcl
      · rfl
      · exact hleaf 0 Nat.zero_lt_one

end ZtypV.Mk
