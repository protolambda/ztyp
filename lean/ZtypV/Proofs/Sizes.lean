/-
For property C15 (Props/C15.lean): order facts of the spec's size functions, the agreement of the
Go size constructors (Model/Sizes.lean) with them, and the lengths of spec encodings (bounds for
every value, witnesses for both bounds).
-/
import ZtypV.Model.Sizes
import ZtypV.Proofs.SerLemmas
namespace ZtypV.Sizes
open ZtypV

/-- a non-trivial well-formed type used by the non-vacuity examples of Props/C15.lean:
    Container{uint64, List[Bitlist[9], 3], Union[None, Vector[boolean, 3]], Vector[List[uint16, 2^40], 2]} -/
def exTy : Ty :=
  .container [.uint 8, .list (.bitlist 9) 3, .union true [.vector .bool 3],
    .vector (.list (.uint 2) (2 ^ 40)) 2]

/-! ### defining equations

The spec's functions on `Ty` and `Val` are mutual structural recursions, and the equations Lean
derives for them on demand are slow to produce.  The instances used in this file hold by unfolding
and are stated here once. -/

theorem isFixed_vector (e : Ty) (n : Nat) : (Ty.vector e n).isFixed = e.isFixed := rfl
theorem fixedSize_vector (e : Ty) (n : Nat) :
    (Ty.vector e n).fixedSize = if e.isFixed then n * e.fixedSize else 0 := rfl
theorem minSize_vector (e : Ty) (n : Nat) :
    (Ty.vector e n).minSize = if e.isFixed then n * e.fixedSize else n * (4 + e.minSize) := rfl
theorem maxSize_vector (e : Ty) (n : Nat) :
    (Ty.vector e n).maxSize = if e.isFixed then n * e.fixedSize else n * (4 + e.maxSize) := rfl
theorem maxSize_list (e : Ty) (lim : Nat) :
    (Ty.list e lim).maxSize = if e.isFixed then lim * e.fixedSize else lim * (4 + e.maxSize) := rfl
theorem fixedPart_cons (t : Ty) (ts : List Ty) :
    Ty.fixedPart (t :: ts) = (if t.isFixed then t.fixedSize else 4) + Ty.fixedPart ts := rfl
theorem minFields_cons (t : Ty) (ts : List Ty) :
    Ty.minFields (t :: ts) = (if t.isFixed then t.fixedSize else 4 + t.minSize) + Ty.minFields ts := rfl
theorem maxFields_cons (t : Ty) (ts : List Ty) :
    Ty.maxFields (t :: ts) = (if t.isFixed then t.fixedSize else 4 + t.maxSize) + Ty.maxFields ts := rfl
theorem minOpts_cons_cons (t t2 : Ty) (ts : List Ty) :
    Ty.minOpts (t :: t2 :: ts) = min t.minSize (Ty.minOpts (t2 :: ts)) := rfl
theorem maxOpts_cons (t : Ty) (ts : List Ty) :
    Ty.maxOpts (t :: ts) = max t.maxSize (Ty.maxOpts ts) := rfl
theorem wf_vector (e : Ty) (n : Nat) : (Ty.vector e n).wf = (decide (1 ≤ n) && e.wf) := rfl
theorem wf_container (fs : List Ty) : (Ty.container fs).wf = (!fs.isEmpty && Ty.wfAll fs) := rfl
theorem wf_union (hn : Bool) (opts : List Ty) : (Ty.union hn opts).wf =
    (!opts.isEmpty && Ty.wfAll opts && decide (opts.length + (if hn then 1 else 0) ≤ 128)) := rfl

theorem hasType_union (hn : Bool) (opts : List Ty) (sel : Nat) (v : Val) :
    hasType (.union hn opts) (.union sel v) =
      match unionOpt hn opts sel with
      | some t => hasType t v
      | Option.none => hn && sel == 0 && (match v with | .none => true | _ => false) := rfl
theorem serialize_union (hn : Bool) (opts : List Ty) (sel : Nat) (v : Val) :
    serialize (.union hn opts) (.union sel v) =
      UInt8.ofNat sel :: (match unionOpt hn opts sel with
        | some t => serialize t v
        | Option.none => []) := rfl

/-! ### the spec's size functions -/

theorem all_iff {α : Type} {p : α → Bool} {all : List α → Bool} (nil : all [] = true)
    (cons : ∀ t ts, all (t :: ts) = (p t && all ts)) (fs : List α) :
    all fs = true ↔ ∀ t, t ∈ fs → p t = true := by
  induction fs with
  | nil => exact ⟨fun _ _ h => (nomatch h), fun _ => nil⟩
  | cons t ts ih => rw [cons, Bool.and_eq_true, ih, List.forall_mem_cons]

theorem allFixed_iff (fs : List Ty) : Ty.allFixed fs = true ↔ ∀ t, t ∈ fs → t.isFixed = true :=
  all_iff rfl (fun _ _ => rfl) fs

theorem wfAll_iff (fs : List Ty) : Ty.wfAll fs = true ↔ ∀ t, t ∈ fs → t.wf = true :=
  all_iff rfl (fun _ _ => rfl) fs

theorem minOpts_le (ts : List Ty) : ∀ t, t ∈ ts → Ty.minOpts ts ≤ t.minSize := by
  induction ts with
  | nil => intro t h; cases h
  | cons t2 ts ih =>
    intro t h
    cases ts with
    | nil =>
      cases h with
      | head => exact Nat.le_refl _
      | tail _ h => cases h
    | cons t3 ts =>
      rw [minOpts_cons_cons]
      cases h with
      | head => exact Nat.min_le_left ..
      | tail _ h => exact Nat.le_trans (Nat.min_le_right ..) (ih t h)

theorem le_maxOpts (ts : List Ty) : ∀ t, t ∈ ts → t.maxSize ≤ Ty.maxOpts ts := by
  induction ts with
  | nil => intro t h; cases h
  | cons t2 ts ih =>
    intro t h
    rw [maxOpts_cons]
    cases h with
    | head => exact Nat.le_max_left ..
    | tail _ h => exact Nat.le_trans (ih t h) (Nat.le_max_right ..)

theorem size_order : ∀ t : Ty,
    (t.isFixed = true → t.minSize = t.fixedSize ∧ t.maxSize = t.fixedSize) ∧ t.minSize ≤ t.maxSize := by
  apply Ty.induct
  · intro b; exact ⟨fun _ => ⟨rfl, rfl⟩, Nat.le_refl _⟩
  · exact ⟨fun _ => ⟨rfl, rfl⟩, Nat.le_refl _⟩
  · intro n; exact ⟨fun _ => ⟨rfl, rfl⟩, Nat.le_refl _⟩
  · intro n; exact ⟨fun _ => ⟨rfl, rfl⟩, Nat.le_refl _⟩
  · intro n; exact ⟨fun h => Bool.noConfusion h, Nat.le_add_left 1 (n / 8)⟩
  · intro e n ih
    rw [isFixed_vector, fixedSize_vector, minSize_vector, maxSize_vector]
    cases e.isFixed
    · exact ⟨fun h => Bool.noConfusion h, Nat.mul_le_mul_left _ (Nat.add_le_add_left ih.2 4)⟩
    · exact ⟨fun _ => ⟨rfl, rfl⟩, Nat.le_refl _⟩
  · intro e n _; exact ⟨fun h => Bool.noConfusion h, Nat.zero_le _⟩
  · intro fs ih
    show (Ty.allFixed fs = true → Ty.minFields fs = Ty.fixedPart fs ∧ Ty.maxFields fs = Ty.fixedPart fs) ∧
      Ty.minFields fs ≤ Ty.maxFields fs
    induction fs with
    | nil => exact ⟨fun _ => ⟨rfl, rfl⟩, Nat.le_refl _⟩
    | cons t ts iht =>
      obtain ⟨a1, a2⟩ := ih t (List.mem_cons_self ..)
      obtain ⟨b1, b2⟩ := iht fun t ht => ih t (List.mem_cons_of_mem _ ht)
      rw [minFields_cons, maxFields_cons, fixedPart_cons]
      refine ⟨fun h => ?_, ?_⟩
      · obtain ⟨h1, h2⟩ := Bool.and_eq_true_iff.1 h
        simp only [h1, if_true, (b1 h2).1, (b1 h2).2, and_self]
      · split
        · exact Nat.add_le_add_left b2 _
        · exact Nat.add_le_add (Nat.add_le_add_left a2 4) b2
  · intro hn fs ih
    refine ⟨fun h => Bool.noConfusion h, Nat.add_le_add_left ?_ 1⟩
    have hle : Ty.minOpts fs ≤ Ty.maxOpts fs := by
      cases fs with
      | nil => exact Nat.le_refl 0
      | cons t ts =>
        have hm : t ∈ t :: ts := List.mem_cons_self ..
        exact Nat.le_trans (minOpts_le _ t hm) (Nat.le_trans (ih t hm).2 (le_maxOpts _ t hm))
    split
    · exact Nat.zero_le _
    · exact hle

theorem fixed_min_max (t : Ty) (h : t.isFixed = true) :
    t.minSize = t.fixedSize ∧ t.maxSize = t.fixedSize := (size_order t).1 h

theorem min_le_max (t : Ty) : t.minSize ≤ t.maxSize := (size_order t).2


/-! ### the Go constructors against the spec -/

/-- the spec's four numbers, as `UInt64` -/
def specInfo (t : Ty) : SizeInfo :=
  ⟨t.isFixed, UInt64.ofNat t.typeByteLength, UInt64.ofNat t.minSize, UInt64.ofNat t.maxSize⟩

theorem sizeInfos_eq_spec (ts : List Ty) (h : ∀ t, t ∈ ts → sizeInfo t = specInfo t) :
    sizeInfos ts = ts.map specInfo := by
  induction ts with
  | nil => rfl
  | cons t ts ih =>
    show sizeInfo t :: sizeInfos ts = specInfo t :: ts.map specInfo
    rw [h t (List.mem_cons_self ..), ih fun u hu => h u (List.mem_cons_of_mem _ hu)]

theorem ofNat_lt_ofNat {a b : Nat} (ha : a < 2 ^ 64) (hb : b < 2 ^ 64) :
    UInt64.ofNat a < UInt64.ofNat b ↔ a < b := by
  rw [UInt64.lt_iff_toNat_lt, UInt64.toNat_ofNat_of_lt' ha, UInt64.toNat_ofNat_of_lt' hb]

/-- the rounding-up division of the bit-length constructors, with the wrap made explicit -/
theorem ofNat_add_div8 (n k : Nat) :
    (UInt64.ofNat n + UInt64.ofNat k) / 8 = UInt64.ofNat ((n + k) % 2 ^ 64 / 8) := by
  apply UInt64.toNat.inj
  rw [← UInt64.ofNat_add, UInt64.toNat_div, UInt64.toNat_ofNat', UInt64.toNat_ofNat']
  exact (Nat.mod_eq_of_lt (Nat.lt_of_le_of_lt (Nat.div_le_self _ 8) (Nat.mod_lt _ (by decide)))).symm

theorem wrap_div8 {n k : Nat} (hk : k ≤ 8) (h1 : 2 ^ 64 ≤ n + k) (h2 : n < 2 ^ 64) :
    (n + k) % 2 ^ 64 / 8 = 0 := by
  rw [Nat.mod_eq_sub_mod h1]
  exact Nat.div_eq_of_lt (Nat.lt_of_le_of_lt (Nat.mod_le _ _)
    (Nat.sub_lt_left_of_lt_add h1 (Nat.add_lt_add_of_lt_of_le h2 hk)))

theorem bitVectorType_ofNat (n : Nat) :
    bitVectorType (UInt64.ofNat n) =
      ⟨true, UInt64.ofNat ((n + 7) % 2 ^ 64 / 8), UInt64.ofNat ((n + 7) % 2 ^ 64 / 8),
        UInt64.ofNat ((n + 7) % 2 ^ 64 / 8)⟩ := by
  rw [← ofNat_add_div8 n 7]; rfl

theorem bitListType_ofNat (lim : Nat) :
    bitListType (UInt64.ofNat lim) = ⟨false, 0, 1, UInt64.ofNat ((lim + 8) % 2 ^ 64 / 8)⟩ := by
  rw [← ofNat_add_div8 lim 8, bitListType, UInt64.add_assoc]; rfl

theorem bitVectorType_spec (n : Nat) (h : n + 7 < 2 ^ 64) :
    bitVectorType (UInt64.ofNat n) = specInfo (.bitvector n) := by
  rw [bitVectorType_ofNat, Nat.mod_eq_of_lt h]; rfl

theorem bitListType_spec (lim : Nat) (h : lim + 8 < 2 ^ 64) :
    bitListType (UInt64.ofNat lim) = specInfo (.bitlist lim) := by
  rw [bitListType_ofNat, Nat.mod_eq_of_lt h, Nat.add_div_right lim (by decide)]
  rfl

theorem isBasicElem_isFixed (e : Ty) (h : isBasicElem e = true) : e.isFixed = true := by
  cases e with
  | uint b => rfl
  | _ => cases h

theorem ofNat4 : UInt64.ofNat 4 = offsetByteLength := rfl

theorem specInfo_vector (e : Ty) (n : Nat) : specInfo (.vector e n) =
    ⟨e.isFixed, UInt64.ofNat (if e.isFixed then (if e.isFixed then n * e.fixedSize else 0) else 0),
      UInt64.ofNat (if e.isFixed then n * e.fixedSize else n * (4 + e.minSize)),
      UInt64.ofNat (if e.isFixed then n * e.fixedSize else n * (4 + e.maxSize))⟩ := rfl

theorem specInfo_list (e : Ty) (lim : Nat) : specInfo (.list e lim) =
    ⟨false, 0, 0, UInt64.ofNat (if e.isFixed then lim * e.fixedSize else lim * (4 + e.maxSize))⟩ := rfl

/-- `VectorType` on a spec-exact element: pure ring homomorphism, no bound needed -/
theorem vectorType_spec (e : Ty) (n : Nat) :
    vectorType (isBasicElem e) (specInfo e) (UInt64.ofNat n) = specInfo (.vector e n) := by
  rw [specInfo_vector]
  cases hb : isBasicElem e
  · cases hf : e.isFixed
    · simp [vectorType, complexVectorType, specInfo, Ty.typeByteLength, hf, UInt64.ofNat_mul,
        UInt64.ofNat_add, ← ofNat4, UInt64.add_comm]
    · simp [vectorType, complexVectorType, specInfo, Ty.typeByteLength, hf, UInt64.ofNat_mul]
  · simp [vectorType, basicVectorType, specInfo, Ty.typeByteLength, isBasicElem_isFixed e hb,
      UInt64.ofNat_mul]

theorem listType_eq (b : Bool) (si : SizeInfo) (lim : UInt64) :
    listType b si lim = ⟨false, 0, 0, (vectorType b si lim).max⟩ := by
  cases b
  · show complexListType si lim = ⟨false, 0, 0, (complexVectorType si lim).max⟩
    unfold complexListType complexVectorType
    cases si.isFixed
    · rfl
    · rfl
  · rfl

theorem listType_spec (e : Ty) (lim : Nat) :
    listType (isBasicElem e) (specInfo e) (UInt64.ofNat lim) = specInfo (.list e lim) := by
  rw [listType_eq, vectorType_spec]
  rfl

/-- a zero limit makes the element's numbers irrelevant (they may have overflowed) -/
theorem listType_zero (b : Bool) (si : SizeInfo) : listType b si 0 = ⟨false, 0, 0, 0⟩ := by
  cases b <;> simp [listType, basicListType, complexListType]

theorem specInfo_list_zero (e : Ty) : specInfo (.list e 0) = ⟨false, 0, 0, 0⟩ := by
  rw [specInfo_list, Nat.zero_mul, Nat.zero_mul, ite_self]
  rfl


/-- number of variable-size fields -/
def nVar : List Ty → Nat
  | [] => 0
  | t :: ts => (if t.isFixed then 0 else 1) + nVar ts

theorem nVar_eq_zero (ts : List Ty) : (nVar ts == 0) = Ty.allFixed ts := by
  induction ts with
  | nil => rfl
  | cons t ts ih =>
    show ((if t.isFixed then 0 else 1) + nVar ts == 0) = (t.isFixed && Ty.allFixed ts)
    cases t.isFixed
    · simp
    · simpa using ih

theorem containerLoop_spec (ts : List Ty) (a : ContainerAcc) :
    containerLoop (ts.map specInfo) a =
      ⟨a.minSize + UInt64.ofNat (Ty.minFields ts), a.maxSize + UInt64.ofNat (Ty.maxFields ts),
       a.fixedPart + UInt64.ofNat (Ty.fixedPart ts), a.offsetsCount + nVar ts⟩ := by
  induction ts generalizing a with
  | nil =>
    show a = ⟨a.minSize + 0, a.maxSize + 0, a.fixedPart + 0, a.offsetsCount⟩
    simp only [UInt64.add_zero]
  | cons t ts ih =>
    show containerLoop (ts.map specInfo) (containerStep a (specInfo t)) = _
    rw [ih, minFields_cons, maxFields_cons, fixedPart_cons]
    show _ = ContainerAcc.mk _ _ _ (a.offsetsCount + ((if t.isFixed then 0 else 1) + nVar ts))
    cases hf : t.isFixed
    · simp [containerStep, specInfo, hf, UInt64.ofNat_add, ← ofNat4, UInt64.add_assoc, Nat.add_assoc]
    · simp [containerStep, specInfo, hf, Ty.typeByteLength, UInt64.ofNat_add, UInt64.add_assoc]

theorem containerType_spec (ts : List Ty) :
    containerType (ts.map specInfo) = specInfo (.container ts) := by
  show _ = SizeInfo.mk (Ty.allFixed ts) (UInt64.ofNat (if Ty.allFixed ts then Ty.fixedPart ts else 0))
    (UInt64.ofNat (Ty.minFields ts)) (UInt64.ofNat (Ty.maxFields ts))
  simp only [containerType, containerLoop_spec, Nat.zero_add, UInt64.zero_add, nVar_eq_zero]
  cases Ty.allFixed ts
  · rfl
  · rfl


/-- the `UnionType` loop as left folds over `Nat` -/
def minWith (a : Nat) : List Ty → Nat
  | [] => a
  | t :: ts => minWith (min a t.minSize) ts
def maxWith (b : Nat) : List Ty → Nat
  | [] => b
  | t :: ts => maxWith (max b t.maxSize) ts

theorem minWith_min (c a : Nat) (ts : List Ty) : minWith (min c a) ts = min c (minWith a ts) := by
  induction ts generalizing a with
  | nil => rfl
  | cons t ts ih => rw [minWith, minWith, Nat.min_assoc, ih]

theorem minOpts_cons (t : Ty) (ts : List Ty) : Ty.minOpts (t :: ts) = minWith t.minSize ts := by
  induction ts generalizing t with
  | nil => rfl
  | cons t2 ts ih => rw [minOpts_cons_cons, ih, minWith, minWith_min]

theorem minWith_zero (ts : List Ty) : minWith 0 ts = 0 := by
  induction ts with
  | nil => rfl
  | cons t ts ih => rw [minWith, Nat.zero_min, ih]

theorem maxWith_eq (b : Nat) (ts : List Ty) : maxWith b ts = max b (Ty.maxOpts ts) := by
  induction ts generalizing b with
  | nil => simp [maxWith, Ty.maxOpts]
  | cons t ts ih => rw [maxWith, ih, Ty.maxOpts, Nat.max_assoc]

theorem minWith_le (a : Nat) (ts : List Ty) : minWith a ts ≤ a := by
  induction ts generalizing a with
  | nil => exact Nat.le_refl _
  | cons t ts ih => exact Nat.le_trans (ih _) (Nat.min_le_left ..)

theorem ofNat_min {a m : Nat} (ha : a < 2 ^ 64) (hm : m < 2 ^ 64) :
    (if UInt64.ofNat m < UInt64.ofNat a then UInt64.ofNat m else UInt64.ofNat a) =
      UInt64.ofNat (min a m) := by
  by_cases h : m < a
  · rw [if_pos ((ofNat_lt_ofNat hm ha).2 h), Nat.min_eq_right (Nat.le_of_lt h)]
  · rw [if_neg (mt (ofNat_lt_ofNat hm ha).1 h), Nat.min_eq_left (Nat.le_of_not_lt h)]

theorem ofNat_max {b m : Nat} (hb : b < 2 ^ 64) (hm : m < 2 ^ 64) :
    (if UInt64.ofNat m > UInt64.ofNat b then UInt64.ofNat m else UInt64.ofNat b) =
      UInt64.ofNat (max b m) := by
  by_cases h : b < m
  · rw [if_pos ((ofNat_lt_ofNat hb hm).2 h), Nat.max_eq_right (Nat.le_of_lt h)]
  · rw [if_neg (mt (ofNat_lt_ofNat hb hm).1 h), Nat.max_eq_left (Nat.le_of_not_lt h)]

theorem unionLoop_spec (ts : List Ty) (a b : Nat) (ha : a < 2 ^ 64) (hb : b < 2 ^ 64)
    (h : ∀ t, t ∈ ts → t.maxSize < 2 ^ 64) :
    unionLoop (ts.map specInfo) (UInt64.ofNat a, UInt64.ofNat b) =
      (UInt64.ofNat (minWith a ts), UInt64.ofNat (maxWith b ts)) := by
  induction ts generalizing a b with
  | nil => rfl
  | cons t ts ih =>
    have hmx := h t (List.mem_cons_self ..)
    have hmn : t.minSize < 2 ^ 64 := Nat.lt_of_le_of_lt (min_le_max t) hmx
    show unionLoop (ts.map specInfo)
      (if UInt64.ofNat t.minSize < UInt64.ofNat a then UInt64.ofNat t.minSize else UInt64.ofNat a,
       if UInt64.ofNat t.maxSize > UInt64.ofNat b then UInt64.ofNat t.maxSize else UInt64.ofNat b) = _
    rw [ofNat_min ha hmn, ofNat_max hb hmx]
    exact ih _ _ (Nat.lt_of_le_of_lt (Nat.min_le_left ..) ha) (Nat.max_lt.2 ⟨hb, hmx⟩)
      (fun t ht => h t (List.mem_cons_of_mem _ ht))

theorem unionType_of_loop {first : Option SizeInfo} {rest : List SizeInfo} {a b : Nat}
    (h : unionLoop rest (match first with | some o => (o.min, o.max) | none => (0, 0)) =
      (UInt64.ofNat a, UInt64.ofNat b)) :
    unionType first rest = ⟨false, 0, UInt64.ofNat (1 + a), UInt64.ofNat (1 + b)⟩ := by
  refine (congrArg (fun r : UInt64 × UInt64 => SizeInfo.mk false 0 (r.1 + 1) (r.2 + 1)) h).trans ?_
  rw [Nat.add_comm 1 a, Nat.add_comm 1 b, UInt64.ofNat_add, UInt64.ofNat_add]
  rfl

theorem unionType_none_spec (ts : List Ty) (h : ∀ t, t ∈ ts → t.maxSize < 2 ^ 64) :
    unionType none (ts.map specInfo) = specInfo (.union true ts) := by
  have hl := unionLoop_spec ts 0 0 (by decide) (by decide) h
  rw [minWith_zero, maxWith_eq, Nat.zero_max] at hl
  exact unionType_of_loop hl

theorem unionType_some_spec (t : Ty) (ts : List Ty) (h : ∀ u, u ∈ t :: ts → u.maxSize < 2 ^ 64) :
    unionType (some (specInfo t)) (ts.map specInfo) = specInfo (.union false (t :: ts)) := by
  have hmx := h t (List.mem_cons_self ..)
  have hl := unionLoop_spec ts _ _ (Nat.lt_of_le_of_lt (min_le_max t) hmx) hmx
    fun u hu => h u (List.mem_cons_of_mem _ hu)
  rw [maxWith_eq, ← minOpts_cons, ← maxOpts_cons] at hl
  exact unionType_of_loop hl


/-! ### the Go constructors agree with the spec on every well-formed type

The induction needs the bound `maxSize < 2 ^ 64` at every sub-type: a sub-type's maximum is below
that of the whole type. -/

theorem allBitLensOk_iff (fs : List Ty) : allBitLensOk fs = true ↔ ∀ t, t ∈ fs → bitLensOk t = true :=
  all_iff rfl (fun _ _ => rfl) fs

theorem elem_max_le_series (e : Ty) (n : Nat) (hn : 1 ≤ n) :
    e.maxSize ≤ (if e.isFixed then n * e.fixedSize else n * (4 + e.maxSize)) := by
  split
  · next hf =>
    rw [(fixed_min_max e hf).2]
    exact Nat.le_mul_of_pos_left _ hn
  · exact Nat.le_trans (Nat.le_add_left _ 4) (Nat.le_mul_of_pos_left _ hn)

theorem field_max_le (fs : List Ty) : ∀ t, t ∈ fs → t.maxSize ≤ Ty.maxFields fs := by
  induction fs with
  | nil => intro t h; cases h
  | cons t2 ts ih =>
    intro t h
    rw [maxFields_cons]
    cases h with
    | head =>
      split
      · next hf => rw [(fixed_min_max _ hf).2]; exact Nat.le_add_right ..
      · exact Nat.le_trans (Nat.le_add_left _ 4) (Nat.le_add_right ..)
    | tail _ h => exact Nat.le_trans (ih t h) (Nat.le_add_left ..)

/-- On every well-formed type whose maximum encoded size fits 64 bits and whose bit lengths leave
    room for the `+7` / `+8` rounding, the Go constructors compute exactly the spec's flag and three
    lengths. -/
theorem sizeInfo_eq : ∀ t : Ty, t.wf = true → t.maxSize < 2 ^ 64 → bitLensOk t = true →
    sizeInfo t = specInfo t := by
  apply Ty.induct
  · intro b _ _ _; rfl
  · intro _ _ _; rfl
  · intro n hwf _ _
    have hwf : (decide (1 ≤ n) && decide (n ≤ 32)) = true := hwf
    rw [Bool.and_eq_true, decide_eq_true_eq, decide_eq_true_eq] at hwf
    show (if n = 32 then rootMeta else smallByteVecMeta (UInt8.ofNat n)) = _
    rw [smallByteVecMeta, UInt8.toUInt64_ofNat' (Nat.lt_of_le_of_lt hwf.2 (by decide))]
    split
    · next h => subst h; rfl
    · rfl
  · intro n _ _ hb
    exact bitVectorType_spec n (of_decide_eq_true hb)
  · intro n _ _ hb
    exact bitListType_spec n (of_decide_eq_true hb)
  · intro e n ih hwf hmax hb
    rw [wf_vector, Bool.and_eq_true, decide_eq_true_eq] at hwf
    show vectorType (isBasicElem e) (sizeInfo e) (UInt64.ofNat n) = _
    rw [ih hwf.2 (Nat.lt_of_le_of_lt (elem_max_le_series e n hwf.1) hmax) hb]
    exact vectorType_spec e n
  · intro e lim ih hwf hmax hb
    show listType (isBasicElem e) (sizeInfo e) (UInt64.ofNat lim) = _
    cases lim with
    | zero => rw [show UInt64.ofNat 0 = 0 from rfl, listType_zero, specInfo_list_zero]
    | succ k =>
      rw [ih hwf (Nat.lt_of_le_of_lt (elem_max_le_series e (k + 1) (Nat.le_add_left ..)) hmax) hb]
      exact listType_spec e (k + 1)
  · intro fs ih hwf hmax hb
    rw [wf_container, Bool.and_eq_true] at hwf
    have hmax : Ty.maxFields fs < 2 ^ 64 := hmax
    have hfs : ∀ t, t ∈ fs → sizeInfo t = specInfo t := fun t ht =>
      ih t ht ((wfAll_iff fs).1 hwf.2 t ht) (Nat.lt_of_le_of_lt (field_max_le fs t ht) hmax)
        ((allBitLensOk_iff fs).1 hb t ht)
    show containerType (sizeInfos fs) = _
    rw [sizeInfos_eq_spec fs hfs]
    exact containerType_spec fs
  · intro hn fs ih hwf hmax hb
    rw [wf_union, Bool.and_eq_true, Bool.and_eq_true] at hwf
    have hmx : ∀ t, t ∈ fs → t.maxSize < 2 ^ 64 := fun t ht =>
      Nat.lt_of_le_of_lt (Nat.le_trans (le_maxOpts fs t ht) (Nat.le_add_left _ 1)) hmax
    have hfs : ∀ t, t ∈ fs → sizeInfo t = specInfo t := fun t ht =>
      ih t ht ((wfAll_iff fs).1 hwf.1.2 t ht) (hmx t ht) ((allBitLensOk_iff fs).1 hb t ht)
    cases hn with
    | true =>
      show unionType none (sizeInfos fs) = _
      rw [sizeInfos_eq_spec fs hfs]
      exact unionType_none_spec fs hmx
    | false =>
      cases fs with
      | nil => cases hwf.1.1
      | cons t ts =>
        show unionType (some (sizeInfo t)) (sizeInfos ts) = _
        rw [hfs t (List.mem_cons_self ..),
          sizeInfos_eq_spec ts fun u hu => hfs u (List.mem_cons_of_mem _ hu)]
        exact unionType_some_spec t ts hmx

theorem anyPanics_eq_false (fs : List Ty) (h : ∀ t, t ∈ fs → panics t = false) : anyPanics fs = false := by
  induction fs with
  | nil => rfl
  | cons t ts ih =>
    show (panics t || anyPanics ts) = false
    rw [h t (List.mem_cons_self ..), ih (fun t ht => h t (List.mem_cons_of_mem _ ht))]
    rfl

theorem wf_not_panics : ∀ t : Ty, t.wf = true → panics t = false := by
  apply Ty.induct
  · intro _ _; rfl
  · intro _; rfl
  · intro _ _; rfl
  · intro _ _; rfl
  · intro _ _; rfl
  · intro e n ih hwf
    rw [wf_vector, Bool.and_eq_true] at hwf
    exact ih hwf.2
  · intro e n ih hwf
    exact ih hwf
  · intro fs ih hwf
    rw [wf_container, Bool.and_eq_true] at hwf
    exact anyPanics_eq_false fs fun t ht => ih t ht ((wfAll_iff fs).1 hwf.2 t ht)
  · intro hn fs ih hwf
    rw [wf_union, Bool.and_eq_true, Bool.and_eq_true, Bool.not_eq_true'] at hwf
    show (anyPanics fs || (!hn && fs.isEmpty)) = false
    rw [anyPanics_eq_false fs fun t ht => ih t ht ((wfAll_iff fs).1 hwf.1.2 t ht), hwf.1.1,
      Bool.and_false]
    rfl

/-! ### lengths of spec encodings -/

/-- total encoded length of a container given its parts -/
def partsLen : List (Bool × Bytes) → Nat
  | [] => 0
  | (fx, p) :: ps => (if fx then p.length else 4 + p.length) + partsLen ps

theorem serContainerParts_partsLen (ps : List (Bool × Bytes)) :
    (serContainerParts ps).length = partsLen ps := by
  rw [serContainerParts_length]
  induction ps with
  | nil => rfl
  | cons q ps ih =>
    obtain ⟨fx, p⟩ := q
    cases fx
    · show 4 + fixedPartLen ps + (p ++ serVarPart ps).length = 4 + p.length + partsLen ps
      rw [List.length_append, ← ih]
      omega
    · show p.length + fixedPartLen ps + (serVarPart ps).length = p.length + partsLen ps
      rw [Nat.add_assoc, ih]

theorem allHaveType_iff (e : Ty) (vs : List Val) :
    allHaveType e vs = true ↔ ∀ v, v ∈ vs → hasType e v = true :=
  all_iff rfl (fun _ _ => rfl) vs

theorem serList_bounds (e : Ty) (lo hi : Nat) (vs : List Val)
    (h : ∀ v, v ∈ vs → lo ≤ (serialize e v).length ∧ (serialize e v).length ≤ hi) :
    (serList e vs).length = vs.length ∧
      vs.length * lo ≤ (serList e vs).flatten.length ∧
      (serList e vs).flatten.length ≤ vs.length * hi := by
  induction vs with
  | nil => exact ⟨rfl, Nat.le_of_eq (Nat.zero_mul _), Nat.zero_le _⟩
  | cons v vs ih =>
    obtain ⟨h1, h2, h3⟩ := ih fun w hw => h w (List.mem_cons_of_mem _ hw)
    obtain ⟨a, b⟩ := h v (List.mem_cons_self ..)
    show (serialize e v :: serList e vs).length = vs.length + 1 ∧
      (vs.length + 1) * lo ≤ (serialize e v ++ (serList e vs).flatten).length ∧
      (serialize e v ++ (serList e vs).flatten).length ≤ (vs.length + 1) * hi
    rw [List.length_cons, List.length_append, Nat.succ_mul, Nat.succ_mul, h1]
    exact ⟨rfl, Nat.add_comm _ lo ▸ Nat.add_le_add a h2, Nat.add_comm _ hi ▸ Nat.add_le_add b h3⟩

theorem series_length (e : Ty) (vs : List Val) :
    (if e.isFixed then (serList e vs).flatten else serVarParts (serList e vs)).length =
      (if e.isFixed then 0 else 4 * (serList e vs).length) + (serList e vs).flatten.length := by
  cases e.isFixed
  · exact serVarParts_length _
  · exact (Nat.zero_add _).symm

theorem series_bounds (e : Ty)
    (ih : ∀ v, hasType e v = true → e.minSize ≤ (serialize e v).length ∧ (serialize e v).length ≤ e.maxSize)
    (vs : List Val) (ha : allHaveType e vs = true) :
    (if e.isFixed then vs.length * e.fixedSize else vs.length * (4 + e.minSize)) ≤
      (if e.isFixed then (serList e vs).flatten else serVarParts (serList e vs)).length ∧
    (if e.isFixed then (serList e vs).flatten else serVarParts (serList e vs)).length ≤
      (if e.isFixed then vs.length * e.fixedSize else vs.length * (4 + e.maxSize)) := by
  obtain ⟨h1, h2, h3⟩ := serList_bounds e _ _ vs fun v hv => ih v ((allHaveType_iff e vs).1 ha v hv)
  rw [series_length, h1]
  by_cases hf : e.isFixed = true
  · obtain ⟨a, b⟩ := fixed_min_max e hf
    rw [if_pos hf, if_pos hf, if_pos hf, Nat.zero_add, ← a]
    exact ⟨h2, a ▸ b ▸ h3⟩
  · rw [if_neg hf, if_neg hf, if_neg hf, Nat.mul_add, Nat.mul_add, Nat.mul_comm]
    exact ⟨Nat.add_le_add_left h2 _, Nat.add_le_add_left h3 _⟩

/-- sum of the fields' contributions for a per-type length `f` -/
def genFields (f : Ty → Nat) : List Ty → Nat
  | [] => 0
  | t :: ts => (if t.isFixed then f t else 4 + f t) + genFields f ts

theorem fields_eq_gen (fs : List Ty) :
    Ty.minFields fs = genFields Ty.minSize fs ∧ Ty.maxFields fs = genFields Ty.maxSize fs := by
  induction fs with
  | nil => exact ⟨rfl, rfl⟩
  | cons t ts ih =>
    show _ = _ + genFields Ty.minSize ts ∧ _ = _ + genFields Ty.maxSize ts
    rw [minFields_cons, maxFields_cons, ih.1, ih.2]
    by_cases hf : t.isFixed = true
    · rw [if_pos hf, if_pos hf, if_pos hf, if_pos hf, (fixed_min_max t hf).1, (fixed_min_max t hf).2]
      exact ⟨rfl, rfl⟩
    · rw [if_neg hf, if_neg hf, if_neg hf, if_neg hf]
      exact ⟨rfl, rfl⟩

theorem fields_bounds (lo hi : Ty → Nat) (fs : List Ty)
    (ih : ∀ t, t ∈ fs → ∀ v, hasType t v = true →
      lo t ≤ (serialize t v).length ∧ (serialize t v).length ≤ hi t) :
    ∀ vs, fieldsHaveType fs vs = true →
      genFields lo fs ≤ partsLen (serFields fs vs) ∧ partsLen (serFields fs vs) ≤ genFields hi fs := by
  induction fs with
  | nil =>
    intro vs h
    cases vs with
    | nil => exact ⟨Nat.le_refl _, Nat.le_refl _⟩
    | cons v vs => cases h
  | cons t ts iht =>
    intro vs h
    cases vs with
    | nil => cases h
    | cons v vs =>
      obtain ⟨hv, hvs⟩ := Bool.and_eq_true_iff.1 (show (hasType t v && fieldsHaveType ts vs) = true from h)
      obtain ⟨a, b⟩ := ih t (List.mem_cons_self ..) v hv
      obtain ⟨c, d⟩ := iht (fun t ht => ih t (List.mem_cons_of_mem _ ht)) vs hvs
      -- the head summand of each of the three sums
      show _ + _ ≤ (if t.isFixed then _ else _) + _ ∧ _ + _ ≤ _ + _
      cases t.isFixed
      · exact ⟨Nat.add_le_add (Nat.add_le_add_left a 4) c, Nat.add_le_add (Nat.add_le_add_left b 4) d⟩
      · exact ⟨Nat.add_le_add a c, Nat.add_le_add b d⟩

theorem union_some {hn : Bool} {opts : List Ty} {sel : Nat} {t : Ty}
    (ho : unionOpt hn opts sel = some t) (v : Val) :
    hasType (.union hn opts) (.union sel v) = hasType t v ∧
    (serialize (.union hn opts) (.union sel v)).length = 1 + (serialize t v).length := by
  rw [hasType_union, serialize_union, ho]
  exact ⟨rfl, Nat.add_comm _ 1⟩

theorem eq_bounds {a n : Nat} (h : n = a) : a ≤ n ∧ n ≤ a := h ▸ ⟨Nat.le_refl _, Nat.le_refl _⟩

theorem ser_bounds : ∀ (t : Ty) (v : Val), hasType t v = true →
    t.minSize ≤ (serialize t v).length ∧ (serialize t v).length ≤ t.maxSize := by
  apply Ty.induct
  · intro b v h
    cases v with
    | num n => exact eq_bounds (leBytes_length b n)
    | _ => cases h
  · intro v h
    cases v with
    | bool b => exact eq_bounds rfl
    | _ => cases h
  · intro n v h
    cases v with
    | bytes bs => exact eq_bounds (beq_iff_eq.1 h)
    | _ => cases h
  · intro n v h
    cases v with
    | bits bs => exact eq_bounds ((packBits_length bs).trans (beq_iff_eq.1 h ▸ rfl))
    | _ => cases h
  · intro lim v h
    cases v with
    | bits bs =>
      show 1 ≤ (packBits (bs ++ [true])).length ∧ (packBits (bs ++ [true])).length ≤ lim / 8 + 1
      rw [delimited_length]
      exact ⟨Nat.le_add_left .., Nat.succ_le_succ (Nat.div_le_div_right (of_decide_eq_true h))⟩
    | _ => cases h
  · intro e n ih v h
    cases v with
    | seq vs =>
      obtain ⟨hl, ha⟩ := Bool.and_eq_true_iff.1 (show (vs.length == n && allHaveType e vs) = true from h)
      exact beq_iff_eq.1 hl ▸ series_bounds e ih vs ha
    | _ => cases h
  · intro e lim ih v h
    cases v with
    | seq vs =>
      obtain ⟨hl, ha⟩ := Bool.and_eq_true_iff.1
        (show (decide (vs.length ≤ lim) && allHaveType e vs) = true from h)
      refine ⟨Nat.zero_le _, Nat.le_trans (series_bounds e ih vs ha).2 ?_⟩
      rw [maxSize_list]
      split
      · exact Nat.mul_le_mul_right _ (of_decide_eq_true hl)
      · exact Nat.mul_le_mul_right _ (of_decide_eq_true hl)
    | _ => cases h
  · intro fs ih v h
    cases v with
    | seq vs =>
      show Ty.minFields fs ≤ (serContainerParts (serFields fs vs)).length ∧
        (serContainerParts (serFields fs vs)).length ≤ Ty.maxFields fs
      rw [serContainerParts_partsLen, (fields_eq_gen fs).1, (fields_eq_gen fs).2]
      exact fields_bounds _ _ fs ih vs h
    | _ => cases h
  · intro hn fs ih v h
    cases v with
    | union sel v =>
      show 1 + (if hn then 0 else Ty.minOpts fs) ≤ _ ∧ _ ≤ 1 + Ty.maxOpts fs
      cases ho : unionOpt hn fs sel with
      | none =>
        rw [hasType_union, ho] at h
        rw [serialize_union, ho]
        cases hn
        · cases h
        · exact ⟨Nat.le_refl _, Nat.le_add_right ..⟩
      | some t =>
        have hm := List.mem_of_getElem? (unionOpt_some ho).2.2
        obtain ⟨e, hl⟩ := union_some ho v
        obtain ⟨h1, h2⟩ := ih t hm v (e ▸ h)
        rw [hl]
        refine ⟨Nat.add_le_add_left ?_ 1,
          Nat.add_le_add_left (Nat.le_trans h2 (le_maxOpts fs t hm)) 1⟩
        split
        · exact Nat.zero_le _
        · exact Nat.le_trans (minOpts_le fs t hm) h1
    | _ => cases h


/-! ### tightness: witnesses of the minimum and of the maximum -/

/-- `k` copies of a value whose encoding has length `f e`, as a series: the encoded length for a
    bound `f` (`minSize` or `maxSize`) that is the fixed size on fixed-size elements -/
theorem series_replicate (f : Ty → Nat) (e : Ty) (hf : e.isFixed = true → f e = e.fixedSize) (v : Val)
    (hv : hasType e v = true) (hl : (serialize e v).length = f e) (k : Nat) :
    allHaveType e (List.replicate k v) = true ∧
    (if e.isFixed then (serList e (List.replicate k v)).flatten
      else serVarParts (serList e (List.replicate k v))).length =
      if e.isFixed then k * e.fixedSize else k * (4 + f e) := by
  have hm : ∀ w, w ∈ List.replicate k v → w = v := fun w hw => (List.mem_replicate.1 hw).2
  obtain ⟨h1, h2, h3⟩ := serList_bounds e (f e) (f e) (List.replicate k v)
    fun w hw => hm w hw ▸ eq_bounds hl
  refine ⟨(allHaveType_iff e _).2 fun w hw => hm w hw ▸ hv, ?_⟩
  rw [series_length, h1, Nat.le_antisymm h3 h2, List.length_replicate]
  by_cases h : e.isFixed = true
  · rw [if_pos h, if_pos h, hf h, Nat.zero_add]
  · rw [if_neg h, if_neg h, Nat.mul_add, Nat.mul_comm]

theorem fields_exact (f : Ty → Nat) (fs : List Ty)
    (h : ∀ t, t ∈ fs → ∃ v, hasType t v = true ∧ (serialize t v).length = f t) :
    ∃ vs, fieldsHaveType fs vs = true ∧ partsLen (serFields fs vs) = genFields f fs := by
  induction fs with
  | nil => exact ⟨[], rfl, rfl⟩
  | cons t ts ih =>
    obtain ⟨v, hv, hl⟩ := h t (List.mem_cons_self ..)
    obtain ⟨vs, hvs, hls⟩ := ih (fun t ht => h t (List.mem_cons_of_mem _ ht))
    refine ⟨v :: vs, Bool.and_eq_true_iff.2 ⟨hv, hvs⟩, ?_⟩
    show _ + _ = _ + genFields f ts
    rw [hls, hl]

theorem minOpts_attained (fs : List Ty) (hne : fs ≠ []) :
    ∃ t, t ∈ fs ∧ Ty.minOpts fs = t.minSize := by
  induction fs with
  | nil => exact absurd rfl hne
  | cons t ts ih =>
    cases ts with
    | nil => exact ⟨t, List.mem_cons_self .., rfl⟩
    | cons t2 ts =>
      obtain ⟨u, hu, e⟩ := ih (List.cons_ne_nil _ _)
      rw [minOpts_cons_cons]
      by_cases hle : t.minSize ≤ Ty.minOpts (t2 :: ts)
      · exact ⟨t, List.mem_cons_self .., Nat.min_eq_left hle⟩
      · exact ⟨u, List.mem_cons_of_mem _ hu, (Nat.min_eq_right (Nat.le_of_not_le hle)).trans e⟩

theorem maxOpts_attained (fs : List Ty) (hne : fs ≠ []) :
    ∃ t, t ∈ fs ∧ Ty.maxOpts fs = t.maxSize := by
  induction fs with
  | nil => exact absurd rfl hne
  | cons t ts ih =>
    rw [maxOpts_cons]
    cases ts with
    | nil => exact ⟨t, List.mem_cons_self .., Nat.max_eq_left (Nat.zero_le _)⟩
    | cons t2 ts =>
      obtain ⟨u, hu, e⟩ := ih (List.cons_ne_nil _ _)
      by_cases hle : Ty.maxOpts (t2 :: ts) ≤ t.maxSize
      · exact ⟨t, List.mem_cons_self .., Nat.max_eq_left hle⟩
      · exact ⟨u, List.mem_cons_of_mem _ hu, (Nat.max_eq_right (Nat.le_of_not_le hle)).trans e⟩

theorem union_exact (f : Ty → Nat) (hn : Bool) {opts : List Ty} {t : Ty} (hm : t ∈ opts)
    (h : ∃ v, hasType t v = true ∧ (serialize t v).length = f t) :
    ∃ v, hasType (.union hn opts) v = true ∧ (serialize (.union hn opts) v).length = 1 + f t := by
  obtain ⟨v, hv, hl⟩ := h
  obtain ⟨i, hi⟩ := List.getElem?_of_mem hm
  have ho : unionOpt hn opts (if hn then i + 1 else i) = some t := by
    cases hn
    · exact hi
    · exact hi
  obtain ⟨e1, e2⟩ := union_some ho v
  exact ⟨_, e1 ▸ hv, hl ▸ e2⟩

theorem tight : ∀ t : Ty, t.wf = true →
    (∃ v, hasType t v = true ∧ (serialize t v).length = t.minSize) ∧
    (∃ v, hasType t v = true ∧ (serialize t v).length = t.maxSize) := by
  apply Ty.induct
  · intro b _
    have w : ∃ v, hasType (.uint b) v = true ∧ (serialize (.uint b) v).length = b :=
      ⟨.num 0, decide_eq_true (Nat.pow_pos (by decide)), leBytes_length b 0⟩
    exact ⟨w, w⟩
  · intro _
    have w : ∃ v, hasType .bool v = true ∧ (serialize .bool v).length = 1 := ⟨.bool false, rfl, rfl⟩
    exact ⟨w, w⟩
  · intro n _
    have w : ∃ v, hasType (.bytesN n) v = true ∧ (serialize (.bytesN n) v).length = n :=
      ⟨.bytes (List.replicate n 0), beq_iff_eq.2 List.length_replicate, List.length_replicate⟩
    exact ⟨w, w⟩
  · intro n _
    have w : ∃ v, hasType (.bitvector n) v = true ∧ (serialize (.bitvector n) v).length = (n + 7) / 8 :=
      ⟨.bits (List.replicate n false), beq_iff_eq.2 List.length_replicate,
        (packBits_length _).trans (by rw [List.length_replicate])⟩
    exact ⟨w, w⟩
  · intro lim _
    refine ⟨⟨.bits [], decide_eq_true (Nat.zero_le _), rfl⟩,
      ⟨.bits (List.replicate lim false), decide_eq_true (Nat.le_of_eq List.length_replicate), ?_⟩⟩
    exact (delimited_length _).trans (by rw [List.length_replicate]; rfl)
  · intro e n ih hwf
    rw [wf_vector, Bool.and_eq_true] at hwf
    obtain ⟨⟨v1, hv1, hl1⟩, ⟨v2, hv2, hl2⟩⟩ := ih hwf.2
    obtain ⟨a1, b1⟩ := series_replicate Ty.minSize e (fun h => (fixed_min_max e h).1) v1 hv1 hl1 n
    obtain ⟨a2, b2⟩ := series_replicate Ty.maxSize e (fun h => (fixed_min_max e h).2) v2 hv2 hl2 n
    have hn : ∀ v : Val, (List.replicate n v).length == n := fun _ => beq_iff_eq.2 List.length_replicate
    exact ⟨⟨.seq (List.replicate n v1), Bool.and_eq_true_iff.2 ⟨hn v1, a1⟩, b1⟩,
      ⟨.seq (List.replicate n v2), Bool.and_eq_true_iff.2 ⟨hn v2, a2⟩, b2⟩⟩
  · intro e lim ih hwf
    obtain ⟨-, ⟨v, hv, hl⟩⟩ := ih hwf
    obtain ⟨a, b⟩ := series_replicate Ty.maxSize e (fun h => (fixed_min_max e h).2) v hv hl lim
    refine ⟨⟨.seq [], rfl, ?_⟩, ⟨.seq (List.replicate lim v), Bool.and_eq_true_iff.2
      ⟨decide_eq_true (Nat.le_of_eq List.length_replicate), a⟩, b⟩⟩
    show (if e.isFixed then [] else []).length = 0
    rw [ite_self]
    rfl
  · intro fs ih hwf
    rw [wf_container, Bool.and_eq_true] at hwf
    have h2 := (wfAll_iff fs).1 hwf.2
    obtain ⟨vs1, hvs1, hl1⟩ := fields_exact Ty.minSize fs (fun t ht => (ih t ht (h2 t ht)).1)
    obtain ⟨vs2, hvs2, hl2⟩ := fields_exact Ty.maxSize fs (fun t ht => (ih t ht (h2 t ht)).2)
    exact ⟨⟨.seq vs1, hvs1, (serContainerParts_partsLen _).trans (hl1.trans (fields_eq_gen fs).1.symm)⟩,
      ⟨.seq vs2, hvs2, (serContainerParts_partsLen _).trans (hl2.trans (fields_eq_gen fs).2.symm)⟩⟩
  · intro hn fs ih hwf
    rw [wf_union, Bool.and_eq_true, Bool.and_eq_true] at hwf
    have h2 := (wfAll_iff fs).1 hwf.1.2
    have hne : fs ≠ [] := fun h => by subst h; cases hwf.1.1
    obtain ⟨t, hm, e⟩ := minOpts_attained fs hne
    obtain ⟨t', hm', e'⟩ := maxOpts_attained fs hne
    have hmax : ∃ v, hasType (.union hn fs) v = true ∧
        (serialize (.union hn fs) v).length = 1 + Ty.maxOpts fs :=
      e' ▸ union_exact Ty.maxSize hn hm' (ih t' hm' (h2 t' hm')).2
    refine ⟨?_, hmax⟩
    cases hn with
    | true => exact ⟨.union 0 .none, rfl, rfl⟩
    | false =>
      show ∃ v, _ ∧ _ = 1 + Ty.minOpts fs
      exact e ▸ union_exact Ty.minSize false hm (ih t hm (h2 t hm)).1
end ZtypV.Sizes
