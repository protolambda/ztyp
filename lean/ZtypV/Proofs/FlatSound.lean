/-
C10, soundness of the flat decoder model: whenever `flatDecode` returns a value it consumed
exactly its share of the stream (its whole scope for variable-size types, its fixed size for
fixed-size types), the consumed bytes are the spec encoding of the returned value and the value
is well-typed.  One lemma per codec helper, then recursion over the type.
-/
import ZtypV.Proofs.Flat
import ZtypV.Proofs.FlatBitfields
import ZtypV.Proofs.FlatNoPanic
import ZtypV.Proofs.FlatEnc
namespace ZtypV.FlatProofs
open ZtypV ZtypV.View ZtypV.Flat ZtypV.DecodeProofs

/-- the bytes a decoder of type `t` must consume on reader `dr` -/
def need (t : Ty) (dr : DR) : Nat := if t.isFixed then t.fixedSize else dr.scope

def DSound (t : Ty) (f : DR → R (Val × DR)) : Prop :=
  ∀ (dr : DR) (v : Val) (dr' : DR), f dr = .ok (v, dr') →
    hasType t v = true ∧ serialize t v = dr.avail.take (need t dr) ∧
      need t dr ≤ dr.avail.length ∧ dr'.avail = dr.avail.drop (need t dr)

theorem need_fixed {t : Ty} (h : t.isFixed = true) (dr : DR) : need t dr = t.fixedSize := by
  simp [need, h]

theorem need_var {t : Ty} (h : t.isFixed = false) (dr : DR) : need t dr = dr.scope := by
  simp [need, h]

/-- a run from `dr` to `dr'` that yields `v`: the value is well-typed and its encoding, of the
    length needed, is what was taken off the stream -/
def Decoded (t : Ty) (v : Val) (dr dr' : DR) : Prop :=
  hasType t v = true ∧ (serialize t v).length = need t dr ∧ dr.avail = serialize t v ++ dr'.avail

theorem dsound_iff {t : Ty} {f : DR → R (Val × DR)} : DSound t f ↔
    ∀ (dr : DR) (v : Val) (dr' : DR), f dr = .ok (v, dr') → Decoded t v dr dr' := by
  constructor <;> intro hs dr v dr' h <;> obtain ⟨hty, h3⟩ := hs dr v dr' h
  · exact ⟨hty, span_iff.mp ⟨h3.1, h3.2.1, h3.2.2⟩⟩
  · obtain ⟨hser, hle, hav⟩ := span_iff.mpr h3
    exact ⟨hty, hser, hle, hav⟩

theorem dsound_close {t : Ty} {v : Val} {dr dr' : DR} {B : Bytes} {n : Nat} (hty : hasType t v = true)
    (hser : serialize t v = B) (hneed : need t dr = n) (hB : B.length = n ∧ dr.avail = B ++ dr'.avail) :
    Decoded t v dr dr' := by
  subst hser hneed; exact ⟨hty, hB⟩

theorem inSub_sound {t : Ty} {f : DR → R (Val × DR)} (hs : DSound t f) {dr dr' : DR} {count : Nat}
    {v : Val} (h : dr.inSub count f = .ok (v, dr')) (hc : t.isFixed = true → count = t.fixedSize) :
    hasType t v = true ∧ (serialize t v).length = count ∧ dr.avail = serialize t v ++ dr'.avail := by
  obtain ⟨c1, h1, hav⟩ := inSub_ok h
  obtain ⟨hty, hlen, happ⟩ := dsound_iff.mp hs _ _ _ h1
  have hneed : need t { i := 0, max := count, avail := dr.avail.take count } = count := by
    cases hf : t.isFixed with
    | true => rw [need_fixed hf, hc hf]
    | false => rw [need_var hf]; rfl
  rw [hneed] at hlen
  -- the child was handed `count` bytes at most and consumed `count`: nothing is left over
  have hl := congrArg List.length happ
  simp only [List.length_append, List.length_take] at hl
  have hc1 : c1.avail = [] := List.eq_nil_of_length_eq_zero (by omega)
  have hk : (dr.avail.take count).length - c1.avail.length = count := by
    rw [List.length_take]; omega
  rw [hk] at hav
  rw [hc1, List.append_nil] at happ
  exact ⟨hty, hlen, by rw [hav, ← happ]; exact (List.take_append_drop count dr.avail).symm⟩

/-- `Read(*dst)` after the resize: whatever the destination held, it now shows the bytes read -/
theorem readFull_resize_ok {dst : Slice} {n : Nat} {dr dr' : DR} {s : Slice}
    (h : (dst.resize n).readFull dr = .ok (s, dr')) :
    s.bytes.length = n ∧ dr.avail = s.bytes ++ dr'.avail := by
  unfold Slice.readFull at h
  obtain ⟨⟨bs, d⟩, h1, h⟩ := bind_eq_ok h
  rw [resize_len] at h1
  obtain ⟨hlen, happ⟩ := read_split h1
  cases h
  unfold Slice.bytes
  simp only [resize_len, List.take_left' hlen]
  exact ⟨hlen, happ⟩

theorem readRootsLoop_ok : ∀ (n : Nat) (dr dr' : DR) (rs : List Bytes),
    readRootsLoop n dr = .ok (rs, dr') →
    rs.length = n ∧ (∀ r ∈ rs, r.length = 32) ∧ dr.avail = rs.flatten ++ dr'.avail
  | 0, dr, dr', rs, h => by
    unfold readRootsLoop at h; cases h; simp
  | n + 1, dr, dr', rs, h => by
    unfold readRootsLoop at h
    obtain ⟨⟨r, d1⟩, h1, h⟩ := bind_eq_ok h
    obtain ⟨⟨rs', d2⟩, h2, h⟩ := bind_eq_ok h
    obtain ⟨hr, happ⟩ := read_split h1
    obtain ⟨ihl, ih32, ihapp⟩ := readRootsLoop_ok n d1 d2 rs' h2
    cases h
    refine ⟨by rw [List.length_cons, ihl], ?_, by rw [happ, ihapp, List.flatten_cons, List.append_assoc]⟩
    intro x hx
    rcases List.mem_cons.mp hx with rfl | hx'
    · exact hr
    · exact ih32 x hx'

theorem readRoots_ok {dst : RSlice} {n : Nat} {dr dr' : DR} {s : RSlice}
    (h : readRoots dst n dr = .ok (s, dr')) :
    s.roots.length = n ∧ (∀ r ∈ s.roots, r.length = 32) ∧ dr.avail = s.roots.flatten ++ dr'.avail := by
  unfold readRoots at h
  obtain ⟨⟨rs, d⟩, h1, h⟩ := bind_eq_ok h
  obtain ⟨hl, h32, happ⟩ := readRootsLoop_ok _ _ _ _ h1
  cases h
  -- the destination was given length `n`, one way or the other; the roots read fill all of it
  have hlen : (if dst.len ≠ n then (if dst.cap ≥ n then { dst with len := n }
      else ⟨n, n, List.replicate n z0⟩) else dst).len = n := by
    split
    · split <;> rfl
    · rename_i hn; exact Decidable.not_not.mp hn
  unfold RSlice.roots
  simp only [hlen, List.take_left' hl]
  exact ⟨hl, h32, happ⟩

theorem decUint_sound (b : Nat) : DSound (.uint b) (decUint b) := by
  refine dsound_iff.mpr fun dr v dr' h => ?_
  unfold decUint at h
  obtain ⟨⟨bs, d⟩, h1, h⟩ := bind_eq_ok h
  obtain ⟨hlen, happ⟩ := read_split h1
  cases h
  refine dsound_close ?_ ?_ rfl ⟨hlen, happ⟩
  · unfold hasType
    rw [decide_eq_true_eq, ← hlen]; exact leNat_lt bs
  · unfold serialize
    rw [← hlen]; exact leBytes_leNat bs

theorem decBool_sound : DSound .bool decBool := by
  refine dsound_iff.mpr fun dr v dr' h => ?_
  unfold decBool at h
  obtain ⟨⟨bs, d⟩, h1, h⟩ := bind_eq_ok h
  obtain ⟨hlen, happ⟩ := read_split h1
  obtain ⟨x, rfl⟩ := List.length_eq_one_iff.mp hlen
  dsimp only [List.headD_cons] at h
  obtain ⟨hd, h⟩ := ite_err_eq_ok h
  cases h
  have hx : x = 0 ∨ x = 1 := by
    rcases Nat.le_one_iff_eq_zero_or_eq_one.mp (Nat.le_of_not_lt hd) with h | h
    · exact .inl (UInt8.toNat_inj.mp h)
    · exact .inr (UInt8.toNat_inj.mp h)
  rcases hx with rfl | rfl <;> exact ⟨rfl, rfl, happ⟩

theorem decRoot_sound : DSound (.bytesN 32) decRoot := by
  refine dsound_iff.mpr fun dr v dr' h => ?_
  unfold decRoot at h
  obtain ⟨⟨bs, d⟩, h1, h⟩ := bind_eq_ok h
  obtain ⟨hlen, happ⟩ := read_split h1
  cases h
  exact ⟨by unfold hasType; rw [hlen]; rfl, hlen, happ⟩

theorem bytesN_sound (n : Nat) (p : Val) : DSound (.bytesN n) (flatDecode (.bytesN n) p) := by
  intro dr v dr' h
  unfold flatDecode at h
  by_cases hn : n = 32
  · subst hn
    exact decRoot_sound dr v dr' h
  · rw [if_neg hn] at h
    revert dr v dr' h
    refine dsound_iff.mpr fun dr v dr' h => ?_
    obtain ⟨⟨s, d⟩, h1, h⟩ := bind_eq_ok h
    cases h
    obtain ⟨hlen, happ⟩ := readFull_resize_ok h1
    exact ⟨by unfold hasType; rw [hlen]; exact beq_self_eq_true n, hlen, happ⟩

theorem bitvector_sound (n : Nat) (p : Val) : DSound (.bitvector n) (flatDecode (.bitvector n) p) := by
  refine dsound_iff.mpr fun dr v dr' h => ?_
  unfold flatDecode at h
  obtain ⟨⟨s, d⟩, h1, h⟩ := bind_eq_ok h
  cases h
  unfold decBitVector at h1
  obtain ⟨⟨s', d'⟩, h2, h1⟩ := bind_eq_ok h1
  dsimp only at h1
  by_cases hck : bitvectorCheck s'.bytes n = true
  · rw [if_pos hck] at h1
    cases h1
    obtain ⟨hlen, hbits⟩ := (bitvectorCheck_iff _ _).mp hck
    refine dsound_close (by unfold hasType; simp [unpackBits]) ?_ rfl (readFull_resize_ok h2)
    unfold serialize
    rw [unpackBits_eq_unpack]
    symm
    rw [Bitfields.eq_packBits_iff]
    refine ⟨by simpa using hlen, fun i => ?_⟩
    rw [Bitfields.unpack_getD]
    split
    · rfl
    · exact hbits i (by omega)
  · rw [if_neg hck] at h1; cases h1

theorem bitlist_sound (lim : Nat) (p : Val) : DSound (.bitlist lim) (flatDecode (.bitlist lim) p) := by
  refine dsound_iff.mpr fun dr v dr' h => ?_
  unfold flatDecode at h
  obtain ⟨⟨s, d⟩, h1, h⟩ := bind_eq_ok h
  cases h
  unfold decBitList at h1
  obtain ⟨_, h1⟩ := ite_err_eq_ok h1
  obtain ⟨⟨s', d'⟩, h2, h1⟩ := bind_eq_ok h1
  dsimp only at h1
  by_cases hck : bitlistCheck s'.bytes lim = true
  · rw [if_pos hck] at h1
    cases h1
    obtain ⟨h0, hz, hle⟩ := (bitlistCheck_iff _ _).mp hck
    refine dsound_close ?_ ?_ rfl (readFull_resize_ok h2)
    · unfold hasType
      simpa [unpackBitlist, unpackBits] using hle
    · unfold serialize
      exact (Bitfields.eq_packBits_delim s.bytes h0 hz).symm
  · rw [if_neg hck] at h1; cases h1

/-! ### vectors and lists

Bytes, roots and fixed-size elements in general are read by three different helpers, and each of
them delivers a `FixedSeries`; variable-size elements come behind their offset words
(`varSeries_sound`).  The vector and the list are typed and encoded from either. -/

/-- `vs` are `k` well-typed elements of type `e` whose encodings, `e.fixedSize` bytes each, were
    taken off the stream one after the other -/
def FixedSeries (e : Ty) (k : Nat) (vs : List Val) (dr dr' : DR) : Prop :=
  vs.length = k ∧ allHaveType e vs = true ∧ (serList e vs).flatten.length = k * e.fixedSize ∧
    dr.avail = (serList e vs).flatten ++ dr'.avail

theorem bytes_series {k : Nat} {bs : Bytes} {dr dr' : DR}
    (h : bs.length = k ∧ dr.avail = bs ++ dr'.avail) :
    FixedSeries (.uint 1) k (bs.map numOfByte) dr dr' := by
  obtain ⟨ht, hs⟩ := u8_series bs
  rw [FixedSeries, hs, List.length_map]
  exact ⟨h.1, ht, by rw [h.1]; exact (Nat.mul_one k).symm, h.2⟩

theorem roots_series {k : Nat} {rs : List Bytes} {dr dr' : DR}
    (h : rs.length = k ∧ (∀ r ∈ rs, r.length = 32) ∧ dr.avail = rs.flatten ++ dr'.avail) :
    FixedSeries (.bytesN 32) k (rs.map Val.bytes) dr dr' := by
  obtain ⟨ht, hs⟩ := root_series rs h.2.1
  rw [FixedSeries, hs, List.length_map, flatten_uniform_length 32 rs h.2.1, h.1]
  exact ⟨rfl, ht, rfl, h.2.2⟩

theorem decFixedItems_sound {e : Ty} : ∀ (items : List Des) (dr dr' : DR) (vs : List Val),
    (∀ it ∈ items, DSound e it.run) → decFixedItems e.fixedSize items dr = .ok (vs, dr') →
    FixedSeries e items.length vs dr dr'
  | [], dr, dr', vs, _, h => by
    unfold decFixedItems at h; cases h
    simp [FixedSeries, allHaveType, serList]
  | it :: its, dr, dr', vs, hs, h => by
    unfold decFixedItems at h
    obtain ⟨⟨x, d1⟩, h1, h⟩ := bind_eq_ok h
    obtain ⟨⟨xs, d2⟩, h2, h⟩ := bind_eq_ok h
    obtain ⟨hx, hlen, happ⟩ := inSub_sound (List.forall_mem_cons.mp hs).1 h1 (fun _ => rfl)
    obtain ⟨ihl, iht, ihlen, ihapp⟩ :=
      decFixedItems_sound its d1 d2 xs (List.forall_mem_cons.mp hs).2 h2
    cases h
    refine ⟨by simp [ihl], by simp [allHaveType, hx, iht], ?_, ?_⟩
    · rw [serList, List.flatten_cons, List.length_append, hlen, ihlen, List.length_cons,
        Nat.succ_mul, Nat.add_comm]
    · rw [serList, List.flatten_cons, List.append_assoc, ← ihapp]; exact happ

/-- The element loop over the offsets.  `offs.headD S` is where the remaining elements start (`S`
    when none is left): from there to `S` the stream holds the element encodings, and the offsets
    are the running offsets of these encodings. -/
theorem decOffsetItems_sound {e : Ty} (hv : e.isFixed = false) (vec : Bool) (S : Nat) :
    ∀ (offs : List Nat) (items : List Des) (prev : Nat) (dr dr' : DR) (vs : List Val),
    (∀ it ∈ items, DSound e it.run) → offs.length = items.length →
    decOffsetItems vec S prev offs items dr = .ok (vs, dr') →
    vs.length = offs.length ∧ allHaveType e vs = true ∧ offs.headD S ≤ S ∧
      offs = natOffsets (offs.headD S) (serList e vs) ∧
      offs.headD S + (serList e vs).flatten.length = S ∧
      dr.avail = (serList e vs).flatten ++ dr'.avail := by
  intro offs
  induction offs with
  | nil =>
    intro items prev dr dr' vs _ _ h
    unfold decOffsetItems at h; cases h
    exact ⟨rfl, rfl, Nat.le_refl S, rfl, rfl, rfl⟩
  | cons off rest ih =>
    intro items prev dr dr' vs hs hl h
    cases items with
    | nil => cases hl
    | cons it its =>
      unfold decOffsetItems at h
      obtain ⟨_, h⟩ := ite_err_eq_ok h
      obtain ⟨hnext, h⟩ := ite_err_eq_ok h
      obtain ⟨⟨x, d1⟩, h1, h⟩ := bind_eq_ok h
      obtain ⟨⟨xs, d2⟩, h2, h⟩ := bind_eq_ok h
      obtain ⟨hx, hlen, happ⟩ :=
        inSub_sound (List.forall_mem_cons.mp hs).1 h1 (fun hc => by rw [hv] at hc; cases hc)
      obtain ⟨ihl, iht, ihS, ihoffs, ihsum, ihapp⟩ :=
        ih its _ d1 d2 xs (List.forall_mem_cons.mp hs).2 (Nat.succ.inj hl) h2
      cases h
      have hle : off ≤ rest.headD S := Nat.le_of_not_lt hnext
      refine ⟨by simp [ihl], by simp [allHaveType, hx, iht], Nat.le_trans hle ihS, ?_, ?_, ?_⟩
      · rw [List.headD_cons, serList, natOffsets, hlen, Nat.add_sub_cancel' hle, ← ihoffs]
      · simp only [List.headD_cons, serList, List.flatten_cons, List.length_append, hlen]; omega
      · rw [serList, List.flatten_cons, List.append_assoc, ← ihapp]; exact happ

/-- offset words `o0 :: rest` with `o0 = 4·k`, then the element loop over them: the whole of `A` up
    to offset `S` is the spec layout of the series -/
theorem varSeries_sound {e : Ty} (hv : e.isFixed = false) {vec : Bool} {S k o0 : Nat} {rest : List Nat}
    {items : List Des} {A : Bytes} {d1 d2 : DR} {vs : List Val} (he : ∀ it ∈ items, DSound e it.run)
    (hlen : (o0 :: rest).length = k) (hil : items.length = k) (ho0 : o0 = 4 * k)
    (hA : A = ((o0 :: rest).map (leBytes 4)).flatten ++ d1.avail)
    (h : decOffsetItems vec S 0 (o0 :: rest) items d1 = .ok (vs, d2)) :
    vs.length = k ∧ allHaveType e vs = true ∧ (serVarParts (serList e vs)).length = S ∧
      A = serVarParts (serList e vs) ++ d2.avail := by
  obtain ⟨hvl, ht, _, hoffs, hsum, happ⟩ :=
    decOffsetItems_sound hv vec S _ _ _ _ _ _ he (by rw [hlen, hil]) h
  rw [List.headD_cons] at hoffs hsum
  have hpl : (serList e vs).length = k := by rw [← natOffsets_length _ o0, ← hoffs]; exact hlen
  refine ⟨by rw [hvl, hlen], ht, by rw [serVarParts_length, hpl]; omega, ?_⟩
  rw [hA, happ, serVarParts, hpl, offsetsOf_eq_map, ← ho0, ← hoffs, List.append_assoc]

theorem vector_of_fixed {e : Ty} {n : Nat} {vs : List Val} {dr dr' : DR} (hf : e.isFixed = true)
    (h : FixedSeries e n vs dr dr') : Decoded (.vector e n) (.seq vs) dr dr' := by
  obtain ⟨hl, ht, hlen, happ⟩ := h
  refine dsound_close ?_ ?_ ?_ ⟨hlen, happ⟩
  · unfold hasType
    simp [hl, ht]
  · unfold serialize
    simp only [hf, if_true]
  · simp [need, Ty.fixedSize, Ty.isFixed, hf]

theorem list_of_fixed {e : Ty} {lim k : Nat} {vs : List Val} {dr dr' : DR} (hf : e.isFixed = true)
    (hk : k ≤ lim) (hS : k * e.fixedSize = dr.scope) (h : FixedSeries e k vs dr dr') :
    Decoded (.list e lim) (.seq vs) dr dr' := by
  obtain ⟨hl, ht, hlen, happ⟩ := h
  refine dsound_close ?_ ?_ rfl ⟨hlen.trans hS, happ⟩
  · unfold hasType
    simp [hl, ht, hk]
  · unfold serialize
    simp only [hf, if_true]

theorem decVector_sound {e : Ty} (hwe : e.wf = true) {items : List Des}
    (hit : ∀ it ∈ items, DSound e it.run) (hn : 1 ≤ items.length) {dr dr' : DR} {vs : List Val}
    (h : decVector items (flatFixedLength e) dr = .ok (vs, dr')) :
    Decoded (.vector e items.length) (.seq vs) dr dr' := by
  unfold decVector at h
  cases hf : e.isFixed with
  | true =>
    rw [flatFixedLength_fixed hwe hf, if_pos (Nat.pos_iff_ne_zero.mp (fixedSize_pos _ hwe hf))] at h
    exact vector_of_fixed hf (decFixedItems_sound _ _ _ _ hit h)
  | false =>
    rw [flatFixedLength_var hwe hf, if_neg (fun hc => hc rfl)] at h
    obtain ⟨⟨offs, d1⟩, h2, h⟩ := bind_eq_ok h
    obtain ⟨hhead, h⟩ := ite_err_eq_ok h
    obtain ⟨hol, hA⟩ := readOffsetsN_ok _ _ _ _ h2
    cases offs with
    | nil => exact absurd hol (by rw [List.length_nil]; omega)
    | cons o0 rest =>
      have ho0 : o0 = 4 * items.length := Decidable.byContradiction fun hc =>
        hhead ⟨hn, fun h => hc (by rw [List.headD_cons] at h; omega)⟩
      obtain ⟨hvl, ht, hlen, happ⟩ := varSeries_sound hf hit hol rfl ho0 hA h
      refine dsound_close ?_ ?_ (need_var (by rw [Ty.isFixed, hf]) dr) ⟨hlen, happ⟩
      · unfold hasType
        rw [hvl, ht, beq_self_eq_true]; rfl
      · unfold serialize
        rw [if_neg (by rw [hf]; exact Bool.false_ne_true)]

theorem decList_sound {e : Ty} (hwe : e.wf = true) {add : DR → R (Val × DR)} (ha : DSound e add)
    (lim : Nat) {dr dr' : DR} {vs : List Val}
    (h : decList add (flatFixedLength e) lim dr = .ok (vs, dr')) :
    Decoded (.list e lim) (.seq vs) dr dr' := by
  unfold decList at h
  by_cases h0 : dr.scope = 0
  · rw [if_pos h0] at h
    cases h
    refine dsound_close (B := []) rfl ?_ rfl ⟨h0.symm, rfl⟩
    unfold serialize; split <;> rfl
  rw [if_neg h0] at h
  cases hf : e.isFixed with
  | true =>
    rw [flatFixedLength_fixed hwe hf, if_pos (Nat.pos_iff_ne_zero.mp (fixedSize_pos _ hwe hf))] at h
    obtain ⟨hmod, h⟩ := ite_err_eq_ok h
    obtain ⟨hlim, h⟩ := ite_err_eq_ok h
    exact list_of_fixed hf (Nat.le_of_not_lt hlim)
      (Nat.div_mul_cancel (Nat.dvd_of_mod_eq_zero (Decidable.not_not.mp hmod)))
      (List.length_replicate (n := dr.scope / e.fixedSize) ▸
        decFixedItems_sound _ _ _ _ (List.forall_mem_replicate.mpr (.inr ha)) h)
  | false =>
    rw [flatFixedLength_var hwe hf, if_neg (fun hc => hc rfl)] at h
    obtain ⟨⟨first, d1⟩, h2, h⟩ := bind_eq_ok h
    obtain ⟨hmod, h⟩ := ite_err_eq_ok h
    obtain ⟨hrange, h⟩ := ite_err_eq_ok h
    obtain ⟨hlim, h⟩ := ite_err_eq_ok h
    obtain ⟨⟨os, d2⟩, h3, h⟩ := bind_eq_ok h
    obtain ⟨hol, hA⟩ := readOffsetsN_ok _ _ _ _ h3
    obtain ⟨hvl, ht, hlen, happ⟩ := varSeries_sound (k := first / 4) (A := dr.avail) hf
      (List.forall_mem_replicate.mpr (.inr ha)) (by rw [List.length_cons, hol]; omega)
      (List.length_replicate ..) (by omega)
      (by rw [readOffset_split h2, hA, List.map_cons, List.flatten_cons, List.append_assoc]) h
    refine dsound_close ?_ ?_ rfl ⟨hlen, happ⟩
    · unfold hasType
      rw [Bool.and_eq_true, decide_eq_true_eq, hvl]
      exact ⟨Nat.le_of_not_lt hlim, ht⟩
    · unfold serialize
      rw [if_neg (by rw [hf]; exact Bool.false_ne_true)]

theorem vector_sound {e : Ty} (hwe : e.wf = true) (he : ∀ q, DSound e (flatDecode e q)) (n : Nat)
    (hn : 1 ≤ n) (p : Val) : DSound (.vector e n) (flatDecode (.vector e n) p) := by
  refine dsound_iff.mpr fun dr v dr' h => ?_
  unfold flatDecode at h
  by_cases hu8 : isU8 e = true
  · rw [if_pos hu8] at h
    have := isU8_iff.mp hu8; subst this
    obtain ⟨⟨s, d⟩, h1, h⟩ := bind_eq_ok h
    cases h
    exact vector_of_fixed rfl (bytes_series (readFull_resize_ok h1))
  rw [if_neg hu8] at h
  by_cases hroot : isRootTy e = true
  · rw [if_pos hroot] at h
    have := isRootTy_iff.mp hroot; subst this
    obtain ⟨⟨s, d⟩, h1, h⟩ := bind_eq_ok h
    cases h
    exact vector_of_fixed rfl (roots_series (readRoots_ok h1))
  · -- elements decoded one by one, element `i` into what the destination held at `i`
    rw [if_neg hroot] at h
    obtain ⟨⟨vs, d⟩, h1, h⟩ := bind_eq_ok h
    cases h
    have hlen : ∀ g : Nat → Des, ((List.range n).map g).length = n := fun g => by
      rw [List.length_map, List.length_range]
    have := decVector_sound hwe (List.forall_mem_map.mpr fun _ _ => he _) (by rw [hlen]; exact hn) h1
    rwa [hlen] at this

theorem list_sound {e : Ty} (hwe : e.wf = true) (he : ∀ q, DSound e (flatDecode e q)) (lim : Nat)
    (p : Val) : DSound (.list e lim) (flatDecode (.list e lim) p) := by
  refine dsound_iff.mpr fun dr v dr' h => ?_
  unfold flatDecode at h
  by_cases hu8 : isU8 e = true
  · rw [if_pos hu8] at h
    have := isU8_iff.mp hu8; subst this
    obtain ⟨⟨s, d⟩, h1, h⟩ := bind_eq_ok h
    cases h
    unfold decByteList at h1
    obtain ⟨hlim, h1⟩ := ite_err_eq_ok h1
    exact list_of_fixed rfl (Nat.le_of_not_lt hlim) (Nat.mul_one _)
      (bytes_series (readFull_resize_ok h1))
  rw [if_neg hu8] at h
  by_cases hroot : isRootTy e = true
  · rw [if_pos hroot] at h
    have := isRootTy_iff.mp hroot; subst this
    obtain ⟨⟨s, d⟩, h1, h⟩ := bind_eq_ok h
    cases h
    unfold readRootsLimited at h1
    obtain ⟨hmod, h1⟩ := ite_err_eq_ok h1
    obtain ⟨hlim, h1⟩ := ite_err_eq_ok h1
    exact list_of_fixed rfl (Nat.le_of_not_lt hlim)
      (Nat.div_mul_cancel (Nat.dvd_of_mod_eq_zero (Decidable.not_not.mp hmod)))
      (roots_series (readRoots_ok h1))
  · -- `*l = (*l)[:0]`, then every element is decoded into a zero value
    rw [if_neg hroot] at h
    obtain ⟨⟨vs, d⟩, h1, h⟩ := bind_eq_ok h
    cases h
    exact decList_sound hwe (he Val.none) lim h1

/-- the field deserializers are sound decoders of the field types and report their fixed length -/
def FieldsSound : List Ty → List Des → Prop
  | [], [] => True
  | t :: ts, f :: fs => f.fixedLength = flatFixedLength t ∧ DSound t f.run ∧ FieldsSound ts fs
  | _, _ => False

theorem flatFieldDes_sound : ∀ (fs : List Ty) (p : Val) (i : Nat),
    (∀ t ∈ fs, ∀ q, DSound t (flatDecode t q)) → FieldsSound fs (flatFieldDes fs p i)
  | [], p, i, _ => by rw [flatFieldDes]; trivial
  | t :: ts, p, i, h => by
    rw [flatFieldDes]
    exact ⟨rfl, (List.forall_mem_cons.mp h).1 _,
      flatFieldDes_sound ts p (i + 1) (List.forall_mem_cons.mp h).2⟩

theorem fixedPart_serFields {ts : List Ty} {vs : List Val} (h : fieldsHaveType ts vs = true) (off : Nat) :
    (serFixedPart off (serFields ts vs)).length = Ty.fixedPart ts ∧
      fixedPartLen (serFields ts vs) = Ty.fixedPart ts := by
  rw [serFixedPart_length]
  exact ⟨fixedPartLen_serFields ts vs (fun v _ t => serialize_fixed_length v t) h,
    fixedPartLen_serFields ts vs (fun v _ t => serialize_fixed_length v t) h⟩

theorem decFixedLenContainer_sound : ∀ (ts : List Ty) (fields : List Des) (dr dr' : DR)
    (vs : List Val), FieldsSound ts fields → Ty.allFixed ts = true →
    decFixedLenContainer fields dr = .ok (vs, dr') →
    fieldsHaveType ts vs = true ∧
      ∀ off, dr.avail = serFixedPart off (serFields ts vs) ++ dr'.avail := by
  intro ts
  induction ts with
  | nil =>
    intro fields dr dr' vs hs _ h
    cases fields with
    | cons _ _ => cases hs
    | nil =>
      unfold decFixedLenContainer at h; cases h
      exact ⟨rfl, fun _ => rfl⟩
  | cons t ts ih =>
    intro fields dr dr' vs hs hf h
    cases fields with
    | nil => cases hs
    | cons f fs =>
      obtain ⟨_, hst, hss⟩ := hs
      simp only [Ty.allFixed, Bool.and_eq_true] at hf
      unfold decFixedLenContainer at h
      obtain ⟨⟨x, d1⟩, h1, h⟩ := bind_eq_ok h
      obtain ⟨⟨xs, d2⟩, h2, h⟩ := bind_eq_ok h
      obtain ⟨hx, _, happ⟩ := dsound_iff.mp hst _ _ _ h1
      obtain ⟨iht, ih⟩ := ih fs d1 d2 xs hss hf.2 h2
      cases h
      refine ⟨by rw [fieldsHaveType, hx, iht]; rfl, fun off => ?_⟩
      rw [serFields, hf.1, serFixedPart, List.append_assoc, ← ih off]
      exact happ

/-- the variable-size field types in order -/
def varTys : List Ty → List Ty
  | [] => []
  | t :: ts => if t.isFixed then varTys ts else t :: varTys ts

theorem varTys_var : ∀ (ts : List Ty) (t : Ty), t ∈ varTys ts → t.isFixed = false
  | [], _, h => by cases h
  | a :: as, t, h => by
    unfold varTys at h
    split at h
    · exact varTys_var as t h
    · rcases List.mem_cons.mp h with rfl | h'
      · rename_i hf; simpa using hf
      · exact varTys_var as t h'

theorem varTys_ne_nil : ∀ (ts : List Ty), Ty.allFixed ts = false → varTys ts ≠ []
  | [], h => by simp [Ty.allFixed] at h
  | t :: ts, h => by
    unfold varTys
    cases hf : t.isFixed with
    | true =>
      simp only [Ty.allFixed, hf, Bool.true_and] at h
      simpa using varTys_ne_nil ts h
    | false => simp

/-- the encodings of the given fields, in order (used with the variable-size fields `varTys ts`) -/
def partsOf : List Ty → List Val → List Bytes
  | t :: ts, v :: vs => serialize t v :: partsOf ts vs
  | _, _ => []

/-- First loop of `Container`.  It leaves the dynamic fields `dyn` and their offsets `offs`.
    Whatever values `dvs` the second loop then finds for them, provided `offs` are the running
    offsets of their encodings from `o` on: the merged field list is well-typed and the bytes this
    loop consumed are the fixed part of its encoding. -/
theorem decContainerFixed_sound : ∀ (ts : List Ty) (fields : List Des) (dr dr' : DR)
    (slots : List (Option Val)) (offs : List Nat) (dyn : List Des),
    Ty.wfAll ts = true → FieldsSound ts fields →
    decContainerFixed fields dr = .ok (slots, offs, dyn, dr') →
    FieldsSound (varTys ts) dyn ∧ containerFixedLen fields = Ty.fixedPart ts ∧
      ∀ (dvs : List Val) (o : Nat), fieldsHaveType (varTys ts) dvs = true →
        offs = natOffsets o (partsOf (varTys ts) dvs) →
        fieldsHaveType ts (mergeSlots slots dvs) = true ∧
        serVarPart (serFields ts (mergeSlots slots dvs)) = (partsOf (varTys ts) dvs).flatten ∧
        dr.avail = serFixedPart o (serFields ts (mergeSlots slots dvs)) ++ dr'.avail := by
  intro ts
  induction ts with
  | nil =>
    intro fields dr dr' slots offs dyn _ hs h
    cases fields with
    | cons _ _ => cases hs
    | nil =>
      unfold decContainerFixed at h; cases h
      exact ⟨trivial, rfl, fun _ _ _ _ => ⟨rfl, rfl, rfl⟩⟩
  | cons t ts ih =>
    intro fields dr dr' slots offs dyn hw hs h
    cases fields with
    | nil => cases hs
    | cons f fs =>
      obtain ⟨hfl, hst, hss⟩ := hs
      simp only [Ty.wfAll, Bool.and_eq_true] at hw
      unfold decContainerFixed at h
      rw [containerFixedLen, Ty.fixedPart, hfl]
      cases hf : t.isFixed with
      | true =>
        have hfix := flatFixedLength_fixed hw.1 hf
        have hpos : t.fixedSize ≠ 0 := Nat.pos_iff_ne_zero.mp (fixedSize_pos _ hw.1 hf)
        rw [hfl, hfix, if_pos hpos] at h
        obtain ⟨⟨x, d1⟩, h1, h⟩ := bind_eq_ok h
        obtain ⟨⟨slots', offs', dyn', d2⟩, h2, h⟩ := bind_eq_ok h
        obtain ⟨hx, _, happ⟩ := inSub_sound hst h1 (fun _ => rfl)
        obtain ⟨ihdyn, ihc, ih⟩ := ih fs d1 d2 slots' offs' dyn' hw.2 hss h2
        cases h
        have hvt : varTys (t :: ts) = varTys ts := by rw [varTys, hf]; rfl
        rw [hvt, hfix, if_pos hpos, ihc]
        refine ⟨ihdyn, rfl, fun dvs o hd hoffs => ?_⟩
        obtain ⟨i1, i2, i3⟩ := ih dvs o hd hoffs
        rw [mergeSlots, serFields, hf, fieldsHaveType, hx, i1, serVarPart, serFixedPart,
          List.append_assoc, ← i3]
        exact ⟨rfl, i2, happ⟩
      | false =>
        have hvar := flatFixedLength_var hw.1 hf
        rw [hfl, hvar, if_neg (fun hc => hc rfl)] at h
        obtain ⟨⟨ov, d1⟩, h1, h⟩ := bind_eq_ok h
        obtain ⟨⟨slots', offs', dyn', d2⟩, h2, h⟩ := bind_eq_ok h
        obtain ⟨ihdyn, ihc, ih⟩ := ih fs d1 d2 slots' offs' dyn' hw.2 hss h2
        cases h
        have hvt : varTys (t :: ts) = t :: varTys ts := by rw [varTys, hf]; rfl
        rw [hvt, hvar, if_neg (fun hc => hc rfl), ihc]
        refine ⟨⟨hfl, hst, ihdyn⟩, rfl, fun dvs o hd hoffs => ?_⟩
        match dvs, hd with
        | d :: dvs', hd =>
          rw [fieldsHaveType, Bool.and_eq_true] at hd
          rw [partsOf, natOffsets, List.cons.injEq] at hoffs
          obtain ⟨i1, i2, i3⟩ := ih dvs' _ hd.2 hoffs.2
          rw [mergeSlots, serFields, hf, fieldsHaveType, hd.1, i1, serVarPart, i2, serFixedPart,
            List.append_assoc, ← i3, partsOf, List.flatten_cons, ← hoffs.1]
          exact ⟨rfl, rfl, readOffset_split h1⟩

/-- Second loop of `Container`, over the offsets of the dynamic fields: as in
    `decOffsetItems_sound`, with a type per field. -/
theorem decContainerDyn_sound (S : Nat) : ∀ (ts : List Ty) (offs : List Nat) (dyn : List Des)
    (dr dr' : DR) (vs : List Val), (∀ t ∈ ts, t.isFixed = false) → FieldsSound ts dyn →
    offs.length = dyn.length → decContainerDyn S offs dyn dr = .ok (vs, dr') →
    fieldsHaveType ts vs = true ∧ offs.headD S ≤ S ∧
      offs = natOffsets (offs.headD S) (partsOf ts vs) ∧
      offs.headD S + (partsOf ts vs).flatten.length = S ∧
      dr.avail = (partsOf ts vs).flatten ++ dr'.avail := by
  intro ts offs dyn
  induction dyn generalizing ts offs with
  | nil =>
    intro dr dr' vs _ hs hl h
    cases ts with
    | cons _ _ => cases hs
    | nil =>
      cases offs with
      | cons _ _ => cases hl
      | nil =>
        unfold decContainerDyn at h; cases h
        exact ⟨rfl, Nat.le_refl S, rfl, rfl, rfl⟩
  | cons f fs ih =>
    intro dr dr' vs hv hs hl h
    cases ts with
    | nil => cases hs
    | cons t ts =>
      cases offs with
      | nil => cases hl
      | cons off rest =>
        obtain ⟨_, hst, hss⟩ := hs
        unfold decContainerDyn at h
        obtain ⟨hnext, h⟩ := ite_err_eq_ok h
        obtain ⟨⟨x, d1⟩, h1, h⟩ := bind_eq_ok h
        obtain ⟨⟨xs, d2⟩, h2, h⟩ := bind_eq_ok h
        obtain ⟨hx, hlen, happ⟩ :=
          inSub_sound hst h1 (fun hc => by rw [(List.forall_mem_cons.mp hv).1] at hc; cases hc)
        obtain ⟨iht, ihS, ihoffs, ihsum, ihapp⟩ :=
          ih ts rest d1 d2 xs (List.forall_mem_cons.mp hv).2 hss (Nat.succ.inj hl) h2
        cases h
        have hle : off ≤ rest.headD S := Nat.le_of_not_lt hnext
        refine ⟨by simp [fieldsHaveType, hx, iht], Nat.le_trans hle ihS, ?_, ?_, ?_⟩
        · rw [List.headD_cons, partsOf, natOffsets, hlen, Nat.add_sub_cancel' hle, ← ihoffs]
        · simp only [List.headD_cons, partsOf, List.flatten_cons, List.length_append, hlen]; omega
        · rw [partsOf, List.flatten_cons, List.append_assoc, ← ihapp]; exact happ

theorem container_sound {fs : List Ty} (hw : Ty.wfAll fs = true)
    (hfs : ∀ t ∈ fs, ∀ q, DSound t (flatDecode t q)) (p : Val) :
    DSound (.container fs) (flatDecode (.container fs) p) := by
  refine dsound_iff.mpr fun dr v dr' h => ?_
  unfold flatDecode at h
  have hfields := flatFieldDes_sound fs p 0 hfs
  cases hall : Ty.allFixed fs with
  | true =>
    rw [if_pos hall] at h
    obtain ⟨⟨vs, d⟩, h1, h⟩ := bind_eq_ok h
    cases h
    obtain ⟨ht, hfix⟩ := decFixedLenContainer_sound fs _ _ _ _ hfields hall h1
    refine dsound_close (by unfold hasType; exact ht) ?_ (need_fixed (by rw [Ty.isFixed]; exact hall) dr)
      ⟨(fixedPart_serFields ht _).1, hfix (fixedPartLen (serFields fs vs))⟩
    unfold serialize
    rw [serContainerParts, serVarPart_allFixed fs vs hall, List.append_nil]
  | false =>
    rw [if_neg (by simp [hall])] at h
    obtain ⟨⟨vs, d⟩, h1, h⟩ := bind_eq_ok h
    cases h
    unfold decContainer at h1
    dsimp only at h1
    obtain ⟨⟨slots, offs, dyn, d1⟩, h2, h1⟩ := bind_eq_ok h1
    dsimp only at h1
    obtain ⟨hdyn, hcfl, hmerge⟩ := decContainerFixed_sound fs _ _ _ _ _ _ hw hfields h2
    have hlen := (decContainerFixed_shape _ _ _ _ _ _ h2).1
    -- some field is variable-size, so there are dynamic fields and offsets
    have hvne := varTys_ne_nil fs hall
    have hvar := varTys_var fs
    generalize varTys fs = vts at hdyn hmerge hvne hvar
    cases vts with
    | nil => exact absurd rfl hvne
    | cons t ts' =>
      cases dyn with
      | nil => cases hdyn
      | cons f dyn' =>
        cases offs with
        | nil => cases hlen
        | cons o0 rest =>
          rw [if_neg (by simp)] at h1
          obtain ⟨hfirst, h1⟩ := ite_err_eq_ok h1
          obtain ⟨⟨dvs, d2⟩, h3, h1⟩ := bind_eq_ok h1
          cases h1
          obtain ⟨hdt, _, hoffs, hsum, happ⟩ := decContainerDyn_sound dr.scope (t :: ts')
            (o0 :: rest) (f :: dyn') d1 _ _ hvar hdyn hlen h3
          rw [List.headD_cons] at hfirst hoffs hsum
          have ho0 : o0 = Ty.fixedPart fs := by
            rw [hcfl] at hfirst; exact (Decidable.not_not.mp hfirst).symm
          obtain ⟨m1, m4, m5⟩ := hmerge dvs o0 hdt hoffs
          obtain ⟨m3, m2⟩ := fixedPart_serFields m1 o0
          refine dsound_close (by unfold hasType; exact m1) ?_
            (need_var (by rw [Ty.isFixed]; exact hall) dr) ⟨?_, by rw [m5, happ, List.append_assoc]⟩
          · unfold serialize
            rw [serContainerParts, m2, m4, ← ho0]
          · rw [List.length_append, m3, ← ho0]; exact hsum

/-- `Union` hands a fixed-size option exactly its size, so every option decoder is to consume its
    whole scope -/
theorem need_of_union_check {t : Ty} (hw : t.wf = true) {dr : DR}
    (hc : ¬ (flatFixedLength t ≠ 0 ∧ flatFixedLength t ≠ dr.scope)) : need t dr = dr.scope := by
  cases hf : t.isFixed with
  | false => exact need_var hf dr
  | true =>
    rw [need_fixed hf]
    have h1 := flatFixedLength_fixed hw hf
    have h2 := fixedSize_pos _ hw hf
    exact Decidable.byContradiction fun hne => hc ⟨by omega, by omega⟩

theorem union_sound {hasNone : Bool} {opts : List Ty} (hw : Ty.wfAll opts = true)
    (hopts : ∀ t ∈ opts, ∀ q, DSound t (flatDecode t q)) (p : Val) :
    DSound (.union hasNone opts) (flatDecode (.union hasNone opts) p) := by
  refine dsound_iff.mpr fun dr v dr' h => ?_
  unfold flatDecode at h
  dsimp only at h
  obtain ⟨⟨⟨sel, ov⟩, d⟩, h1, h⟩ := bind_eq_ok h
  change decUnion (unionSelect hasNone opts) dr = _ at h1
  unfold decUnion at h1
  obtain ⟨⟨sb, d1⟩, hr, h1⟩ := bind_eq_ok h1
  dsimp only at h1
  obtain ⟨dest, hsel, h1⟩ := bind_eq_ok h1
  obtain ⟨hsbl, happ⟩ := read_split hr
  have hscope := read_scope_eq hr
  obtain ⟨b, rfl⟩ := List.length_eq_one_iff.mp hsbl
  rw [List.headD_cons] at hsel h1
  have hbyte : UInt8.ofNat b.toNat = b := UInt8.ofNat_toNat
  rw [unionSelect_eq] at hsel
  cases huo : unionOpt hasNone opts b.toNat with
  | none =>
    -- the None option: nothing may follow the selector
    rw [huo] at hsel
    dsimp only at hsel
    split at hsel
    · rename_i hn0
      cases hsel
      obtain ⟨_, h1⟩ := ite_err_eq_ok h1
      obtain ⟨hsc, h1⟩ := ite_err_eq_ok h1
      cases h1
      dsimp only at h
      cases h
      refine dsound_close (B := [b]) ?_ ?_ rfl
        ⟨by show 1 = dr.scope; rw [hscope, Decidable.not_not.mp hsc], happ⟩
      · unfold hasType
        simp only [hn0.1, hn0.2]; rfl
      · unfold serialize
        simp only [huo, hbyte]
    · cases hsel
  | some t =>
    rw [huo] at hsel
    cases hsel
    obtain ⟨hfix, h1⟩ := ite_err_eq_ok h1
    obtain ⟨⟨x, d2⟩, hrun, h1⟩ := bind_eq_ok h1
    cases h1
    dsimp only at h
    cases h
    have htm := unionOpt_mem huo
    obtain ⟨hx, hlen, happ2⟩ := dsound_iff.mp (hopts t htm Val.none) _ _ _ hrun
    rw [need_of_union_check (wfAll_mem opts hw t htm) hfix] at hlen
    refine dsound_close (B := b :: serialize t x) ?_ ?_ rfl
      ⟨by show _ = dr.scope; rw [List.length_cons, hlen, hscope, Nat.add_comm],
        by rw [happ, happ2]; rfl⟩
    · unfold hasType
      simp only [huo]; exact hx
    · simp only [serialize, huo, hbyte]

theorem flatDecode_sound (t : Ty) : t.wf = true → ∀ (prior : Val), DSound t (flatDecode t prior) := by
  induction t using Ty.induct with
  | uint b =>
    intro _ p dr v dr' h
    unfold flatDecode at h
    exact decUint_sound b dr v dr' h
  | bool =>
    intro _ p dr v dr' h
    unfold flatDecode at h
    exact decBool_sound dr v dr' h
  | bytesN n => exact fun _ => bytesN_sound n
  | bitvector n => exact fun _ => bitvector_sound n
  | bitlist n => exact fun _ => bitlist_sound n
  | vector e n ih =>
    intro hw
    simp only [Ty.wf, Bool.and_eq_true, decide_eq_true_eq] at hw
    exact vector_sound hw.2 (ih hw.2) n hw.1
  | list e lim ih =>
    intro hw
    rw [Ty.wf] at hw
    exact list_sound hw (ih hw) lim
  | container fs ih =>
    intro hw
    simp only [Ty.wf, Bool.and_eq_true] at hw
    exact container_sound hw.2 fun t ht => ih t ht (wfAll_mem fs hw.2 t ht)
  | union hasNone opts ih =>
    intro hw
    simp only [Ty.wf, Bool.and_eq_true] at hw
    exact union_sound hw.1.2 fun t ht => ih t ht (wfAll_mem opts hw.1.2 t ht)

theorem new_scope (bs : Bytes) : (DR.new bs bs.length).scope = bs.length := by
  simp [DR.new, DR.scope]

theorem new_avail (bs : Bytes) : (DR.new bs bs.length).avail = bs := by
  simp [DR.new]

end ZtypV.FlatProofs
