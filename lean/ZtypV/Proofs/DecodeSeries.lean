/-
C03, series: bytes of a basic series are the packing of well-typed numbers; what an item
decoder run in a sub-scope took from its parent (`inSub_span`); items decoded in fixed-size
sub-scopes (`decodeFixedItems`).
-/
import ZtypV.Proofs.DecodeBasic
namespace ZtypV.DecodeProofs
open ZtypV ZtypV.View

theorem constructList_cons {h : HashFn} {e : Ty} {v : Val} {vs : List Val} {x : Node} {xs : List Node}
    (hv : construct h e v = .ok x) (hvs : constructList h e vs = .ok xs) :
    constructList h e (v :: vs) = .ok (x :: xs) := by
  rw [constructList, hv, hvs]; rfl

theorem allHaveType_cons {e : Ty} {v : Val} {vs : List Val} (hv : hasType e v = true)
    (hvs : allHaveType e vs = true) : allHaveType e (v :: vs) = true := by
  rw [allHaveType, hv, hvs]; rfl

theorem basic_series_vals (b : Nat) : ∀ (k : Nat) (bs : Bytes), bs.length = k * b →
    ∃ vs : List Val, vs.length = k ∧ allHaveType (.uint b) vs = true ∧
      (serList (.uint b) vs).flatten = bs := by
  intro k
  induction k with
  | zero =>
    intro bs hl
    have : bs = [] := List.eq_nil_of_length_eq_zero (by simpa using hl)
    subst this
    exact ⟨[], rfl, by simp [allHaveType], by simp [serList]⟩
  | succ k ih =>
    intro bs hl
    have hl' : bs.length = k * b + b := by rw [hl, Nat.succ_mul]
    obtain ⟨vs, hvl, hvt, hvs⟩ := ih (bs.drop b) (by rw [List.length_drop, hl', Nat.add_sub_cancel])
    obtain ⟨hv, hs⟩ := uint_of_bytes (b := b) (bs := bs.take b)
      (by rw [List.length_take, hl']; exact Nat.min_eq_left (Nat.le_add_left _ _))
    refine ⟨.num (leNat (bs.take b)) :: vs, congrArg (· + 1) hvl, allHaveType_cons hv hvt, ?_⟩
    rw [serList, List.flatten_cons, hs, hvs, List.take_append_drop]

theorem inSub_span {h : HashFn} {e : Ty} (he : Sound h e) {count : Nat}
    (hleaf : isLeafTy e = true → count = e.fixedSize) {dr dr' : DR} {n : Node}
    (hd : dr.inSub count (fun d => decode h e d) = .ok (n, dr')) :
    ∃ v, hasType e v = true ∧ construct h e v = .ok n ∧ Span dr dr' count (serialize e v) := by
  obtain ⟨c1, hf, hav⟩ := inSub_ok hd
  obtain ⟨v, hv, hser, hle, hc1, hcon⟩ := he _ _ _ hf (by
    intro hl; simpa [DR.scope] using hleaf hl)
  simp only [DR.scope, Nat.sub_zero, List.length_take] at hser hle hc1
  have hcl : count ≤ dr.avail.length := by omega
  refine ⟨v, hv, hcon, ?_, hcl, ?_⟩
  · rw [hser, List.take_take, Nat.min_self]
  · rw [hav, hc1, List.length_take, List.length_drop, List.length_take]
    congr 1; omega

theorem inSub_sound {h : HashFn} {e : Ty} (he : Sound h e) {count : Nat}
    (hleaf : isLeafTy e = true → count = e.fixedSize) {dr dr' : DR} {n : Node}
    (hd : dr.inSub count (fun d => decode h e d) = .ok (n, dr')) :
    ∃ v, hasType e v = true ∧ serialize e v = dr.avail.take count ∧ count ≤ dr.avail.length ∧
      dr'.avail = dr.avail.drop count ∧ construct h e v = .ok n :=
  let ⟨v, hv, hcon, hs, hl, ha⟩ := inSub_span he hleaf hd
  ⟨v, hv, hs, hl, ha, hcon⟩

theorem fixedItems_sound {h : HashFn} {e : Ty} (he : Sound h e) {size : Nat}
    (hleaf : isLeafTy e = true → size = e.fixedSize) :
    ∀ (k : Nat) (dr : DR) (ns : List Node) (dr' : DR),
      decodeFixedItems (fun d => decode h e d) size k dr = .ok (ns, dr') →
      ∃ vs : List Val, vs.length = k ∧ allHaveType e vs = true ∧ constructList h e vs = .ok ns ∧
        Span dr dr' (k * size) (serList e vs).flatten := by
  intro k
  induction k with
  | zero =>
    intro dr ns dr' hd
    rw [decodeFixedItems] at hd
    cases hd
    exact ⟨[], rfl, rfl, rfl, (Span.refl dr).cast (Nat.zero_mul _).symm rfl⟩
  | succ k ih =>
    intro dr ns dr' hd
    rw [decodeFixedItems] at hd
    obtain ⟨⟨x, d1⟩, h1, hd⟩ := bind_eq_ok hd
    obtain ⟨⟨xs, d2⟩, h2, hd⟩ := bind_eq_ok hd
    cases hd
    obtain ⟨v, hv, hcon, sp⟩ := inSub_span he hleaf h1
    obtain ⟨vs, hvl, hvt, hcon2, sp2⟩ := ih _ _ _ h2
    exact ⟨v :: vs, congrArg (· + 1) hvl, allHaveType_cons hv hvt, constructList_cons hcon hcon2,
      (sp.append sp2).cast (by rw [Nat.succ_mul, Nat.add_comm]) rfl⟩

theorem fixedItems_length {f : DR → R (Node × DR)} {size : Nat} :
    ∀ (k : Nat) (dr : DR) (ns : List Node) (dr' : DR),
      decodeFixedItems f size k dr = .ok (ns, dr') → ns.length = k := by
  intro k
  induction k with
  | zero => intro dr ns dr' hd; rw [decodeFixedItems] at hd; cases hd; rfl
  | succ k ih =>
    intro dr ns dr' hd
    rw [decodeFixedItems] at hd
    obtain ⟨⟨x, d1⟩, h1, hd⟩ := bind_eq_ok hd
    obtain ⟨⟨xs, d2⟩, h2, hd⟩ := bind_eq_ok hd
    cases hd
    simp [ih _ _ _ h2]

theorem fixedItems_ne_panic {f : DR → R (Node × DR)} (hf : ∀ d, f d ≠ .error .panic) {size : Nat} :
    ∀ (k : Nat) (dr : DR), decodeFixedItems f size k dr ≠ .error .panic := by
  intro k
  induction k with
  | zero => intro dr; rw [decodeFixedItems]; exact ok_ne_panic _
  | succ k ih =>
    intro dr
    rw [decodeFixedItems]
    apply bind_ne_panic (inSub_ne_panic dr size f hf)
    rintro ⟨x, d1⟩ _
    apply bind_ne_panic (ih d1)
    rintro ⟨xs, d2⟩ _
    exact ok_ne_panic _

end ZtypV.DecodeProofs
