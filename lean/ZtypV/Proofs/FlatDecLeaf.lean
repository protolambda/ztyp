/-
C09, completeness of the flat decoder at the leaves (`Dec`): basic values, byte vectors / byte
lists into re-used destination slices, bit vectors / bit lists, `ReadRoots(Limited)`.
-/
import ZtypV.Proofs.FlatDecBase
import ZtypV.Proofs.FlatBitfields
namespace ZtypV.FlatProofs.Dec
open ZtypV ZtypV.View ZtypV.Flat

theorem decUint_dec (b n : Nat) (hn : n < 256 ^ b) : Dec (decUint b) true (leBytes b n) (.num n) := by
  have := (read_dec (leBytes_length b n)).map fun bs => Val.num (leNat bs)
  rwa [leNat_leBytes, Nat.mod_eq_of_lt hn] at this

theorem decBool_dec (b : Bool) : Dec decBool true [if b then 1 else 0] (.bool b) := by
  intro dr rest hav hle _
  refine ⟨adv dr 1 rest, ?_, rfl, le_adv_scope dr 1 rest⟩
  rw [decBool, read_app dr (n := 1) rfl hav hle]
  cases b <;> rfl

theorem decRoot_dec (bs : Bytes) (h32 : bs.length = 32) : Dec decRoot true bs (.bytes bs) :=
  (read_dec h32).map Val.bytes

/-- whatever the destination slice held, it ends up holding the bytes read -/
theorem readFull_dec (s : Slice) {bs : Bytes} (hl : s.len = bs.length) :
    ∃ s', s'.bytes = bs ∧ Dec s.readFull true bs s' :=
  ⟨{ s with arr := bs ++ s.arr.drop s.len }, by simp only [Slice.bytes, hl, List.take_left],
    (read_dec hl.symm).map fun bs => ({ s with arr := bs ++ s.arr.drop s.len } : Slice)⟩

theorem decByteVector_dec (dst : Slice) (bs : Bytes) :
    ∃ s, s.bytes = bs ∧ Dec (decByteVector dst bs.length) true bs s :=
  readFull_dec _ (resize_len _ _)

theorem decByteList_dec (dst : Slice) {lim : Nat} {bs : Bytes} (hlim : bs.length ≤ lim) :
    ∃ s, s.bytes = bs ∧ Dec (decByteList dst lim) false bs s := by
  obtain ⟨s, hb, hd⟩ := decByteVector_dec dst bs
  refine ⟨s, hb, hd.congr_scope fun dr hsc => ?_⟩
  rw [decByteList, hsc, if_neg (Nat.not_lt.mpr hlim)]
  rfl

theorem unpackBits_packBits (l : List Bool) (n : Nat) (hn : n ≤ l.length) :
    unpackBits (packBits l) n = l.take n := by
  apply List.ext_getElem
  · simp [unpackBits]; omega
  · intro i h1 h2
    simp only [unpackBits, List.length_map, List.length_range] at h1
    simp only [unpackBits, List.getElem_map, List.getElem_range, List.getElem_take]
    rw [getBit_eq_bitAt, Bitfields.bitAt_packBits, List.getD_eq_getElem?_getD,
      List.getElem?_eq_getElem (by omega)]
    rfl

theorem bitvectorCheck_packBits (bits : List Bool) :
    bitvectorCheck (packBits bits) bits.length = true :=
  (bitvectorCheck_iff _ _).mpr ⟨Bitfields.packBits_length bits, fun i hi => by
    rw [Bitfields.bitAt_packBits, Bitfields.getD_ge bits false hi]⟩

theorem bitlistCheck_packBits (bits : List Bool) (lim : Nat) (hlim : bits.length ≤ lim) :
    bitlistCheck (packBits (bits ++ [true])) lim = true := by
  obtain ⟨hlen, hz, hlog⟩ := Bitfields.bitlist_shape bits
  rw [← lastByte_eq] at hz hlog
  refine (bitlistCheck_iff _ _).mpr ⟨by rw [hlen]; exact Nat.succ_ne_zero _, hz, ?_⟩
  rw [hlog, hlen, Nat.add_sub_cancel, Nat.div_add_mod]
  exact hlim

theorem unpackBitlist_packBits (bits : List Bool) :
    unpackBitlist (packBits (bits ++ [true])) = bits := by
  obtain ⟨hlen, _, hlog⟩ := Bitfields.bitlist_shape bits
  rw [← lastByte_eq] at hlog
  unfold unpackBitlist
  rw [hlog, hlen, Nat.add_sub_cancel, Nat.div_add_mod,
    unpackBits_packBits _ _ (by rw [List.length_append]; exact Nat.le_add_right _ _), List.take_left]

theorem decBitVector_dec (dst : Slice) (bits : List Bool) :
    ∃ s, s.bytes = packBits bits ∧ Dec (decBitVector dst bits.length) true (packBits bits) s := by
  obtain ⟨s, hb, hd⟩ := readFull_dec (dst.resize ((bits.length + 7) / 8)) (bs := packBits bits)
    (by rw [resize_len, Bitfields.packBits_length])
  exact ⟨s, hb, hd.guard (c := fun s => bitvectorCheck s.bytes bits.length)
    (by rw [hb]; exact bitvectorCheck_packBits bits)⟩

theorem decBitList_dec (dst : Slice) {lim : Nat} (bits : List Bool) (hlim : bits.length ≤ lim) :
    ∃ s, s.bytes = packBits (bits ++ [true]) ∧
      Dec (decBitList dst lim) false (packBits (bits ++ [true])) s := by
  have hlen := (Bitfields.bitlist_shape bits).1
  obtain ⟨s, hb, hd⟩ := readFull_dec (dst.resize (packBits (bits ++ [true])).length)
    (bs := packBits (bits ++ [true])) (resize_len _ _)
  refine ⟨s, hb, (hd.guard (c := fun s => bitlistCheck s.bytes lim)
    (by rw [hb]; exact bitlistCheck_packBits bits lim hlim)).congr_scope fun dr hsc => ?_⟩
  rw [decBitList, hsc, hlen, bitListByteLimit,
    if_neg (Nat.not_lt.mpr (Nat.succ_le_succ (Nat.div_le_div_right hlim)))]

theorem readRootsLoop_dec : ∀ (rs : List Bytes), (∀ r ∈ rs, r.length = 32) →
    Dec (readRootsLoop rs.length) true rs.flatten rs := by
  intro rs
  induction rs with
  | nil => exact fun _ dr rest hav _ _ => ⟨dr, rfl, hav, Nat.le_add_right _ _⟩
  | cons r rs ih =>
    intro h32 dr rest hav hle _
    obtain ⟨hr, h32⟩ := List.forall_mem_cons.mp h32
    rw [List.flatten_cons] at hav hle ⊢
    rw [List.append_assoc] at hav
    rw [List.length_append, hr] at hle ⊢
    obtain ⟨dr', hf, h2, h3⟩ := ih h32 (adv dr 32 _) rest rfl
      (by rw [adv_scope]; exact Nat.le_sub_of_add_le (Nat.le_trans (Nat.le_of_eq (Nat.add_comm _ 32)) hle))
      (fun hc => nomatch hc)
    rw [adv_scope] at h3
    refine ⟨dr', ?_, h2, by omega⟩
    rw [List.length_cons, readRootsLoop, read_app dr hr hav (Nat.le_trans (Nat.le_add_right _ _) hle)]
    simp only [R.bind_ok, hf]

/-- `ReadRoots` into ANY destination leaves exactly the roots read in it -/
theorem readRoots_dec (dst : RSlice) (rs : List Bytes) (h32 : ∀ r ∈ rs, r.length = 32) :
    ∃ s, s.roots = rs ∧ Dec (readRoots dst rs.length) true rs.flatten s := by
  refine ⟨_, ?_, (readRootsLoop_dec rs h32).map fun l =>
    let dst1 : RSlice :=
      if dst.len ≠ rs.length then
        (if dst.cap ≥ rs.length then { dst with len := rs.length }
         else ⟨rs.length, rs.length, List.replicate rs.length z0⟩)
      else dst
    ({ dst1 with arr := l ++ dst1.arr.drop rs.length } : RSlice)⟩
  simp only [RSlice.roots]
  split
  · split <;> exact List.take_left
  · rename_i hne
    rw [Decidable.not_not.mp hne]
    exact List.take_left

theorem readRootsLimited_dec (dst : RSlice) {lim : Nat} (rs : List Bytes)
    (h32 : ∀ r ∈ rs, r.length = 32) (hlim : rs.length ≤ lim) :
    ∃ s, s.roots = rs ∧ Dec (readRootsLimited dst lim) false rs.flatten s := by
  obtain ⟨s, hb, hd⟩ := readRoots_dec dst rs h32
  refine ⟨s, hb, hd.congr_scope fun dr hsc => ?_⟩
  rw [flatten_uniform_length 32 rs h32] at hsc
  rw [readRootsLimited, hsc, Nat.mul_mod_left, if_neg (fun hc => hc rfl),
    Nat.mul_div_cancel _ (by decide), if_neg (Nat.not_lt.mpr hlim)]

end ZtypV.FlatProofs.Dec
