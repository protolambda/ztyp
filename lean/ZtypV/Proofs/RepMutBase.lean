/-
For C04 (the typed mutators preserve `Rep`): the depth side condition `DepthOk`, `RepList` /
`RepFields` under the list updates, and preservation of `hasType` by the value-level operations.
-/
import ZtypV.Proofs.RepConstruct
namespace ZtypV
open ZtypV.View ZtypV.Sim

/-- one-level depth / `uint64` side condition of the typed mutators of a view of type `t`:
    `tree.ToGindex64` rejects depth ≥ 64, list views navigate one level above their contents,
    and the length mix-in is a `uint64`.  Implied by `View.inRange t` (`depthOk_of_inRange`). -/
def DepthOk : Ty → Prop
  | .bitvector n => bitDepth n < 64
  | .bitlist lim => lim < 2 ^ 64 ∧ bitDepth lim + 1 < 64
  | .vector e n => seriesDepth e n < 64
  | .list e lim => lim < 2 ^ 64 ∧ seriesDepth e lim + 1 < 64
  | .container fs => coverDepth fs.length < 64
  | _ => True

theorem depthOk_of_inRange (t : Ty) (h : inRange t = true) : DepthOk t := by
  cases t <;> simp only [DepthOk] <;> simp only [inRange, Bool.and_eq_true, decide_eq_true_eq] at h
  · exact h
  · exact h
  · exact h.1
  · exact h.1
  · exact h.1

/-- the slots of `t` are packed into chunks (uint series, bitfields): `Set`/`Append` take the
    element *value*; otherwise they take the element's backing node -/
def packedSlot : Ty → Bool
  | .vector e _ | .list e _ => isBasicElem e
  | .bitvector _ | .bitlist _ => true
  | _ => false

namespace RepMut

/-! ### `RepList` / `RepFields` under the list updates -/

theorem repList_set (h : HashFn) (e : Ty) (x : Val) (en : Node) (hx : Rep h e x en)
    (vs : List Val) (xs : List Node) (i : Nat) (hr : RepList h e vs xs) :
    RepList h e (vs.set i x) (xs.set i en) := by
  obtain ⟨hl, hg⟩ := (repList_iff h e vs xs).mp hr
  refine (repList_iff h e _ _).mpr ⟨by rw [List.length_set, List.length_set, hl], fun j h1 h2 => ?_⟩
  rw [List.getElem_set, List.getElem_set]
  split
  · exact hx
  · exact hg j _ _

theorem repList_append (h : HashFn) (e : Ty) (x : Val) (en : Node) (hx : Rep h e x en)
    (vs : List Val) (xs : List Node) (hr : RepList h e vs xs) :
    RepList h e (vs ++ [x]) (xs ++ [en]) := by
  obtain ⟨hl, hg⟩ := (repList_iff h e vs xs).mp hr
  refine (repList_iff h e _ _).mpr ⟨by rw [List.length_append, List.length_append, hl]; rfl,
    fun j h1 h2 => ?_⟩
  by_cases hj : j < vs.length
  · rw [List.getElem_append_left hj, List.getElem_append_left (hl ▸ hj)]
    exact hg j _ _
  · rw [List.getElem_append_right (by omega), List.getElem_append_right (by omega)]
    simpa using hx

theorem repList_dropLast (h : HashFn) (e : Ty) (vs : List Val) (xs : List Node)
    (hr : RepList h e vs xs) : RepList h e vs.dropLast xs.dropLast := by
  obtain ⟨hl, hg⟩ := (repList_iff h e vs xs).mp hr
  refine (repList_iff h e _ _).mpr ⟨by rw [List.length_dropLast, List.length_dropLast, hl],
    fun j h1 h2 => ?_⟩
  rw [List.getElem_dropLast, List.getElem_dropLast]
  exact hg j _ _

theorem repFields_set (h : HashFn) (x : Val) (en : Node) (fs : List Ty) (vs : List Val)
    (xs : List Node) (i : Nat) (h0 : i < fs.length) (hx : Rep h fs[i] x en)
    (hr : RepFields h fs vs xs) : RepFields h fs (vs.set i x) (xs.set i en) := by
  obtain ⟨hv, hl, hg⟩ := (repFields_iff h fs vs xs).mp hr
  refine (repFields_iff h fs _ _).mpr ⟨by rw [List.length_set, hv], by rw [List.length_set, hl],
    fun j hj h1 h2 => ?_⟩
  rw [List.getElem_set, List.getElem_set]
  split
  · rename_i hij; subst hij; exact hx
  · exact hg j hj _ _

/-! ### `hasType` is preserved by the value-level updates -/

theorem hasType_vector_all {e : Ty} {k : Nat} {vs : List Val}
    (ht : hasType (.vector e k) (.seq vs) = true) : allHaveType e vs = true := by
  simp only [hasType, Bool.and_eq_true] at ht; exact ht.2

theorem hasType_list_all {e : Ty} {lim : Nat} {vs : List Val}
    (ht : hasType (.list e lim) (.seq vs) = true) : allHaveType e vs = true := by
  simp only [hasType, Bool.and_eq_true] at ht; exact ht.2

theorem allHaveType_of_mem (e : Ty) : ∀ (vs : List Val),
    (∀ v ∈ vs, hasType e v = true) → allHaveType e vs = true := by
  intro vs
  induction vs with
  | nil => intro _; rfl
  | cons v vs ih =>
    intro hall
    simp only [allHaveType, Bool.and_eq_true]
    exact ⟨hall v List.mem_cons_self, ih fun w hw => hall w (List.mem_cons_of_mem _ hw)⟩

theorem allHaveType_set (e : Ty) (x : Val) (hx : hasType e x = true) (vs : List Val) (i : Nat)
    (hall : allHaveType e vs = true) : allHaveType e (vs.set i x) = true :=
  allHaveType_of_mem e _ fun _ hv =>
    (List.mem_or_eq_of_mem_set hv).elim (allHaveType_mem e vs hall _) (· ▸ hx)

theorem allHaveType_append (e : Ty) (x : Val) (hx : hasType e x = true) (vs : List Val)
    (hall : allHaveType e vs = true) : allHaveType e (vs ++ [x]) = true :=
  allHaveType_of_mem e _ fun _ hv =>
    (List.mem_append.mp hv).elim (allHaveType_mem e vs hall _) (List.mem_singleton.mp · ▸ hx)

theorem allHaveType_dropLast (e : Ty) (vs : List Val) (hall : allHaveType e vs = true) :
    allHaveType e vs.dropLast = true :=
  allHaveType_of_mem e _ fun _ hv => allHaveType_mem e vs hall _ ((List.dropLast_sublist vs).subset hv)

theorem fieldsHaveType_set (x : Val) : ∀ (fs : List Ty) (vs : List Val) (i : Nat) (h0 : i < fs.length),
    hasType fs[i] x = true → fieldsHaveType fs vs = true → fieldsHaveType fs (vs.set i x) = true := by
  intro fs
  induction fs with
  | nil => intro vs i h0; simp at h0
  | cons t ts ih =>
    intro vs i h0 hx hall
    cases vs with
    | nil => simp [fieldsHaveType] at hall
    | cons v vs =>
      simp only [fieldsHaveType, Bool.and_eq_true] at hall
      cases i with
      | zero =>
        simp only [List.set_cons_zero, fieldsHaveType, Bool.and_eq_true]
        exact ⟨hx, hall.2⟩
      | succ i =>
        simp only [List.set_cons_succ, fieldsHaveType, Bool.and_eq_true]
        exact ⟨hall.1, ih vs i (by simpa using h0) (by simpa using hx) hall.2⟩

theorem slotTy_container {fs : List Ty} {i : Nat} (hi : i < fs.length) :
    slotTy (.container fs) i = fs[i] := by
  simp [slotTy, List.getElem?_eq_getElem hi]

/-! ### a represented element can always be opened as a view -/

theorem rep_viewOk (h : HashFn) (t : Ty) (v : Val) (n : Node) (hr : Rep h t v n) :
    viewFromBackingOk t n = true := by
  cases t with
  | uint b => cases v <;> simp only [Rep] at hr; subst hr; rfl
  | bool => cases v <;> simp only [Rep] at hr; subst hr; rfl
  | bytesN k => cases v <;> simp only [Rep] at hr; subst hr; rfl
  | bitvector k => cases n <;> rfl
  | bitlist k => cases n <;> rfl
  | vector e k => cases n <;> rfl
  | list e k => cases n <;> rfl
  | container fs => cases n <;> rfl
  | union hn opts => cases n <;> rfl

/-! ### list views: derived shape lemmas -/

/-- pop of a complex element of a list view (navigation at depth `d + 1`) -/
theorem listShape_pop (h : HashFn) {d : Nat} {n : Node} {xs : List Node} {len : Nat}
    (hs : ListShape h d n xs len) (hne : xs ≠ []) (hd : d + 1 < 64) :
    ∃ p n', toPath (xs.length - 1) (d + 1) = .ok p ∧ setNode h n p true (zeroNode h 0) = .ok n' ∧
      ListShape h d n' xs.dropLast len := by
  obtain ⟨c, rfl, hc⟩ := hs
  obtain ⟨p0, c', hp0, hset, hc'⟩ := shape_pop h hc hne (by omega)
  obtain ⟨hp0e, _, hlt⟩ := toPath_eq hp0
  have hlt' : xs.length - 1 < 2 ^ (d + 1) := by rw [Nat.pow_succ]; omega
  refine ⟨false :: p0, .pair c' (lengthNode len), ?_, ?_, c', rfl, hc'⟩
  · rw [toPath_ok _ _ hd hlt', bitsOf_succ, Nat.testBit_lt_two_pow hlt, hp0e]
  · simp only [setNode, hset]; rfl

/-- a trailing zero chunk of the contents of a list view is padding -/
theorem listShape_dropLast_zero (h : HashFn) {d : Nat} {n : Node} {xs : List Node} {len : Nat}
    (hs : ListShape h d n (xs ++ [.leaf z0]) len) : ListShape h d n xs len := by
  obtain ⟨c, rfl, hc⟩ := hs
  exact ⟨c, rfl, shape_dropLast_zero h hc⟩

end RepMut

open RepMut

/-! ### values: the plain operations preserve typing -/

theorem valSet_hasType (t : Ty) (v : Val) (i : Nat) (x v' : Val) (ht : hasType t v = true)
    (hx : hasType (slotTy t i) x = true) (hs : valSet t v i x = some v') : hasType t v' = true := by
  unfold valSet at hs
  split at hs
  · rename_i e k vs
    simp only [Option.ite_none_right_eq_some, Option.some.injEq] at hs
    obtain ⟨_, rfl⟩ := hs
    simp only [hasType, Bool.and_eq_true, beq_iff_eq, List.length_set] at ht ⊢
    exact ⟨ht.1, allHaveType_set e x hx vs i ht.2⟩
  · rename_i e k vs
    simp only [Option.ite_none_right_eq_some, Option.some.injEq] at hs
    obtain ⟨_, rfl⟩ := hs
    simp only [hasType, Bool.and_eq_true, decide_eq_true_eq, List.length_set] at ht ⊢
    exact ⟨ht.1, allHaveType_set e x hx vs i ht.2⟩
  · rename_i fs vs
    simp only [Option.ite_none_right_eq_some, Option.some.injEq] at hs
    obtain ⟨hi, rfl⟩ := hs
    simp only [hasType] at ht ⊢
    have hif : i < fs.length := by have := fieldsHaveType_length fs vs ht; omega
    rw [slotTy_container hif] at hx
    exact fieldsHaveType_set x fs vs i hif hx ht
  · obtain ⟨b, rfl⟩ := hasType_bool_elim hx
    simp only [Option.ite_none_right_eq_some, Option.some.injEq] at hs
    obtain ⟨_, rfl⟩ := hs
    simpa [hasType] using ht
  · obtain ⟨b, rfl⟩ := hasType_bool_elim hx
    simp only [Option.ite_none_right_eq_some, Option.some.injEq] at hs
    obtain ⟨_, rfl⟩ := hs
    simpa [hasType] using ht
  · cases hs

theorem valAppend_hasType (t : Ty) (v : Val) (x v' : Val) (ht : hasType t v = true)
    (hx : hasType (slotTy t 0) x = true) (hs : valAppend t v x = some v') : hasType t v' = true := by
  unfold valAppend at hs
  split at hs
  · rename_i e lim vs
    simp only [Option.ite_none_right_eq_some, Option.some.injEq] at hs
    obtain ⟨hlt, rfl⟩ := hs
    simp only [hasType, Bool.and_eq_true, decide_eq_true_eq, List.length_append,
      List.length_singleton] at ht ⊢
    exact ⟨hlt, allHaveType_append e x hx vs ht.2⟩
  · obtain ⟨b, rfl⟩ := hasType_bool_elim hx
    simp only [Option.ite_none_right_eq_some, Option.some.injEq] at hs
    obtain ⟨hlt, rfl⟩ := hs
    simp only [hasType, decide_eq_true_eq, List.length_append, List.length_singleton]
    exact hlt
  · cases hs

theorem valPop_hasType (t : Ty) (v v' : Val) (ht : hasType t v = true)
    (hs : valPop t v = some v') : hasType t v' = true := by
  unfold valPop at hs
  split at hs
  · rename_i e lim vs
    simp only [Option.ite_none_left_eq_some, Option.some.injEq] at hs
    obtain ⟨_, rfl⟩ := hs
    simp only [hasType, Bool.and_eq_true, decide_eq_true_eq, List.length_dropLast] at ht ⊢
    exact ⟨by omega, allHaveType_dropLast e vs ht.2⟩
  · simp only [Option.ite_none_left_eq_some, Option.some.injEq] at hs
    obtain ⟨_, rfl⟩ := hs
    simp only [hasType, decide_eq_true_eq, List.length_dropLast] at ht ⊢
    omega
  · cases hs

theorem valChange_of_ne_none {hasNone : Bool} {opts : List Ty} {sel : Nat} {x : Val} (hx : x ≠ .none) :
    valChange (.union hasNone opts) sel x =
      if (unionOpt hasNone opts sel).isSome then some (.union sel x) else none := by
  cases x <;> first | rfl | exact absurd rfl hx

theorem valChange_hasType (hasNone : Bool) (opts : List Ty) (sel : Nat) (x v' : Val)
    (hx : ∀ ot, unionOpt hasNone opts sel = some ot → hasType ot x = true)
    (hs : valChange (.union hasNone opts) sel x = some v') :
    hasType (.union hasNone opts) v' = true := by
  by_cases hxn : x = .none
  · subst hxn
    simp only [valChange, Option.ite_none_right_eq_some, Option.some.injEq, Bool.and_eq_true,
      beq_iff_eq] at hs
    obtain ⟨⟨hn, h0⟩, rfl⟩ := hs
    subst hn
    simp [hasType, unionOpt]
  · rw [valChange_of_ne_none hxn] at hs
    simp only [Option.ite_none_right_eq_some, Option.some.injEq] at hs
    obtain ⟨hsome, rfl⟩ := hs
    obtain ⟨ot, hot⟩ := Option.isSome_iff_exists.mp hsome
    simp only [hasType, hot]
    exact hx ot hot

end ZtypV
