/-
C12, tree layer: the "summary of" relation `Summ` between backing trees, and what navigation and the
setters do on a summarised tree compared with the full one.
All path inductions step into "the child in direction `b`", `if b then r else l`, so that the
two directions are one case.
-/
import ZtypV.Proofs.Tree
import ZtypV.Proofs.Shape
namespace ZtypV
open ZtypV.View ZtypV.TreeNav

/-- `Summ h n n'`: `n'` is `n` with any number of subtrees replaced by the leaf holding their
    Merkle root (what `tree.SummarizeInto` produces; summaries of summaries included). -/
inductive Summ (h : HashFn) : Node → Node → Prop where
  | refl (n : Node) : Summ h n n
  | collapse (n : Node) : Summ h n (.leaf (n.root h))
  | pair {l l' r r' : Node} : Summ h l l' → Summ h r r' → Summ h (.pair l r) (.pair l' r')

namespace Summ

theorem root {h : HashFn} {n n' : Node} (hs : Summ h n n') : n'.root h = n.root h := by
  induction hs with
  | refl n => rfl
  | collapse n => rfl
  | pair _ _ ihl ihr => simp only [Node.root, ihl, ihr]

theorem of_root_eq {h : HashFn} {n : Node} {x : Root} (hx : n.root h = x) : Summ h n (.leaf x) := by
  subst hx; exact collapse n

theorem leaf_left {h : HashFn} {r : Root} {x : Node} (hs : Summ h (.leaf r) x) : x = .leaf r := by
  cases hs with
  | refl => rfl
  | collapse => rfl

theorem leaf_right {h : HashFn} {n : Node} {x : Root} (hs : Summ h n (.leaf x)) : n.root h = x :=
  hs.root.symm

theorem pair_right {h : HashFn} {n l' r' : Node} (hs : Summ h n (.pair l' r')) :
    ∃ l r, n = .pair l r ∧ Summ h l l' ∧ Summ h r r' := by
  cases hs with
  | refl => exact ⟨l', r', rfl, refl _, refl _⟩
  | pair hl hr => exact ⟨_, _, rfl, hl, hr⟩

theorem child {h : HashFn} {l l' r r' : Node} (hl : Summ h l l') (hr : Summ h r r') (b : Bool) :
    Summ h (if b then r else l) (if b then r' else l') := by
  cases b <;> assumption

theorem rebind {h : HashFn} {l l' r r' a a' : Node} (hl : Summ h l l') (hr : Summ h r r')
    (ha : Summ h a a') (b : Bool) :
    Summ h (if b then .pair l a else .pair a r) (if b then .pair l' a' else .pair a' r') := by
  cases b
  · exact pair ha hr
  · exact pair hl ha

theorem trans {h : HashFn} {a b c : Node} (hab : Summ h a b) (hbc : Summ h b c) : Summ h a c := by
  induction hbc generalizing a with
  | refl n => exact hab
  | collapse n => rw [hab.root]; exact collapse a
  | pair hl hr ihl ihr =>
    obtain ⟨l, r, rfl, h1, h2⟩ := pair_right hab
    exact pair (ihl h1) (ihr h2)

theorem of_setNode {h : HashFn} {p : List Bool} {n n' s v : Node} (hg : getNode n p = .ok s)
    (hs : setNode h n p false v = .ok n') (hv : Summ h s v) : Summ h n n' := by
  induction p generalizing n n' with
  | nil =>
    rw [getNode_nil] at hg; rw [setNode_nil] at hs
    cases hg; cases hs; exact hv
  | cons b bs ih =>
    cases n with
    | leaf x => cases hg
    | pair l r =>
      rw [getNode_pair_cons'] at hg
      rw [setNode_pair_cons'] at hs
      obtain ⟨a, ha, rfl⟩ := R.map_eq_ok.mp hs
      cases b
      · exact pair (ih hg ha) (refl r)
      · exact pair (refl l) (ih hg ha)

theorem getNode_back {h : HashFn} {n n' x' : Node} (hs : Summ h n n') (p : List Bool)
    (hg : getNode n' p = .ok x') : ∃ x, getNode n p = .ok x ∧ Summ h x x' := by
  induction p generalizing n n' with
  | nil => rw [getNode_nil] at hg; cases hg; exact ⟨n, getNode_nil n, hs⟩
  | cons b bs ih =>
    cases n' with
    | leaf x => cases hg
    | pair l' r' =>
      obtain ⟨l, r, rfl, hl, hr⟩ := pair_right hs
      rw [getNode_pair_cons'] at hg ⊢
      exact ih (child hl hr b) hg

theorem getNode_fwd {h : HashFn} {n n' x : Node} (hs : Summ h n n') (p : List Bool)
    (hg : getNode n p = .ok x) :
    (∃ x', getNode n' p = .ok x' ∧ Summ h x x') ∨ getNode n' p = .error .nav := by
  induction p generalizing n n' with
  | nil => rw [getNode_nil] at hg; cases hg; exact Or.inl ⟨n', getNode_nil n', hs⟩
  | cons b bs ih =>
    cases n' with
    | leaf y => exact Or.inr rfl
    | pair l' r' =>
      obtain ⟨l, r, rfl, hl, hr⟩ := pair_right hs
      rw [getNode_pair_cons'] at hg ⊢
      exact ih (child hl hr b) hg

end Summ

/-- `ZeroFaithful h k n`: along every path of length ≤ `k` from `n`, a subtree met at height `j`
    (= `k` minus the length walked) whose root is the zero hash `zh h j` really is a zero
    subtree.  (Leaves satisfy it trivially: a leaf equal to `zh h j` IS the zero summary.)
    For an arbitrary pair hash this can fail (`Props/C12.lean`, `C12_unfaithful_counterexample`);
    for SHA-256 it is a collision-resistance assumption. -/
def ZeroFaithful (h : HashFn) : Nat → Node → Prop
  | _, .leaf _ => True
  | 0, .pair l r => Node.root h (.pair l r) = zh h 0 → ZeroTree h 0 (.pair l r)
  | k + 1, .pair l r =>
    (Node.root h (.pair l r) = zh h (k + 1) → ZeroTree h (k + 1) (.pair l r)) ∧
      ZeroFaithful h k l ∧ ZeroFaithful h k r

namespace ZeroFaithful

theorem here {h : HashFn} {k : Nat} {n : Node} (hz : ZeroFaithful h k n)
    (hr : n.root h = zh h k) : ZeroTree h k n := by
  cases n with
  | leaf x => cases hr; exact ZeroTree.leaf k
  | pair l r =>
    cases k with
    | zero => exact hz hr
    | succ k => exact hz.1 hr

theorem child {h : HashFn} {k : Nat} {l r : Node} (hz : ZeroFaithful h (k + 1) (.pair l r))
    (b : Bool) : ZeroFaithful h k (if b then r else l) := by
  cases b
  · exact hz.2.1
  · exact hz.2.2

theorem leaf (h : HashFn) (k : Nat) (x : Root) : ZeroFaithful h k (.leaf x) := by
  cases k <;> exact True.intro

theorem at_path {h : HashFn} {k : Nat} {n s : Node} (hz : ZeroFaithful h k n) (p : List Bool)
    (hk : p.length ≤ k) (hg : getNode n p = .ok s) (hr : s.root h = zh h (k - p.length)) :
    ZeroTree h (k - p.length) s := by
  induction p generalizing k n with
  | nil => rw [getNode_nil] at hg; cases hg; exact hz.here hr
  | cons b bs ih =>
    cases n with
    | leaf x => cases hg
    | pair l r =>
      cases k with
      | zero => cases hk
      | succ k =>
        rw [getNode_pair_cons'] at hg
        rw [List.length_cons, Nat.add_sub_add_right] at hr ⊢
        exact ih (hz.child b) (Nat.le_of_succ_le_succ hk) hg hr

theorem of_paths {h : HashFn} {k : Nat} {n : Node}
    (hp : ∀ (p : List Bool) (s : Node), p.length ≤ k → getNode n p = .ok s →
      s.root h = zh h (k - p.length) → ZeroTree h (k - p.length) s) : ZeroFaithful h k n := by
  induction k generalizing n with
  | zero =>
    cases n with
    | leaf x => exact True.intro
    | pair l r => exact hp [] _ (Nat.le_refl 0) rfl
  | succ k ih =>
    cases n with
    | leaf x => exact True.intro
    | pair l r =>
      have down : ∀ b : Bool, ZeroFaithful h k (if b then r else l) := fun b =>
        ih fun p s hl hg => by
          have := hp (b :: p) s (Nat.succ_le_succ hl) (by rw [getNode_pair_cons']; exact hg)
          rwa [List.length_cons, Nat.add_sub_add_right] at this
      exact ⟨hp [] _ (Nat.zero_le _) rfl, down false, down true⟩

end ZeroFaithful

namespace Summ

/-- `Setter(target, expand)` then binding: if it succeeds on the partial tree (binding a summary
    `v'` of `v`), it succeeds on the full tree and the results are again related.  Without
    expansion no hypothesis on the hash is needed (`hz := nofun`); with expansion the full tree
    must be `ZeroFaithful` to the depth of the path.  On the partial side an expanded summary
    `leaf (zh h k)` may stand where the full side has a materialised zero subtree. -/
theorem setNode_back {h : HashFn} {p : List Bool} {n n' v v' m' : Node} {e : Bool}
    (hn : Summ h n n') (hv : Summ h v v') (hz : e = true → ZeroFaithful h p.length n)
    (hs : setNode h n' p e v' = .ok m') : ∃ m, setNode h n p e v = .ok m ∧ Summ h m m' := by
  induction p generalizing n n' m' with
  | nil => rw [setNode_nil] at hs; cases hs; exact ⟨v, setNode_nil .., hv⟩
  | cons b bs ih =>
    rcases setNode_cons_cases h n' b bs e with herr | ⟨l', r', hn', heq⟩
    · rw [herr] at hs; cases hs
    rw [heq] at hs
    obtain ⟨a', ha', rfl⟩ := R.map_eq_ok.mp hs
    -- the full tree presents children that `l'`, `r'` summarise, and writes on into one of them
    obtain ⟨l, r, hl, hr, hzc, hfull⟩ : ∃ l r, Summ h l l' ∧ Summ h r r' ∧
        (e = true → ZeroFaithful h bs.length (if b then r else l)) ∧
        setNode h n (b :: bs) e v =
          (fun c => if b then Node.pair l c else Node.pair c r) <$>
            setNode h (if b then r else l) bs e v := by
      rcases hn' with rfl | ⟨rfl, rfl, rfl, rfl⟩
      · obtain ⟨l, r, rfl, hl, hr⟩ := pair_right hn
        exact ⟨l, r, hl, hr, fun he => (hz he).child b, setNode_pair_cons' ..⟩
      · -- the partial side expands a zero summary; faithfulness makes `n` a zero subtree
        cases (hz rfl).here hn.leaf_right with
        | leaf =>
          -- the same zero summary: both sides expand it
          exact ⟨_, _, refl _, refl _, fun _ => by split <;> exact ZeroFaithful.leaf ..,
            (setNode_leaf_expand h _ b bs true v (by simp)).trans (setNode_pair_cons' ..)⟩
        | pair hzl hzr =>
          -- materialised one level: the untouched half of the expanded summary stays a summary
          exact ⟨_, _, of_root_eq (zeroTree_root h hzl), of_root_eq (zeroTree_root h hzr),
            fun _ => (hz rfl).child b, setNode_pair_cons' ..⟩
    obtain ⟨a, ha, hsa⟩ := ih (child hl hr b) hzc ha'
    exact ⟨_, by rw [hfull, ha]; rfl, rebind hl hr hsa b⟩

theorem setNode_fwd_false {h : HashFn} : ∀ (p : List Bool) (n n' v v' m : Node),
    Summ h n n' → Summ h v v' → setNode h n p false v = .ok m →
    (∃ m', setNode h n' p false v' = .ok m' ∧ Summ h m m') ∨
      setNode h n' p false v' = .error .nav := by
  intro p
  induction p with
  | nil =>
    intro n n' v v' m _ hv hs
    rw [setNode_nil] at hs; cases hs; exact Or.inl ⟨v', setNode_nil .., hv⟩
  | cons b bs ih =>
    intro n n' v v' m hn hv hs
    cases n' with
    | leaf x => exact Or.inr (setNode_leaf_cons_false ..)
    | pair l' r' =>
      obtain ⟨l, r, rfl, hl, hr⟩ := pair_right hn
      rw [setNode_pair_cons'] at hs ⊢
      obtain ⟨a, ha, rfl⟩ := R.map_eq_ok.mp hs
      rcases ih _ _ v v' a (child hl hr b) hv ha with ⟨a', ha', hsa⟩ | herr
      · exact Or.inl ⟨_, by rw [ha']; rfl, rebind hl hr hsa b⟩
      · exact Or.inr (by rw [herr]; rfl)

end Summ

end ZtypV
