/-
C09, completeness of the flat decoder: the generic helpers of codec/decoder.go (`Vector`, `List`,
`FixedLenContainer`, `Container`, `Union`), independent of the type recursion.  One notion,
`Dec f fx enc a` ("`f` reads `enc` back as `a`"), is proved of every helper from the same fact about
its element deserializers.
-/
import ZtypV.Proofs.Flat
import ZtypV.Proofs.SerSize
namespace ZtypV.FlatProofs.Dec
open ZtypV ZtypV.View ZtypV.Flat ZtypV.DecodeProofs

theorem read_app (dr : DR) {n : Nat} {bs rest : Bytes} (hn : bs.length = n)
    (hav : dr.avail = bs ++ rest) (hs : n ≤ dr.scope) : dr.read n = .ok (bs, adv dr n rest) :=
  read_iff.mpr ⟨hn, hs, rest, hav, rfl⟩

theorem readOffset_app (dr : DR) {o : Nat} {rest : Bytes} (ho : o < 2 ^ 32)
    (hav : dr.avail = leBytes 4 o ++ rest) (hs : 4 ≤ dr.scope) :
    dr.readOffset = .ok (o, adv dr 4 rest) :=
  readOffset_iff.mpr ⟨ho, hs, rest, hav, rfl⟩

/-- `f` reads `enc` back as `a`, from any reader whose stream starts with `enc` and whose scope
    holds it (`fx`: the encoding of a fixed-size type; otherwise of a variable-size one, which fills
    its whole scope).  It consumes exactly `enc` and uses up at most `enc.length` of the scope
    (sub-scopes do not move the parent's index). -/
def Dec {α : Type} (f : DR → R (α × DR)) (fx : Bool) (enc : Bytes) (a : α) : Prop :=
  ∀ (dr : DR) (rest : Bytes), dr.avail = enc ++ rest → enc.length ≤ dr.scope →
    (fx = false → dr.scope = enc.length) →
    ∃ dr', f dr = .ok (a, dr') ∧ dr'.avail = rest ∧ dr.scope ≤ dr'.scope + enc.length

theorem Dec.bind {α β : Type} {f : DR → R (α × DR)} {fx : Bool} {enc : Bytes} {a : α}
    (h : Dec f fx enc a) {k : α × DR → R (β × DR)} {b : β} (hk : ∀ dr', k (a, dr') = .ok (b, dr')) :
    Dec (fun dr => f dr >>= k) fx enc b := by
  intro dr rest hav hle hsc
  obtain ⟨dr', hf, h2⟩ := h dr rest hav hle hsc
  exact ⟨dr', by simp only [hf, R.bind_ok, hk], h2⟩

theorem Dec.map {α β : Type} {f : DR → R (α × DR)} {fx : Bool} {enc : Bytes} {a : α}
    (h : Dec f fx enc a) (g : α → β) :
    Dec (fun dr => do let (x, dr') ← f dr; .ok (g x, dr')) fx enc (g a) :=
  h.bind fun _ => rfl

/-- the `List`-like helpers take their length from the scope: once the scope is known to be the
    encoding they are a `Vector`-like helper `g` -/
theorem Dec.congr_scope {α : Type} {f g : DR → R (α × DR)} {fx : Bool} {enc : Bytes} {a : α}
    (h : Dec g fx enc a) (hfg : ∀ dr : DR, dr.scope = enc.length → f dr = g dr) :
    Dec f false enc a := by
  intro dr rest hav hle hsc
  rw [hfg dr (hsc rfl)]
  exact h dr rest hav hle (fun _ => hsc rfl)

theorem Dec.guard {α : Type} {f : DR → R (α × DR)} {fx : Bool} {enc : Bytes} {a : α}
    (h : Dec f fx enc a) {c : α → Bool} (hc : c a = true) :
    Dec (fun dr => do let (x, dr') ← f dr; if c x then .ok (x, dr') else err) fx enc a :=
  h.bind fun _ => by simp only [hc, if_true]

theorem Dec.of_scope {α : Type} {f : DR → R (α × DR)} {enc : Bytes} {a : α}
    (h : ∀ (dr : DR) (rest : Bytes), dr.avail = enc ++ rest → dr.scope = enc.length →
      ∃ dr', f dr = .ok (a, dr') ∧ dr'.avail = rest) : Dec f false enc a := by
  intro dr rest hav _ hsc
  obtain ⟨dr', hf, hr⟩ := h dr rest hav (hsc rfl)
  exact ⟨dr', hf, hr, Nat.le_trans (Nat.le_of_eq (hsc rfl)) (Nat.le_add_left _ _)⟩

theorem read_dec {n : Nat} {bs : Bytes} (hn : bs.length = n) :
    Dec (fun dr => dr.read n) true bs bs := by
  subst hn
  exact fun dr rest hav hle _ => ⟨_, read_app dr rfl hav hle, rfl, le_adv_scope dr _ rest⟩

theorem inSub_dec {α : Type} {f : DR → R (α × DR)} {fx : Bool} {enc : Bytes} {a : α}
    (h : Dec f fx enc a) (dr : DR) (rest : Bytes) (hav : dr.avail = enc ++ rest)
    (hs : enc.length ≤ dr.scope) :
    dr.inSub enc.length f = .ok (a, { dr with avail := rest }) := by
  obtain ⟨c1, hf, hc, _⟩ := h ⟨0, enc.length, enc⟩ [] (List.append_nil _).symm (Nat.le_refl _)
    (fun _ => rfl)
  unfold DR.inSub DR.sub
  rw [if_neg (Nat.not_lt.mpr hs)]
  simp only [R.bind_ok]
  rw [hav, List.take_left, hf]
  simp only [R.bind_ok, DR.after, hc, List.length_nil, Nat.sub_zero]
  rw [hav, List.drop_left]

/-- deserializers, the layout parts (`(isFixed, encoding)` as in `serFields`) and the values,
    position by position -/
inductive DecAll : List Des → List (Bool × Bytes) → List Val → Prop
  | nil : DecAll [] [] []
  | cons {d : Des} {fx : Bool} {e : Bytes} {v : Val} {ds : List Des} {ps : List (Bool × Bytes)}
      {vs : List Val} :
      Dec d.run fx e v → d.fixedLength = (if fx = true then e.length else 0) →
      (fx = true → e.length ≠ 0) →
      DecAll ds ps vs → DecAll (d :: ds) ((fx, e) :: ps) (v :: vs)

def encs (ps : List (Bool × Bytes)) : List Bytes := ps.map (·.2)

@[simp] theorem encs_nil : encs [] = [] := rfl
@[simp] theorem encs_cons (p : Bool × Bytes) (ps : List (Bool × Bytes)) :
    encs (p :: ps) = p.2 :: encs ps := rfl

theorem DecAll.length_eq {ds ps vs} (h : DecAll ds ps vs) : ds.length = ps.length ∧ vs.length = ps.length := by
  induction h with
  | nil => simp
  | cons _ _ _ _ ih => simp [ih.1, ih.2]

theorem decAll_nil_left {ps vs} (h : DecAll [] ps vs) : ps = [] ∧ vs = [] := by
  cases h; exact ⟨rfl, rfl⟩

theorem encs_flatten_length {ps : List (Bool × Bytes)} {size : Nat}
    (hsz : ∀ p ∈ ps, p.2.length = size) : (encs ps).flatten.length = ps.length * size := by
  rw [flatten_uniform_length size, encs, List.length_map]
  intro l hl
  obtain ⟨p, hp, rfl⟩ := List.mem_map.mp hl
  exact hsz p hp

theorem decFixedItems_ok (size : Nat) : ∀ {ds ps vs}, DecAll ds ps vs →
    (∀ p ∈ ps, p.2.length = size) →
    ∀ (dr : DR) (rest : Bytes), dr.avail = (encs ps).flatten ++ rest →
      (encs ps).flatten.length ≤ dr.scope →
      decFixedItems size ds dr = .ok (vs, { dr with avail := rest }) := by
  intro ds ps vs h
  induction h with
  | nil =>
    intro _ dr rest hav _
    subst hav
    rfl
  | @cons d fx e v ds ps vs hd _ _ _ ih =>
    intro hsz dr rest hav hsc
    obtain ⟨he, hsz⟩ := List.forall_mem_cons.mp hsz
    replace he : e.length = size := he
    subst he
    simp only [encs_cons, List.flatten_cons, List.append_assoc, List.length_append] at hav hsc
    rw [decFixedItems, inSub_dec hd dr _ hav (Nat.le_trans (Nat.le_add_right _ _) hsc)]
    simp only [R.bind_ok]
    rw [ih hsz { dr with avail := (encs ps).flatten ++ rest } rest rfl
      (Nat.le_trans (Nat.le_add_left _ _) hsc)]
    rfl

theorem decVector_fixed_ok {size : Nat} (hsize : size ≠ 0) {ds ps vs} (h : DecAll ds ps vs)
    (hsz : ∀ p ∈ ps, p.2.length = size) : Dec (decVector ds size) true (encs ps).flatten vs := by
  intro dr rest hav hle _
  refine ⟨{ dr with avail := rest }, ?_, rfl, Nat.le_add_right _ _⟩
  rw [decVector, if_pos hsize]
  exact decFixedItems_ok size h hsz dr rest hav hle

theorem decList_fixed_ok (add : DR → R (Val × DR)) {size : Nat} (lim : Nat) (hsize : size ≠ 0)
    {ps vs} (h : DecAll (List.replicate ps.length ⟨size, add⟩) ps vs)
    (hsz : ∀ p ∈ ps, p.2.length = size) (hlim : ps.length ≤ lim) :
    Dec (decList add size lim) false (encs ps).flatten vs := by
  refine .of_scope fun dr rest hav hsc => ⟨{ dr with avail := rest }, ?_, rfl⟩
  have hle := Nat.le_of_eq hsc.symm
  unfold decList
  cases ps with
  | nil =>
    obtain ⟨_, rfl⟩ := decAll_nil_left h
    have hsc : dr.scope = 0 := hsc
    subst hav
    rw [if_pos hsc]
  | cons p ps =>
    have hfl := encs_flatten_length hsz
    have hne : dr.scope ≠ 0 := by
      rw [hsc, hfl]; exact Nat.mul_ne_zero (Nat.succ_ne_zero _) hsize
    rw [if_neg hne, if_pos hsize]
    simp only [hsc, hfl, Nat.mul_mod_left, Nat.mul_div_cancel _ (Nat.pos_of_ne_zero hsize)]
    rw [if_neg (fun hc => hc rfl), if_neg (Nat.not_lt.mpr hlim)]
    exact decFixedItems_ok size h hsz dr rest hav hle

theorem decFixedLenContainer_ok : ∀ {ds ps vs}, DecAll ds ps vs → (∀ p ∈ ps, p.1 = true) →
    Dec (decFixedLenContainer ds) true (encs ps).flatten vs := by
  intro ds ps vs h
  induction h with
  | nil =>
    intro _ dr rest hav _ _
    exact ⟨dr, rfl, hav, Nat.le_add_right _ _⟩
  | @cons d fx e v ds ps vs hd _ _ _ ih =>
    intro hfx dr rest hav hle _
    obtain ⟨hfx1, hfx⟩ := List.forall_mem_cons.mp hfx
    replace hfx1 : fx = true := hfx1
    simp only [encs_cons, List.flatten_cons, List.append_assoc, List.length_append] at hav hle ⊢
    obtain ⟨dr1, h1, hav1, hs1⟩ := hd dr _ hav (by omega) (fun hc => by rw [hfx1] at hc; cases hc)
    obtain ⟨dr2, h2, hav2, hs2⟩ := ih hfx dr1 rest hav1 (by omega) (fun hc => by cases hc)
    refine ⟨dr2, ?_, hav2, by omega⟩
    rw [decFixedLenContainer, h1]
    simp only [R.bind_ok, h2]

theorem readOffsetsN_app : ∀ (os : List Nat) (dr : DR) (rest : Bytes), (∀ o ∈ os, o < 2 ^ 32) →
    dr.avail = (os.map (leBytes 4)).flatten ++ rest → 4 * os.length ≤ dr.scope →
    readOffsetsN os.length dr = .ok (os, adv dr (4 * os.length) rest) := by
  intro os
  induction os with
  | nil =>
    intro dr rest _ hav _
    subst hav
    rfl
  | cons o os ih =>
    intro dr rest hlt hav hs
    obtain ⟨ho, hlt⟩ := List.forall_mem_cons.mp hlt
    rw [List.map_cons, List.flatten_cons, List.append_assoc] at hav
    rw [List.length_cons] at hs ⊢
    rw [readOffsetsN, readOffset_app dr ho hav
      (Nat.le_trans (Nat.le_mul_of_pos_right 4 (Nat.succ_pos _)) hs)]
    simp only [R.bind_ok]
    rw [ih (adv dr 4 _) rest hlt rfl (by rw [adv_scope]; exact Nat.le_sub_of_add_le hs)]
    simp only [R.bind_ok, adv_adv, Nat.mul_succ, Nat.add_comm 4]

/-- `List` reads the first offset on its own and the others by `readOffsetsN` -/
theorem readOffsetsN_succ_inv {n : Nat} {dr dr2 : DR} {o : Nat} {os : List Nat}
    (h : readOffsetsN (n + 1) dr = .ok (o :: os, dr2)) :
    ∃ dr1, dr.readOffset = .ok (o, dr1) ∧ readOffsetsN n dr1 = .ok (os, dr2) := by
  rw [readOffsetsN] at h
  obtain ⟨⟨o', dr1⟩, h1, h⟩ := bind_eq_ok h
  obtain ⟨⟨os', dr2'⟩, h2, h⟩ := bind_eq_ok h
  cases h
  exact ⟨dr1, h1, h2⟩

theorem decOffsetItems_ok (vec : Bool) (scope : Nat) : ∀ {ds ps vs}, DecAll ds ps vs →
    (∀ p ∈ ps, p.1 = false) →
    ∀ (prev start : Nat) (dr : DR) (rest : Bytes), prev ≤ start →
      scope = start + (encs ps).flatten.length →
      dr.avail = (encs ps).flatten ++ rest → (encs ps).flatten.length ≤ dr.scope →
      decOffsetItems vec scope prev (natOffsets start (encs ps)) ds dr = .ok (vs, { dr with avail := rest }) := by
  intro ds ps vs h
  induction h with
  | nil =>
    intro _ prev start dr rest _ _ hav _
    subst hav
    rfl
  | @cons d fx e v ds ps vs hd _ _ _ ih =>
    intro hfx prev start dr rest hprev hscope hav hsc
    obtain ⟨_, hfx⟩ := List.forall_mem_cons.mp hfx
    simp only [encs_cons, List.flatten_cons, List.append_assoc, List.length_append] at hav hsc hscope
    have hnext : (natOffsets (start + e.length) (encs ps)).headD scope = start + e.length := by
      rw [hscope, ← Nat.add_assoc]; exact natOffsets_headD _ _
    rw [encs_cons, natOffsets, decOffsetItems, if_neg (Nat.not_lt.mpr hprev)]
    simp only [hnext]
    rw [if_neg (Nat.not_lt.mpr (Nat.le_add_right _ _)), Nat.add_sub_cancel_left,
      inSub_dec hd dr _ hav (Nat.le_trans (Nat.le_add_right _ _) hsc)]
    simp only [R.bind_ok]
    rw [ih hfx _ (start + e.length) { dr with avail := (encs ps).flatten ++ rest } rest
      (by cases vec <;> first | exact Nat.le_refl _ | exact Nat.le_add_right _ _)
      (hscope.trans (Nat.add_assoc _ _ _).symm) rfl (Nat.le_trans (Nat.le_add_left _ _) hsc)]
    rfl

/-- the second loop of `Container` is the element loop of `Vector` / `List` without the check
    against the previous offset -/
theorem decContainerDyn_of_decOffsetItems (vec : Bool) (scope : Nat) :
    ∀ (offs : List Nat) (ds : List Des) (prev : Nat) (dr : DR) (r : List Val × DR),
      decOffsetItems vec scope prev offs ds dr = .ok r → decContainerDyn scope offs ds dr = .ok r
  | [], _, _, _, _, h => by rw [decOffsetItems] at h; rw [decContainerDyn]; exact h
  | _ :: _, [], _, _, _, h => by rw [decOffsetItems] at h; cases h
  | off :: rest, d :: ds, prev, dr, r, h => by
    rw [decOffsetItems] at h
    obtain ⟨_, h⟩ := ite_err_eq_ok h
    obtain ⟨hlt, h⟩ := ite_err_eq_ok h
    obtain ⟨⟨x, dr'⟩, hx, h⟩ := bind_eq_ok h
    obtain ⟨⟨xs, dr''⟩, hxs, h⟩ := bind_eq_ok h
    rw [decContainerDyn, if_neg hlt, hx]
    simp only [R.bind_ok, decContainerDyn_of_decOffsetItems vec scope rest ds _ dr' _ hxs]
    exact h

theorem varSeries_ok (vec : Bool) {ds ps vs} (h : DecAll ds ps vs) (hfx : ∀ p ∈ ps, p.1 = false)
    (dr : DR) (rest : Bytes) (hav : dr.avail = serVarParts (encs ps) ++ rest)
    (hsc : dr.scope = (serVarParts (encs ps)).length) (hlt : dr.scope < 2 ^ 32) :
    ∃ dr1, readOffsetsN ps.length dr = .ok (natOffsets (4 * ps.length) (encs ps), dr1) ∧
      decOffsetItems vec dr.scope 0 (natOffsets (4 * ps.length) (encs ps)) ds dr1
        = .ok (vs, { dr1 with avail := rest }) := by
  have hel : (encs ps).length = ps.length := List.length_map _
  rw [serVarParts_length, hel] at hsc
  rw [serVarParts, offsetsOf_eq_map, hel, List.append_assoc] at hav
  have hbound : ∀ o ∈ natOffsets (4 * ps.length) (encs ps), o < 2 ^ 32 := fun o ho => by
    have := natOffsets_le _ _ o ho; omega
  have hr := readOffsetsN_app _ dr _ hbound hav
    (by rw [natOffsets_length, hel, hsc]; exact Nat.le_add_right _ _)
  rw [natOffsets_length, hel] at hr
  exact ⟨_, hr, decOffsetItems_ok vec dr.scope h hfx 0 (4 * ps.length) _ rest (Nat.zero_le _) hsc rfl
    (by rw [adv_scope, hsc, Nat.add_sub_cancel_left]; exact Nat.le_refl _)⟩

theorem decVector_var_ok {ds ps vs} (h : DecAll ds ps vs) (hfx : ∀ p ∈ ps, p.1 = false)
    (hne : ps ≠ []) (hlt : (serVarParts (encs ps)).length < 2 ^ 32) :
    Dec (decVector ds 0) false (serVarParts (encs ps)) vs := by
  refine .of_scope fun dr rest hav hsc => ?_
  obtain ⟨dr1, hr, hit⟩ := varSeries_ok true h hfx dr rest hav hsc (Nat.lt_of_le_of_lt (Nat.le_of_eq hsc) hlt)
  refine ⟨{ dr1 with avail := rest }, ?_, rfl⟩
  obtain ⟨p, ps, rfl⟩ := List.exists_cons_of_ne_nil hne
  rw [decVector, if_neg (fun hc => hc rfl)]
  simp only [h.length_eq.1, hr, R.bind_ok]
  rw [if_neg (fun hc => hc.2 (Nat.mul_comm _ _))]
  exact hit

theorem decList_var_ok (add : DR → R (Val × DR)) (lim : Nat) {ps vs}
    (h : DecAll (List.replicate ps.length ⟨0, add⟩) ps vs) (hfx : ∀ p ∈ ps, p.1 = false)
    (hlim : ps.length ≤ lim) (hlt : (serVarParts (encs ps)).length < 2 ^ 32) :
    Dec (decList add 0 lim) false (serVarParts (encs ps)) vs := by
  refine .of_scope fun dr rest hav hsc => ?_
  cases ps with
  | nil =>
    obtain ⟨_, rfl⟩ := decAll_nil_left h
    have hsc : dr.scope = 0 := hsc
    refine ⟨dr, ?_, hav⟩
    unfold decList
    rw [if_pos hsc]
  | cons p ps =>
    obtain ⟨dr2, hr, hit⟩ := varSeries_ok false h hfx dr rest hav hsc (Nat.lt_of_le_of_lt (Nat.le_of_eq hsc) hlt)
    refine ⟨{ dr2 with avail := rest }, ?_, rfl⟩
    have h4 : 4 * (ps.length + 1) ≤ dr.scope := by
      rw [hsc, serVarParts_length, encs, List.length_map]; exact Nat.le_add_right _ _
    rw [List.length_cons, encs_cons, natOffsets] at hr hit
    obtain ⟨dr1, hr1, hr2⟩ := readOffsetsN_succ_inv hr
    have hdiv : 4 * (ps.length + 1) / 4 = ps.length + 1 := Nat.mul_div_cancel_left _ (by decide)
    have hpos : 0 < 4 * (ps.length + 1) := Nat.mul_pos (by decide) (Nat.succ_pos _)
    rw [List.length_cons] at hlim
    unfold decList
    rw [if_neg (Nat.ne_of_gt (Nat.lt_of_lt_of_le hpos h4)), if_neg (fun hc => hc rfl), hr1]
    simp only [R.bind_ok, hdiv, Nat.mul_mod_right, Nat.add_sub_cancel]
    rw [if_neg (fun hc => hc rfl),
      if_neg (fun hc => hc.elim (Nat.ne_of_gt hpos) (Nat.not_lt.mpr h4)),
      if_neg (Nat.not_lt.mpr hlim), hr2]
    exact hit

theorem containerFixedLen_eq {ds ps vs} (h : DecAll ds ps vs) : containerFixedLen ds = fixedPartLen ps := by
  induction h with
  | nil => rfl
  | @cons d fx e v ds ps vs _ hfl hne _ ih =>
    rw [containerFixedLen, fixedPartLen, ih, hfl]
    cases fx
    · rfl
    · rw [if_pos rfl, if_pos (hne rfl)]; rfl

/-- first loop of `Container`: the fixed part is read back; what is handed to the second loop
    are the offsets, deserializers, parts and values of the variable-size fields -/
theorem decContainerFixed_ok : ∀ {ds ps vs}, DecAll ds ps vs →
    ∀ (off : Nat) (dr : DR) (rest : Bytes), dr.avail = serFixedPart off ps ++ rest →
      fixedPartLen ps ≤ dr.scope → off + (serVarPart ps).length < 2 ^ 32 →
      ∃ slots dyn dps dvs dr', decContainerFixed ds dr = .ok (slots, natOffsets off (encs dps), dyn, dr') ∧
        dr'.avail = rest ∧ dr.scope ≤ dr'.scope + fixedPartLen ps ∧
        DecAll dyn dps dvs ∧ (∀ p ∈ dps, p.1 = false) ∧ serVarPart ps = (encs dps).flatten ∧
        mergeSlots slots dvs = vs := by
  intro ds ps vs h
  induction h with
  | nil =>
    intro off dr rest hav _ _
    exact ⟨[], [], [], [], dr, rfl, hav, Nat.le_add_right _ _, .nil, fun _ hp => (by cases hp), rfl, rfl⟩
  | @cons d fx e v ds ps vs hd hfl hne hrest ih =>
    intro off dr rest hav hs hlt
    cases fx with
    | true =>
      rw [serFixedPart, List.append_assoc] at hav
      rw [fixedPartLen, if_pos rfl] at hs ⊢
      rw [if_pos rfl] at hfl
      rw [serVarPart] at hlt ⊢
      obtain ⟨slots, dyn, dps, dvs, dr', h1, h2, h3, h4, h5, h6, h7⟩ :=
        ih off { dr with avail := serFixedPart off ps ++ rest } rest rfl
          (Nat.le_trans (Nat.le_add_left _ _) hs) hlt
      refine ⟨some v :: slots, dyn, dps, dvs, dr', ?_, h2,
        Nat.le_trans h3 (Nat.add_le_add_left (Nat.le_add_left _ _) _), h4, h5, h6, ?_⟩
      · rw [decContainerFixed, hfl, if_pos (hne rfl),
          inSub_dec hd dr _ hav (Nat.le_trans (Nat.le_add_right _ _) hs)]
        simp only [R.bind_ok, h1]
      · rw [mergeSlots, h7]
    | false =>
      rw [serFixedPart, List.append_assoc] at hav
      rw [fixedPartLen, if_neg Bool.false_ne_true] at hs ⊢
      rw [serVarPart, List.length_append, ← Nat.add_assoc] at hlt
      have h4s : 4 ≤ dr.scope := Nat.le_trans (Nat.le_add_right _ _) hs
      obtain ⟨slots, dyn, dps, dvs, dr', h1, h2, h3, h4, h5, h6, h7⟩ :=
        ih (off + e.length) (adv dr 4 (serFixedPart (off + e.length) ps ++ rest)) rest rfl
          (by rw [adv_scope]; omega) hlt
      rw [adv_scope] at h3
      refine ⟨Option.none :: slots, d :: dyn, (false, e) :: dps, v :: dvs, dr', ?_, h2, by omega,
        .cons hd hfl hne h4, List.forall_mem_cons.mpr ⟨rfl, h5⟩, ?_, ?_⟩
      · rw [decContainerFixed, if_neg (fun hc => hc hfl),
          readOffset_app dr (Nat.lt_of_le_of_lt (Nat.le_add_right _ _) (Nat.lt_of_le_of_lt (Nat.le_add_right _ _) hlt)) hav h4s]
        simp only [R.bind_ok, h1]
        rfl
      · rw [serVarPart, h6]; rfl
      · rw [mergeSlots, h7]

theorem decContainer_ok {ds ps vs} (h : DecAll ds ps vs)
    (hlt : (serContainerParts ps).length < 2 ^ 32) :
    Dec (decContainer ds) false (serContainerParts ps) vs := by
  refine .of_scope fun dr rest hav hsc => ?_
  rw [serContainerParts_length] at hsc hlt
  rw [serContainerParts, List.append_assoc] at hav
  obtain ⟨slots, dyn, dps, dvs, dr1, h1, h2, h3, h4, h5, h6, h7⟩ :=
    decContainerFixed_ok h (fixedPartLen ps) dr _ hav (by omega) hlt
  rw [h6] at h2 hsc
  have hdyn := decContainerDyn_of_decOffsetItems true _ _ _ _ _ _
    (decOffsetItems_ok true dr.scope h4 h5 0 (fixedPartLen ps) dr1 rest (Nat.zero_le _) hsc h2 (by omega))
  refine ⟨{ dr1 with avail := rest }, ?_, rfl⟩
  unfold decContainer
  simp only [h1, R.bind_ok]
  cases h4 with
  | nil =>
    subst h2 h7
    rfl
  | cons _ _ _ _ =>
    rw [if_neg (by simp [natOffsets]), if_neg (fun hc => hc (containerFixedLen_eq h)), hdyn]
    simp only [R.bind_ok, h7]

theorem decUnion_none {select : Nat → R (Option Des)} (hs : select 0 = .ok Option.none) :
    Dec (decUnion select) false [0] (0, Option.none) := by
  refine .of_scope fun dr rest hav hsc => ⟨adv dr 1 rest, ?_, rfl⟩
  have hsc1 : (adv dr 1 rest).scope = 0 := by rw [adv_scope, hsc]; rfl
  rw [decUnion, read_app dr (n := 1) rfl hav (Nat.le_of_eq hsc.symm)]
  simp only [R.bind_ok, List.headD_cons, UInt8.toNat_zero, hs]
  rw [if_neg (fun hc => hc rfl), if_neg (fun hc => hc hsc1)]

theorem decUnion_some {select : Nat → R (Option Des)} {sel : Nat} {d : Des} {fx : Bool}
    {enc : Bytes} {v : Val} (hsel : sel < 256) (hs : select sel = .ok (some d))
    (hd : Dec d.run fx enc v) (hfl : d.fixedLength = if fx = true then enc.length else 0) :
    Dec (decUnion select) false (UInt8.ofNat sel :: enc) (sel, some v) := by
  refine .of_scope fun dr rest hav hsc => ?_
  rw [List.length_cons] at hsc
  rw [List.cons_append] at hav
  have hsc1 : (adv dr 1 (enc ++ rest)).scope = enc.length := by rw [adv_scope, hsc]; rfl
  obtain ⟨dr', hf, h2, _⟩ := hd _ rest rfl (Nat.le_of_eq hsc1.symm) (fun _ => hsc1)
  refine ⟨dr', ?_, h2⟩
  have hck : ¬ (d.fixedLength ≠ 0 ∧ d.fixedLength ≠ (adv dr 1 (enc ++ rest)).scope) := by
    cases fx
    · exact fun hc => hc.1 hfl
    · exact fun hc => hc.2 (hfl.trans hsc1.symm)
  rw [decUnion, read_app dr (n := 1) (bs := [UInt8.ofNat sel]) (rest := enc ++ rest) rfl hav
    (Nat.le_trans (Nat.le_add_left 1 _) (Nat.le_of_eq hsc.symm))]
  simp only [R.bind_ok, List.headD_cons, UInt8.toNat_ofNat', Nat.mod_eq_of_lt hsel, hs]
  rw [if_neg hck, hf]
  rfl

end ZtypV.FlatProofs.Dec
