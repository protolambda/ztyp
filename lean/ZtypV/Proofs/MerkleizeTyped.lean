/-
Typed flat hash-tree-root helpers of `tree/hashing.go` (model: `ZtypV/Model/Merkleize.lean`)
against the SSZ spec (`ZtypV/Spec.lean`).

Every chunk-based helper is `ChunksHTR` over a closure that yields chunk `i` of some byte
string (`chunksHTR_bytes`); what differs per helper is the byte string and the proof that the
closure cuts it correctly (`u8Chunk_spec`, `u64Chunk_spec`, `byteChunk_spec`,
`bitListChunk_spec`).  The second half computes the spec's `htr` for the same types.
-/
import ZtypV.Proofs.Merkleize
import ZtypV.Proofs.SerLemmas
namespace ZtypV.Mk
open ZtypV

/-! ### machine arithmetic without wrap-around -/

theorem add64_of_lt {a b : Nat} (hlt : a + b < 2^64) : add64 a b = a + b :=
  Nat.mod_eq_of_lt hlt

theorem shl64_of_lt {a k : Nat} (hlt : a * 2^k < 2^64) : shl64 a k = a * 2^k :=
  Nat.mod_eq_of_lt hlt

/-! ### zero-padded chunks -/

theorem chunkOf_length (bs : Bytes) : (chunkOf bs).length = 32 := ZtypV.chunkOf_length bs

theorem chunkOf_append_of_le (P D : Bytes) (hP : 32 ≤ P.length) : chunkOf (P ++ D) = chunkOf P := by
  unfold chunkOf
  rw [List.append_assoc, List.take_append_of_le_length hP, List.take_append_of_le_length hP]

/-- writing the piece `A` behind the prefix `P` of a zero-padded chunk -/
theorem chunkOf_write (P A : Bytes) (h : P.length + A.length ≤ 32) :
    (chunkOf P).take P.length ++ A ++ (chunkOf P).drop (P.length + A.length) = chunkOf (P ++ A) := by
  rw [chunkOf_of_le P (by omega), chunkOf_of_le (P ++ A) (by simpa using h), List.take_left,
    List.drop_length_add_append, List.drop_replicate, List.length_append, Nat.sub_sub]

theorem chunkOf_set (P : Bytes) (b : UInt8) (h : P.length < 32) :
    (chunkOf P).set P.length b = chunkOf (P ++ [b]) := by
  rw [List.set_eq_take_append_cons_drop, if_pos (by rw [chunkOf_length]; exact h),
    ← chunkOf_write P [b] h, List.append_assoc, List.singleton_append, List.length_singleton]

/-- chunk number `m / 32` of a byte string, bytewise -/
theorem chunkOf_drop_eq (bs : Bytes) (m : Nat) :
    chunkOf (bs.drop m) = (List.range 32).map (fun y => bs.getD (m + y) 0) := by
  apply List.ext_getElem
  · rw [chunkOf_length, List.length_map, List.length_range]
  · intro y h1 h2
    rw [List.getElem_map, List.getElem_range, List.getD_eq_getElem?_getD, ← List.getElem?_drop]
    simp only [chunkOf, List.getElem_take, List.getElem_append]
    split
    · rename_i h; rw [List.getElem?_eq_getElem h, Option.getD_some]
    · rename_i h; rw [List.getElem_replicate, List.getElem?_eq_none (by omega), Option.getD_none]

/-! ### `ChunksHTR` over a byte string -/

/-- if the chunk closure yields the zero-padded 32-byte pieces of `bs`, `ChunksHTR` is the
    spec's `merkleize(pack(bs), limit)` -/
theorem chunksHTR_bytes (h : HashFn) (bs : Bytes) (leaf : Nat → Option Root) (count limit : Nat)
    (hc : count = (bs.length + 31) / 32)
    (hleaf : ∀ i, i < count → leaf i = some (chunkOf (bs.drop (32 * i))))
    (hcl : count ≤ limit) (hlim : limit < 2^64) :
    chunksHTR h leaf count limit = some (merk h (coverDepth limit) (chunks bs)) := by
  subst hc
  exact merkleize_spec h _ limit leaf (fun i => chunkOf (bs.drop (32 * i))) hleaf hcl hlim

/-! ### series given by index, mix-in -/

theorem range_map_getElem?_map {α β} (xs : List α) (f : α → β) (d : β) :
    (List.range xs.length).map (fun i => ((xs[i]?).map f).getD d) = xs.map f := by
  apply List.ext_getElem
  · simp
  · intro i h1 h2
    simp at h1
    simp [h1]

theorem mixinGo_eq (h : HashFn) (v : Root) (n : Nat) : mixinGo h v n = mixin h v n := rfl

/-! ### uint8 series -/

/-- The chunk loop of the uint8 helpers with the bytes `P` already written (`out = chunkOf P`):
    it appends the rest of the series, as far as the chunk goes. -/
theorem u8Fill_spec (bs : Bytes) (hlen : bs.length < 2^64) :
    ∀ fuel (P : Bytes) j, P.length ≤ 32 → 32 < P.length + fuel →
      u8Fill (fun j => bs.getD j 0) bs.length fuel P.length j (chunkOf P) =
        some (chunkOf (P ++ bs.drop j)) := by
  intro fuel
  induction fuel with
  | zero => intro P j h0 h1; exact absurd h1 (Nat.not_lt.mpr h0)
  | succ fuel ih =>
    intro P j h0 h1
    unfold u8Fill
    by_cases hc : P.length < 32 ∧ j < bs.length
    · rw [if_pos hc, if_pos (by rw [chunkOf_length]; exact hc.1),
        add64_of_lt (Nat.lt_of_le_of_lt hc.2 hlen),
        chunkOf_set P _ hc.1, List.getD_eq_getElem?_getD, List.getElem?_eq_getElem hc.2,
        Option.getD_some]
      have := ih (P ++ [bs[j]'hc.2]) (j + 1)
        (by rw [List.length_append, List.length_singleton]; exact hc.1)
        (by rw [List.length_append, List.length_singleton, Nat.add_right_comm]; exact h1)
      rw [List.length_append, List.length_singleton] at this
      rw [this, List.append_assoc, List.singleton_append, ← List.drop_eq_getElem_cons]
    · rw [if_neg hc]
      by_cases h32 : P.length < 32
      · rw [List.drop_of_length_le (Nat.le_of_not_lt fun hj => hc ⟨h32, hj⟩), List.append_nil]
      · rw [chunkOf_append_of_le _ _ (Nat.le_of_not_lt h32)]

theorem u8Chunk_spec (bs : Bytes) (i : Nat) (hlen : bs.length + 31 < 2^64)
    (hi : i < (bs.length + 31) / 32) :
    u8Chunk (fun j => bs.getD j 0) bs.length i = some (chunkOf (bs.drop (32 * i))) := by
  unfold u8Chunk
  rw [shl64_of_lt (Nat.lt_of_le_of_lt (Nat.mul_le_of_le_div 32 i _ (Nat.le_of_lt hi)) hlen), Nat.mul_comm]
  exact u8Fill_spec bs (Nat.lt_of_le_of_lt (Nat.le_add_right _ 31) hlen) 33 [] _ (by decide) (by decide)

theorem uint8VectorHTR_chunks (h : HashFn) (bs : Bytes) (hlen : bs.length + 31 < 2^64) :
    uint8VectorHTR h (fun j => bs.getD j 0) bs.length =
      some (merk h (coverDepth ((bs.length + 31) / 32)) (chunks bs)) := by
  unfold uint8VectorHTR
  simp only [add64_of_lt hlen, Nat.shiftRight_eq_div_pow]
  exact chunksHTR_bytes h bs _ _ _ rfl (fun i => u8Chunk_spec bs i hlen) (Nat.le_refl _)
    (Nat.lt_of_le_of_lt (Nat.div_le_self ..) hlen)

theorem uint8ListHTR_chunks (h : HashFn) (bs : Bytes) (limit : Nat)
    (hll : bs.length ≤ limit) (hlim : limit + 31 < 2^64) :
    uint8ListHTR h (fun j => bs.getD j 0) bs.length limit =
      some (mixin h (merk h (coverDepth ((limit + 31) / 32)) (chunks bs)) bs.length) := by
  have hlen : bs.length + 31 < 2^64 := by omega
  unfold uint8ListHTR
  simp only [add64_of_lt hlim, add64_of_lt hlen, Nat.shiftRight_eq_div_pow]
  rw [chunksHTR_bytes h bs _ _ _ rfl (fun i => u8Chunk_spec bs i hlen)
    (Nat.div_le_div_right (Nat.add_le_add_right hll 31)) (Nat.lt_of_le_of_lt (Nat.div_le_self ..) hlim)]
  rfl

/-! ### byte strings -/

theorem byteChunk_of_le (bs : Bytes) (i : Nat) (hlen : bs.length < 2^64) (hi : 32 * i ≤ bs.length) :
    byteChunk bs i = some (chunkOf (bs.drop (32 * i))) := by
  unfold byteChunk sliceFrom
  rw [shl64_of_lt (by omega), Nat.mul_comm, if_pos hi]
  rfl

theorem byteChunk_spec (bs : Bytes) (i : Nat) (hlen : bs.length + 31 < 2^64)
    (hi : i < (bs.length + 31) / 32) :
    byteChunk bs i = some (chunkOf (bs.drop (32 * i))) :=
  byteChunk_of_le bs i (by omega) (by omega)

theorem byteVectorHTR_chunks (h : HashFn) (bs : Bytes) (hlen : bs.length + 31 < 2^64) :
    byteVectorHTR h bs = some (merk h (coverDepth ((bs.length + 31) / 32)) (chunks bs)) := by
  unfold byteVectorHTR
  simp only [add64_of_lt hlen]
  exact chunksHTR_bytes h bs _ _ _ rfl (fun i => byteChunk_spec bs i hlen) (Nat.le_refl _)
    (Nat.lt_of_le_of_lt (Nat.div_le_self ..) hlen)

theorem byteListHTR_chunks (h : HashFn) (bs : Bytes) (limit : Nat)
    (hll : bs.length ≤ limit) (hlim : limit + 31 < 2^64) :
    byteListHTR h bs limit =
      some (mixin h (merk h (coverDepth ((limit + 31) / 32)) (chunks bs)) bs.length) := by
  have hlen : bs.length + 31 < 2^64 := by omega
  unfold byteListHTR
  simp only [add64_of_lt hlim, add64_of_lt hlen]
  rw [chunksHTR_bytes h bs _ _ _ rfl (fun i => byteChunk_spec bs i hlen)
    (Nat.div_le_div_right (Nat.add_le_add_right hll 31)) (Nat.lt_of_le_of_lt (Nat.div_le_self ..) hlim)]
  rfl

theorem bitVectorHTR_chunks (h : HashFn) (bs : Bytes) (hlen : bs.length + 31 < 2^64) :
    bitVectorHTR h bs = some (merk h (coverDepth ((bs.length + 31) / 32)) (chunks bs)) := by
  unfold bitVectorHTR
  simp only [add64_of_lt hlen]
  refine chunksHTR_bytes h bs _ _ _ rfl (fun i hi => ?_) (Nat.le_refl _)
    (Nat.lt_of_le_of_lt (Nat.div_le_self ..) hlen)
  unfold bitVecChunk
  rw [if_pos hi]
  exact byteChunk_spec bs i hlen hi

/-! ### uint64 series -/

/-- serialization of a series of uint64 -/
def u64Flat (ns : List Nat) : Bytes := (ns.map (leBytes 8)).flatten

theorem u64Flat_cons (n : Nat) (ns : List Nat) : u64Flat (n :: ns) = leBytes 8 n ++ u64Flat ns := rfl

theorem u64Flat_length (ns : List Nat) : (u64Flat ns).length = 8 * ns.length := by
  induction ns with
  | nil => rfl
  | cons n ns ih => rw [u64Flat_cons, List.length_append, ih, leBytes_length, List.length_cons]; omega

theorem u64Flat_drop (ns : List Nat) (j : Nat) : (u64Flat ns).drop (8 * j) = u64Flat (ns.drop j) := by
  induction j generalizing ns with
  | zero => rfl
  | succ j ih =>
    cases ns with
    | nil => rfl
    | cons n ns =>
      have e := List.drop_length_add_append (l₁ := leBytes 8 n) (l₂ := u64Flat ns) (8 * j)
      rw [leBytes_length] at e
      rw [u64Flat_cons, List.drop_succ_cons, ← ih ns, Nat.mul_succ, Nat.add_comm, e]

theorem putU64_chunkOf (P : Bytes) (n : Nat) (h : P.length + 8 ≤ 32) :
    putU64 (chunkOf P) P.length n = some (chunkOf (P ++ leBytes 8 n)) := by
  unfold putU64
  rw [if_pos (by rw [chunkOf_length]; exact h), ← chunkOf_write P (leBytes 8 n) (by simpa using h),
    leBytes_length]

/-- The chunk loop of the uint64 helpers with `k` values already written as the bytes `P`. -/
theorem u64Fill_spec (ns : List Nat) (hlen : ns.length < 2^64) :
    ∀ fuel k (P : Bytes) j, P.length = 8 * k → k ≤ 4 → 4 < k + fuel →
      u64Fill (fun j => ns.getD j 0) ns.length fuel (8 * k) j (chunkOf P) =
        some (chunkOf (P ++ u64Flat (ns.drop j))) := by
  intro fuel
  induction fuel with
  | zero => intro k P j _ h0 h1; exact absurd h1 (Nat.not_lt.mpr h0)
  | succ fuel ih =>
    intro k P j hP h0 h1
    unfold u64Fill
    by_cases hc : 8 * k < 32 ∧ j < ns.length
    · have hk : k < 4 := Nat.lt_of_mul_lt_mul_left (a := 8) hc.1
      have := putU64_chunkOf P (ns.getD j 0) (by rw [hP]; exact Nat.mul_le_mul_left 8 hk)
      rw [hP] at this
      rw [if_pos hc, this, add64_of_lt (Nat.lt_of_le_of_lt hc.2 hlen), ← Nat.mul_succ]
      simp only
      rw [ih (k + 1) _ (j + 1) (by rw [List.length_append, leBytes_length, hP, Nat.mul_succ]) hk
          (by rw [Nat.add_right_comm]; exact h1),
        List.drop_eq_getElem_cons hc.2, u64Flat_cons, List.append_assoc,
        List.getD_eq_getElem?_getD, List.getElem?_eq_getElem hc.2, Option.getD_some]
    · rw [if_neg hc]
      by_cases h32 : k < 4
      · rw [List.drop_of_length_le (Nat.le_of_not_lt fun hj =>
          hc ⟨(Nat.mul_lt_mul_left (by decide : 0 < 8)).mpr h32, hj⟩)]
        exact congrArg _ (congrArg _ (List.append_nil P).symm)
      · rw [chunkOf_append_of_le _ _ (by rw [hP]; exact Nat.mul_le_mul_left 8 (Nat.le_of_not_lt h32))]

/-- four 8-byte values per 32-byte chunk -/
theorem chunks_of_eight (k : Nat) : (8 * k + 31) / 32 = (k + 3) / 4 := by
  rw [show 8 * k + 31 = 8 * (k + 3) + 7 from by omega, ← Nat.div_div_eq_div_mul _ 8 4,
    Nat.mul_add_div (by decide)]

theorem u64Flat_chunks (ns : List Nat) : (ns.length + 3) / 4 = ((u64Flat ns).length + 31) / 32 := by
  rw [u64Flat_length, chunks_of_eight]

theorem u64Chunk_spec (ns : List Nat) (i : Nat) (hlen : ns.length + 3 < 2^64)
    (hi : i < (ns.length + 3) / 4) :
    u64Chunk (fun j => ns.getD j 0) ns.length i = some (chunkOf ((u64Flat ns).drop (32 * i))) := by
  have e : 8 * (i * 2^2) = 32 * i := by rw [Nat.mul_comm i, ← Nat.mul_assoc]
  unfold u64Chunk
  rw [shl64_of_lt (Nat.lt_of_le_of_lt (Nat.mul_le_of_le_div 4 i _ (Nat.le_of_lt hi)) hlen), ← e,
    u64Flat_drop]
  exact u64Fill_spec ns (Nat.lt_of_le_of_lt (Nat.le_add_right _ 3) hlen) 5 0 [] _ rfl (by decide) (by decide)

theorem uint64VectorHTR_chunks (h : HashFn) (ns : List Nat) (hlen : ns.length + 3 < 2^64) :
    uint64VectorHTR h (fun j => ns.getD j 0) ns.length =
      some (merk h (coverDepth ((ns.length + 3) / 4)) (chunks (u64Flat ns))) := by
  unfold uint64VectorHTR
  simp only [add64_of_lt hlen, Nat.shiftRight_eq_div_pow]
  exact chunksHTR_bytes h (u64Flat ns) _ _ _ (u64Flat_chunks ns) (fun i => u64Chunk_spec ns i hlen)
    (Nat.le_refl _) (Nat.lt_of_le_of_lt (Nat.div_le_self ..) hlen)

theorem uint64ListHTR_chunks (h : HashFn) (ns : List Nat) (limit : Nat)
    (hll : ns.length ≤ limit) (hlim : limit + 3 < 2^64) :
    uint64ListHTR h (fun j => ns.getD j 0) ns.length limit =
      some (mixin h (merk h (coverDepth ((limit + 3) / 4)) (chunks (u64Flat ns))) ns.length) := by
  have hlen : ns.length + 3 < 2^64 := by omega
  unfold uint64ListHTR
  simp only [add64_of_lt hlim, add64_of_lt hlen, Nat.shiftRight_eq_div_pow]
  rw [chunksHTR_bytes h (u64Flat ns) _ _ _ (u64Flat_chunks ns) (fun i => u64Chunk_spec ns i hlen)
    (Nat.div_le_div_right (Nat.add_le_add_right hll 3)) (Nat.lt_of_le_of_lt (Nat.div_le_self ..) hlim)]
  rfl

/-! ### union selector -/

theorem selectorNode_eq (sel : UInt8) : z0.set 0 sel = chunkOf (leBytes 8 sel.toNat) := by
  have h1 : sel.toNat % 256 = sel.toNat := Nat.mod_eq_of_lt sel.toNat_lt
  have h2 : sel.toNat / 256 = 0 := Nat.div_eq_of_lt sel.toNat_lt
  have : leBytes 8 sel.toNat = sel :: List.replicate 7 0 := by
    rw [show (8:Nat) = 7 + 1 from rfl, leBytes, h1, h2, leBytes_zero, UInt8.ofNat_toNat]
  rw [this]
  rfl

/-! ### bitlists: delimiter bit, `BitlistLen`, masking

A bitlist of length `8*q + r` (`r < 8`) is serialized with the delimiter bit in byte `q`; the
lemmas below carry `q` and `r` as variables, so that their arithmetic is linear. -/

/-- byte-level facts about a delimiter byte `low + 2^r` (`low < 2^r`, `r < 8`): a table of
    255 rows -/
theorem delim_byte : ∀ r, r < 8 → ∀ low, low < 2^r →
    bitIndex (UInt8.ofNat (low + 2^r)) = r ∧
    UInt8.ofNat (low + 2^r) &&& ~~~ ((1 : UInt8) <<< UInt8.ofNat r) = UInt8.ofNat low := by
  decide +kernel

theorem packBits_chunks (bits : List Bool) :
    (bits.length + 255) / 256 = ((packBits bits).length + 31) / 32 := by
  rw [packBits_length, ← Nat.add_mul_div_right _ 31 (by decide : 0 < 8), Nat.div_div_eq_div_mul,
    Nat.add_assoc]

/-- the byte that holds the delimiter: the delimiter bit on top of the last `r` bits -/
theorem delimited_getD_eq (bits : List Bool) (q r : Nat) (hn : bits.length = 8 * q + r) (hr : r < 8) :
    ∃ low, low < 2^r ∧
      (packBits (bits ++ [true])).getD q 0 = UInt8.ofNat (low + 2^r) ∧
      (packBits bits).getD q 0 = UInt8.ofNat low := by
  have hT : (bits.drop (8 * q)).length = r := by rw [List.length_drop, hn, Nat.add_sub_cancel_left]
  refine ⟨bitsVal (bits.drop (8 * q)), hT ▸ bitsVal_lt _, ?_, ?_⟩
  · rw [packBits_getD, List.drop_append_of_le_length (by omega),
      List.take_of_length_le (by rw [List.length_append, hT]; exact hr), byteOfBits_eq,
      bitsVal_snoc_true, hT]
  · rw [packBits_getD, List.take_of_length_le (by omega), byteOfBits_eq]

/-- the packed bits are the delimited bytes with the delimiter bit cleared -/
theorem delimited_getD (bits : List Bool) (q r : Nat) (hn : bits.length = 8 * q + r) (hr : r < 8)
    (g : Nat) :
    (packBits bits).getD g 0 =
      if g = q then (packBits (bits ++ [true])).getD g 0 &&& ~~~ ((1 : UInt8) <<< UInt8.ofNat r)
      else (packBits (bits ++ [true])).getD g 0 := by
  split
  · rename_i hg
    obtain ⟨low, hlow, e1, e2⟩ := delimited_getD_eq bits q r hn hr
    rw [hg, e1, e2, (delim_byte r hr low hlow).2]
  · rename_i hg
    rw [packBits_getD, packBits_getD]
    by_cases hlt : g < q
    · -- a whole byte before the delimiter byte
      have h8 : 8 * g + 8 ≤ bits.length :=
        hn ▸ Nat.le_trans (Nat.mul_le_mul_left 8 hlt) (Nat.le_add_right _ _)
      rw [List.drop_append_of_le_length (Nat.le_of_add_right_le h8),
        List.take_append_of_le_length (by rw [List.length_drop]; exact Nat.le_sub_of_add_le' h8)]
    · -- behind the last byte
      have h8 : bits.length + 1 ≤ 8 * g := by omega
      rw [List.drop_of_length_le (Nat.le_of_succ_le h8), 
        List.drop_of_length_le (by rw [List.length_append, List.length_singleton]; exact h8)]

theorem bitlistLen_delimited (bits : List Bool) (hlen : bits.length < 2^64) :
    bitlistLen (packBits (bits ++ [true])) = bits.length := by
  have hr : bits.length % 8 < 8 := Nat.mod_lt _ (by decide)
  have hn := Nat.div_add_mod bits.length 8
  obtain ⟨low, hlow, e1, _⟩ := delimited_getD_eq bits _ _ hn.symm hr
  unfold bitlistLen
  rw [delimited_length, if_neg (Nat.succ_ne_zero _), Nat.add_sub_cancel, e1]
  show shl64 _ 3 ||| bitIndex _ = _
  rw [(delim_byte _ hr low hlow).1, shl64_of_lt (by omega), ← Nat.shiftLeft_eq,
    ← Nat.shiftLeft_add_eq_or_of_lt hr, Nat.shiftLeft_eq, Nat.mul_comm]
  exact hn

theorem map_range_set {α} (f : Nat → α) (n k : Nat) (v : α) :
    ((List.range n).map f).set k v = (List.range n).map (fun y => if y = k then v else f y) := by
  apply List.ext_getElem
  · simp
  · intro i h1 h2
    simp at h1
    rw [List.getElem_set]
    by_cases hik : k = i
    · subst hik; simp
    · have : ¬ i = k := fun e => hik e.symm
      simp [hik, this]

theorem getD_map_range {α} (f : Nat → α) {n k : Nat} (hk : k < n) (d : α) :
    ((List.range n).map f).getD k d = f k := by
  rw [List.getD_eq_getElem?_getD, List.getElem?_map, List.getElem?_range hk]; rfl

theorem chunkOf_drop_congr (A B : Bytes) (m : Nat)
    (hAB : ∀ y, y < 32 → B.getD (m + y) 0 = A.getD (m + y) 0) :
    chunkOf (A.drop m) = chunkOf (B.drop m) := by
  rw [chunkOf_drop_eq, chunkOf_drop_eq]
  exact List.map_congr_left fun y hy => (hAB y (List.mem_range.mp hy)).symm

theorem chunkOf_drop_modify (A B : Bytes) (f : UInt8 → UInt8) (m k : Nat) (hk : k < 32)
    (hAB : ∀ g, B.getD g 0 = if g = m + k then f (A.getD g 0) else A.getD g 0) :
    (chunkOf (A.drop m)).set k (f ((chunkOf (A.drop m)).getD k 0)) = chunkOf (B.drop m) := by
  rw [chunkOf_drop_eq, chunkOf_drop_eq, map_range_set, getD_map_range _ hk]
  apply List.map_congr_left
  intro y _
  rw [hAB]
  by_cases hy : y = k
  · rw [if_pos hy, if_pos (by rw [hy]), hy]
  · rw [if_neg hy, if_neg (fun e => hy (Nat.add_left_cancel e))]

/-- byte `n / 8` lies in chunk `n / 256`, at position `n % 256 / 8` -/
theorem div_eight_eq (n : Nat) : n / 8 = 32 * (n / 256) + n % 256 / 8 := by
  have h : 256 * (n / 256) = 8 * (32 * (n / 256)) := Nat.mul_assoc 8 32 _
  rw [← Nat.mul_add_div (by decide : 0 < 8), ← h, Nat.div_add_mod]

/-- in the chunks before the last the delimiter byte does not occur -/
theorem delimiter_not_in_chunk {n i y : Nat} (h2 : ¬ n < (i + 1) * 2^8) (hy : y < 32) :
    32 * i + y ≠ n / 8 := by
  omega

theorem lt_of_lt_chunkCount {n i : Nat} (hi : i < (n + 255) / 256) : 256 * i < n := by
  have := (Nat.le_div_iff_mul_le (by decide)).mp hi
  omega

/-- the chunk closure of `BitListHTR` on a delimited bitlist yields the chunks of the packed
    bits without the delimiter -/
theorem bitListChunk_spec (bits : List Bool) (c i : Nat) (hlen : bits.length + 255 < 2^64)
    (hi : i < c) (h1 : 256 * i < bits.length) :
    bitListChunk (packBits (bits ++ [true])) bits.length c i =
      some (chunkOf ((packBits bits).drop (32 * i))) := by
  have hi64 : (i + 1) * 2^8 ≤ bits.length + 255 := by omega
  have hD : 32 * i ≤ (packBits (bits ++ [true])).length :=
    delimited_length bits ▸ Nat.le_succ_of_le ((Nat.le_div_iff_mul_le (by decide)).mpr
      (Nat.le_of_lt (by rw [Nat.mul_comm, ← Nat.mul_assoc]; exact h1)))
  have hD64 : (packBits (bits ++ [true])).length < 2^64 :=
    delimited_length bits ▸ Nat.lt_of_le_of_lt (Nat.succ_le_succ (Nat.div_le_self _ 8))
      (Nat.lt_of_le_of_lt (Nat.add_le_add_left (by decide : 1 ≤ 255) _) hlen)
  unfold bitListChunk
  rw [if_pos hi, byteChunk_of_le _ i hD64 hD,
    add64_of_lt (Nat.lt_of_le_of_lt (Nat.le_trans (Nat.le_mul_of_pos_right _ (by decide)) hi64) hlen),
    shl64_of_lt (Nat.lt_of_le_of_lt hi64 hlen)]
  simp only [Option.bind_eq_bind, Option.bind_some]
  have hr : bits.length % 8 < 8 := Nat.mod_lt _ (by decide)
  have hn := (Nat.div_add_mod bits.length 8).symm
  split
  · rename_i h2
    -- the last chunk: `i = length / 256`
    have hk : bits.length % 256 / 8 < 32 := Nat.div_lt_of_lt_mul (Nat.mod_lt _ (by decide))
    have hq := div_eight_eq bits.length
    rw [Nat.div_eq_of_lt_le (Nat.mul_comm 256 i ▸ Nat.le_of_lt h1) h2] at hq
    unfold clearBit
    rw [Nat.and_two_pow_sub_one_eq_mod _ 8, Nat.and_two_pow_sub_one_eq_mod _ 3,
      Nat.shiftRight_eq_div_pow, chunkOf_length, if_pos hk]
    refine congrArg some (chunkOf_drop_modify _ _
      (fun b => b &&& ~~~ ((1 : UInt8) <<< UInt8.ofNat (bits.length % 8))) _ _ hk fun g => ?_)
    rw [← hq]
    exact delimited_getD bits _ _ hn hr g
  · rename_i h2
    refine congrArg some (chunkOf_drop_congr _ _ _ fun y hy => ?_)
    rw [delimited_getD bits _ _ hn hr, if_neg (delimiter_not_in_chunk h2 hy)]

theorem bitListHTR_chunks (h : HashFn) (bits : List Bool) (lim : Nat)
    (hll : bits.length ≤ lim) (hlim : lim + 255 < 2^64) :
    bitListHTR h (packBits (bits ++ [true])) lim =
      some (mixin h (merk h (coverDepth ((lim + 255) / 256)) (chunks (packBits bits))) bits.length) := by
  have hlen : bits.length + 255 < 2^64 := by omega
  unfold bitListHTR
  rw [bitlistLen_delimited bits (by omega)]
  simp only [add64_of_lt hlim, add64_of_lt hlen, Nat.shiftRight_eq_div_pow]
  rw [chunksHTR_bytes h (packBits bits) _ _ _ (packBits_chunks bits)
    (fun i hi => bitListChunk_spec bits _ i hlen hi (lt_of_lt_chunkCount hi))
    (Nat.div_le_div_right (Nat.add_le_add_right hll 255)) (Nat.lt_of_le_of_lt (Nat.div_le_self ..) hlim)]
  rfl

/-! ### the spec's `htr` on the same types -/

theorem serList_u8 (bs : Bytes) :
    (serList (.uint 1) (bs.map fun b => Val.num b.toNat)).flatten = bs := by
  induction bs with
  | nil => rfl
  | cons b bs ih =>
    simp only [List.map_cons, serList, serialize, List.flatten_cons, ih]
    simp [leBytes]

theorem serList_u64 (ns : List Nat) : (serList (.uint 8) (ns.map Val.num)).flatten = u64Flat ns := by
  induction ns with
  | nil => rfl
  | cons n ns ih => simp only [List.map_cons, serList, serialize, List.flatten_cons, ih, u64Flat_cons]

theorem htr_vector_basic (h : HashFn) (e : Ty) (n : Nat) (vs : List Val) (hb : e.isBasic = true) :
    htr h (.vector e n) (.seq vs) =
      merk h (coverDepth (basicChunkCount e.fixedSize n)) (chunks (serList e vs).flatten) := by
  rw [htr, if_pos hb]

theorem htr_list_basic (h : HashFn) (e : Ty) (lim : Nat) (vs : List Val) (hb : e.isBasic = true) :
    htr h (.list e lim) (.seq vs) =
      mixin h (merk h (coverDepth (basicChunkCount e.fixedSize lim)) (chunks (serList e vs).flatten))
        vs.length := by
  rw [htr, if_pos hb]

theorem basicChunkCount_one (n : Nat) : basicChunkCount 1 n = (n + 31) / 32 := by
  unfold basicChunkCount; rw [Nat.mul_one]

theorem basicChunkCount_eight (n : Nat) : basicChunkCount 8 n = (n + 3) / 4 := by
  unfold basicChunkCount; rw [Nat.mul_comm, chunks_of_eight]

theorem htr_u8Vector (h : HashFn) (bs : Bytes) (n : Nat) :
    htr h (.vector (.uint 1) n) (.seq (bs.map fun b => .num b.toNat)) =
      merk h (coverDepth ((n + 31) / 32)) (chunks bs) := by
  rw [htr_vector_basic h _ _ _ rfl, serList_u8, ← basicChunkCount_one]; rfl

theorem htr_u8List (h : HashFn) (bs : Bytes) (lim : Nat) :
    htr h (.list (.uint 1) lim) (.seq (bs.map fun b => .num b.toNat)) =
      mixin h (merk h (coverDepth ((lim + 31) / 32)) (chunks bs)) bs.length := by
  rw [htr_list_basic h _ _ _ rfl, serList_u8, List.length_map, ← basicChunkCount_one]; rfl

theorem htr_u64Vector (h : HashFn) (ns : List Nat) (n : Nat) :
    htr h (.vector (.uint 8) n) (.seq (ns.map Val.num)) =
      merk h (coverDepth ((n + 3) / 4)) (chunks (u64Flat ns)) := by
  rw [htr_vector_basic h _ _ _ rfl, serList_u64, ← basicChunkCount_eight]; rfl

theorem htr_u64List (h : HashFn) (ns : List Nat) (lim : Nat) :
    htr h (.list (.uint 8) lim) (.seq (ns.map Val.num)) =
      mixin h (merk h (coverDepth ((lim + 3) / 4)) (chunks (u64Flat ns))) ns.length := by
  rw [htr_list_basic h _ _ _ rfl, serList_u64, List.length_map, ← basicChunkCount_eight]; rfl

theorem htr_bytesN (h : HashFn) (bs : Bytes) (n : Nat) :
    htr h (.bytesN n) (.bytes bs) = merk h (coverDepth ((n + 31) / 32)) (chunks bs) := by
  simp [htr]

theorem htr_bitvector (h : HashFn) (bits : List Bool) (n : Nat) :
    htr h (.bitvector n) (.bits bits) = merk h (coverDepth ((n + 255) / 256)) (chunks (packBits bits)) := by
  simp [htr]

theorem htr_bitlist (h : HashFn) (bits : List Bool) (lim : Nat) :
    htr h (.bitlist lim) (.bits bits) =
      mixin h (merk h (coverDepth ((lim + 255) / 256)) (chunks (packBits bits))) bits.length := by
  simp [htr]

theorem htr_container (h : HashFn) (fs : List Ty) (vs : List Val) :
    htr h (.container fs) (.seq vs) = merk h (coverDepth fs.length) (htrFields h fs vs) := by
  simp [htr]

theorem htrFields_length (h : HashFn) : ∀ (fs : List Ty) (vs : List Val), fs.length = vs.length →
    (htrFields h fs vs).length = fs.length := by
  intro fs
  induction fs with
  | nil => intro vs hl; cases vs <;> simp [htrFields] at *
  | cons t ts ih =>
    intro vs hl
    cases vs with
    | nil => simp at hl
    | cons v vs => simp only [htrFields, List.length_cons, ih vs (Nat.succ.inj hl)]

theorem htrList_eq_map (h : HashFn) (e : Ty) (vs : List Val) : htrList h e vs = vs.map (htr h e) := by
  induction vs with
  | nil => simp [htrList]
  | cons v vs ih => simp [htrList, ih]

theorem htr_vector_complex (h : HashFn) (e : Ty) (n : Nat) (vs : List Val) (hb : e.isBasic = false) :
    htr h (.vector e n) (.seq vs) = merk h (coverDepth n) (vs.map (htr h e)) := by
  simp [htr, hb, htrList_eq_map]

theorem htr_list_complex (h : HashFn) (e : Ty) (lim : Nat) (vs : List Val) (hb : e.isBasic = false) :
    htr h (.list e lim) (.seq vs) = mixin h (merk h (coverDepth lim) (vs.map (htr h e))) vs.length := by
  simp [htr, hb, htrList_eq_map]

theorem htr_union (h : HashFn) (hasNone : Bool) (opts : List Ty) (sel : Nat) (v : Val) :
    htr h (.union hasNone opts) (.union sel v) =
      mixin h ((match unionOpt hasNone opts sel with
        | some t => some (htr h t v)
        | Option.none => Option.none).getD z0) sel := by
  simp only [htr]
  cases unionOpt hasNone opts sel <;> rfl

end ZtypV.Mk
