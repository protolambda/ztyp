/-
C12, typed read layer: the typed readers of Model/View.lean (`viewVal`, `serializeView`,
`valueByteLength`, `listLength`) on a partial (summarised) backing give the full-tree result or a
navigation error, whatever the tree and the type.  Every case rests on `asLeaf_fwd`: a position the
full-tree read took as a leaf (packed chunk, length node, selector node, basic value) is a leaf of the
full tree, hence the same leaf in every summary; a summary leaf standing for a pair can only be met
by navigation.
-/
import ZtypV.Proofs.SummMut
import ZtypV.Proofs.RepView
namespace ZtypV.Partial
open ZtypV ZtypV.View ZtypV.TreeNav

/-- forward simulation of a full-tree computation `r` by the partial-tree computation `r'` -/
def FwdR {α β : Type} (S : α → β → Prop) (r : R α) (r' : R β) : Prop :=
  ∀ a, r = .ok a → (∃ a', r' = .ok a' ∧ S a a') ∨ r' = .error .nav

namespace FwdR

theorem bind {α α' β β' : Type} {S : α → α' → Prop} {T : β → β' → Prop} {r : R α} {r' : R α'}
    {f : α → R β} {f' : α' → R β'} (h1 : FwdR S r r')
    (h2 : ∀ a a', S a a' → FwdR T (f a) (f' a')) : FwdR T (r >>= f) (r' >>= f') := by
  intro b hb
  obtain ⟨a, ha, hfa⟩ := R.bind_eq_ok.mp hb
  rcases h1 a ha with ⟨a', ha', hs⟩ | herr
  · rw [ha']; exact h2 a a' hs b hfa
  · rw [herr]; exact Or.inr rfl

theorem rfl' {α : Type} (r : R α) : FwdR Eq r r := fun a ha => Or.inl ⟨a, ha, rfl⟩

theorem bindEq {α β β' : Type} {T : β → β' → Prop} {r r' : R α}
    {f : α → R β} {f' : α → R β'} (h1 : FwdR Eq r r')
    (h2 : ∀ a, FwdR T (f a) (f' a)) : FwdR T (r >>= f) (r' >>= f') :=
  bind h1 (fun a _ he => he ▸ h2 a)

theorem bindSame {α β : Type} {r r' : R α} (h1 : FwdR Eq r r') (f : α → R β) :
    FwdR Eq (r >>= f) (r' >>= f) :=
  bindEq h1 (fun a => rfl' (f a))

theorem ok {α β : Type} {S : α → β → Prop} {a : α} {b : β} (hs : S a b) :
    FwdR S (.ok a : R α) (.ok b : R β) := by
  intro x hx; cases hx; exact Or.inl ⟨b, rfl, hs⟩

theorem error {α β : Type} {S : α → β → Prop} (e : Err) (r' : R β) :
    FwdR S (.error e : R α) r' := nofun

theorem ite {α β : Type} {S : α → β → Prop} {c : Prop} [Decidable c] {a b : R α} {a' b' : R β}
    (h1 : c → FwdR S a a') (h2 : ¬ c → FwdR S b b') :
    FwdR S (if c then a else b) (if c then a' else b') := by
  by_cases hc : c
  · rw [if_pos hc, if_pos hc]; exact h1 hc
  · rw [if_neg hc, if_neg hc]; exact h2 hc

/-- a check that does not look at the tree, then reads -/
theorem guard {α : Type} {c : Prop} [Decidable c] (a : R α) {b b' : R α} (h2 : FwdR Eq b b') :
    FwdR Eq (if c then a else b) (if c then a else b') :=
  ite (fun _ => rfl' a) (fun _ => h2)

theorem mapM {α β : Type} {f g : α → R β} : ∀ (l : List α), (∀ i, FwdR Eq (f i) (g i)) →
    FwdR Eq (l.mapM f) (l.mapM g) := by
  intro l hfg
  induction l with
  | nil => exact rfl' _
  | cons a l ih =>
    rw [List.mapM_cons, List.mapM_cons]
    exact bindEq (hfg a) fun _ => bindSame ih _

theorem eq_or_nav {α : Type} {r r' : R α} {a : α} (hf : FwdR Eq r r') (hr : r = .ok a) :
    r' = .ok a ∨ r' = .error .nav := by
  rcases hf a hr with ⟨a', ha', rfl⟩ | herr
  · exact Or.inl ha'
  · exact Or.inr herr

theorem ok_unique {α : Type} {r r' : R α} {a b : α} (hf : FwdR Eq r r') (hr : r = .ok a)
    (hr' : r' = .ok b) : b = a := by
  rcases hf.eq_or_nav hr with h1 | h1 <;> cases h1.symm.trans hr'
  rfl

theorem noPanic {α β : Type} {S : α → β → Prop} {r : R α} {r' : R β} {a : α} (hf : FwdR S r r')
    (hr : r = .ok a) : r' ≠ .error .panic := by
  rcases hf a hr with ⟨_, h1, _⟩ | h1 <;> rw [h1] <;> nofun

end FwdR

/-- `f` reads a summary like the full tree: the same result or a navigation error -/
def Reads (h : HashFn) {α : Type} (f : Node → R α) : Prop :=
  ∀ n n', Summ h n n' → FwdR Eq (f n) (f n')

section prim
variable {h : HashFn} {n n' : Node} (hs : Summ h n n')
include hs

theorem asLeaf_fwd : FwdR Eq (asLeaf n) (asLeaf n') := by
  intro r hr
  cases n with
  | pair l rr => cases hr
  | leaf y => rw [hs.leaf_left]; exact Or.inl ⟨r, hr, rfl⟩

theorem getNode_fwd (p : List Bool) : FwdR (Summ h) (getNode n p) (getNode n' p) :=
  fun _ hx => Summ.getNode_fwd hs p hx

theorem subtreeGet_fwd (d i : Nat) : FwdR (Summ h) (subtreeGet n d i) (subtreeGet n' d i) :=
  FwdR.bindEq (FwdR.rfl' _) (fun p => getNode_fwd hs p)

theorem listLength_fwd (lim : Nat) : FwdR Eq (listLength n lim) (listLength n' lim) :=
  FwdR.bind (getNode_fwd hs _) fun _ _ hx => (asLeaf_fwd hx).bindSame _

theorem chunk_fwd (d i : Nat) {β : Type} (k : Root → R β) :
    FwdR Eq (subtreeGet n d i >>= fun c => asLeaf c >>= k)
      (subtreeGet n' d i >>= fun c => asLeaf c >>= k) :=
  FwdR.bind (subtreeGet_fwd hs d i) fun _ _ hc => (asLeaf_fwd hc).bindSame k

theorem elems_fwd {α : Type} {f : Node → R α} (hf : Reads h f) (d : Nat) (l : List Nat) :
    FwdR Eq (l.mapM fun i => subtreeGet n d i >>= f) (l.mapM fun i => subtreeGet n' d i >>= f) :=
  FwdR.mapM l fun i => FwdR.bind (subtreeGet_fwd hs d i) hf

theorem subtreeIntoBytes_fwd (d count len : Nat) :
    FwdR Eq (subtreeIntoBytes n d count len) (subtreeIntoBytes n' d count len) :=
  (elems_fwd hs (fun _ _ => asLeaf_fwd) d _).bindSame _

/-- the part all three readers of a union share: `Selector()`, its range checks, the content
    node; `k` reads the content -/
theorem union_fwd {α : Type} {bad₁ bad₂ nil : Root → Prop} [DecidablePred bad₁]
    [DecidablePred bad₂] [DecidablePred nil] (e₁ e₂ z : Root → R α) {k : Root → Node → R α}
    (hk : ∀ r, Reads h (k r)) :
    FwdR Eq
      (getNode n [true] >>= fun sn => asLeaf sn >>= fun r =>
        if bad₁ r then e₁ r else if bad₂ r then e₂ r else
          getNode n [false] >>= fun c => if nil r then z r else k r c)
      (getNode n' [true] >>= fun sn => asLeaf sn >>= fun r =>
        if bad₁ r then e₁ r else if bad₂ r then e₂ r else
          getNode n' [false] >>= fun c => if nil r then z r else k r c) :=
  FwdR.bind (getNode_fwd hs _) fun _ _ hsn => FwdR.bindEq (asLeaf_fwd hsn) fun r =>
    .guard _ <| .guard _ <| FwdR.bind (getNode_fwd hs _) fun c c' hc => .guard _ (hk r c c' hc)

end prim

/-- the selected option of a union: `g` is `viewOpt` / `serOptView` / `lenOptView` over `f` -/
theorem opt_reads {h : HashFn} {α : Type} {f : Ty → Node → R α} {g : List Ty → Nat → Node → R α}
    (g_nil : ∀ k c, g [] k c = .error .panic) (g_zero : ∀ t ts c, g (t :: ts) 0 c = f t c)
    (g_succ : ∀ t ts k c, g (t :: ts) (k + 1) c = g ts k c) :
    ∀ (ts : List Ty), (∀ t ∈ ts, Reads h (f t)) → ∀ k, Reads h (g ts k) := by
  intro ts
  induction ts with
  | nil => intro _ k c c' _; rw [g_nil, g_nil]; exact FwdR.rfl' _
  | cons t ts ih =>
    intro hall k c c' hs
    cases k with
    | zero => rw [g_zero, g_zero]; exact hall t List.mem_cons_self c c' hs
    | succ k => rw [g_succ, g_succ]; exact ih (fun t' ht' => hall t' (List.mem_cons_of_mem _ ht')) k c c' hs

/-- the field loop of a container: `g` is `viewFields` / `serFieldsView` over `f` -/
theorem fields_reads {h : HashFn} {α β : Type} {f : Ty → Node → R α}
    {g : List Ty → Node → Nat → Nat → R β} {k : Ty → α → β → β} {z : β}
    (g_nil : ∀ n d i, g [] n d i = .ok z)
    (g_cons : ∀ t ts n d i, g (t :: ts) n d i = subtreeGet n d i >>= fun c => f t c >>= fun a =>
      g ts n d (i + 1) >>= fun r => .ok (k t a r)) :
    ∀ (ts : List Ty), (∀ t ∈ ts, Reads h (f t)) →
      ∀ (n n' : Node) (d i : Nat), Summ h n n' → FwdR Eq (g ts n d i) (g ts n' d i) := by
  intro ts
  induction ts with
  | nil => intro _ n n' d i _; rw [g_nil, g_nil]; exact FwdR.rfl' _
  | cons t ts ih =>
    intro hall n n' d i hs
    rw [g_cons, g_cons]
    refine FwdR.bind (subtreeGet_fwd hs d i) fun c c' hc => ?_
    refine FwdR.bindEq (hall t List.mem_cons_self c c' hc) fun v => ?_
    exact (ih (fun t' ht' => hall t' (List.mem_cons_of_mem _ ht')) n n' d (i + 1) hs).bindSame _

theorem viewVal_reads (h : HashFn) : ∀ t, Reads h (viewVal t) := by
  intro t
  induction t using Ty.induct with
  | uint _ | bool | bytesN _ =>
    intro n n' hs
    exact (asLeaf_fwd hs).bindSame _
  | bitvector k =>
    intro n n' hs
    exact (FwdR.mapM _ fun _ => chunk_fwd hs _ _ _).bindSame _
  | bitlist lim =>
    intro n n' hs
    exact FwdR.bindEq (listLength_fwd hs lim) fun _ =>
      (FwdR.mapM _ fun _ => chunk_fwd hs _ _ _).bindSame _
  | vector e k ih =>
    intro n n' hs
    refine FwdR.ite (fun _ => ?_) (fun _ => (elems_fwd hs ih _ _).bindSame _)
    exact (FwdR.mapM _ fun _ => chunk_fwd hs _ _ _).bindSame _
  | list e lim ih =>
    intro n n' hs
    refine FwdR.bindEq (listLength_fwd hs lim) fun ll => FwdR.ite (fun _ => ?_) (fun _ => ?_)
    · exact (FwdR.mapM _ fun _ => chunk_fwd hs _ _ _).bindSame _
    · exact (elems_fwd hs ih _ _).bindSame _
  | container fs ih =>
    intro n n' hs
    exact (fields_reads (fun _ _ _ => rfl) (fun _ _ _ _ _ => rfl) fs ih n n' _ 0 hs).bindSame _
  | union hn opts ih =>
    intro n n' hs
    refine union_fwd hs _ _ _ fun r c c' hc => FwdR.bindSame ?_ _
    exact opt_reads (fun _ _ => rfl) (fun _ _ _ => rfl) (fun _ _ _ _ => rfl) opts ih _ c c' hc

/-- in particular the uint32 offset overflow panic of `WriteOffset` cannot appear on a partial
    backing where the full tree had none -/
theorem serializeView_reads (h : HashFn) : ∀ t, Reads h (serializeView t) := by
  intro t
  induction t using Ty.induct with
  | uint _ | bool | bytesN _ =>
    intro n n' hs
    exact (asLeaf_fwd hs).bindSame _
  | bitvector k =>
    intro n n' hs
    exact subtreeIntoBytes_fwd hs _ _ _
  | bitlist lim =>
    intro n n' hs
    refine FwdR.bind (getNode_fwd hs _) fun c c' hc => ?_
    exact FwdR.bindEq (listLength_fwd hs lim) fun _ => (subtreeIntoBytes_fwd hc _ _ _).bindSame _
  | vector e k ih =>
    intro n n' hs
    exact FwdR.ite (fun _ => subtreeIntoBytes_fwd hs _ _ _) (fun _ => (elems_fwd hs ih _ _).bindSame _)
  | list e lim ih =>
    intro n n' hs
    refine FwdR.ite (fun _ => ?_) (fun _ => ?_)
    · refine FwdR.bind (getNode_fwd hs _) fun c c' hc => ?_
      exact FwdR.bindEq (listLength_fwd hs lim) fun _ => subtreeIntoBytes_fwd hc _ _ _
    · refine FwdR.bindEq (listLength_fwd hs lim) fun _ => ?_
      exact FwdR.bind (getNode_fwd hs _) fun c c' hc => (elems_fwd hc ih _ _).bindSame _
  | container fs ih =>
    intro n n' hs
    exact (fields_reads (fun _ _ _ => rfl) (fun _ _ _ _ _ => rfl) fs ih n n' _ 0 hs).bindSame _
  | union hn opts ih =>
    intro n n' hs
    refine union_fwd hs _ _ _ fun r c c' hc => FwdR.bindSame ?_ _
    exact opt_reads (fun _ _ => rfl) (fun _ _ _ => rfl) (fun _ _ _ _ => rfl) opts ih _ c c' hc

theorem lenFieldsView_fwd {h : HashFn} : ∀ (ts : List Ty), (∀ t ∈ ts, Reads h (valueByteLength t)) →
    ∀ (n n' : Node) (d i : Nat), Summ h n n' →
      FwdR Eq (lenFieldsView ts n d i) (lenFieldsView ts n' d i) := by
  intro ts
  induction ts with
  | nil => intro _ n n' d i _; exact FwdR.rfl' _
  | cons t ts ih =>
    intro hall n n' d i hs
    have rest := fun here : Nat =>
      (ih (fun t' ht' => hall t' (List.mem_cons_of_mem _ ht')) n n' d (i + 1) hs).bindSame
        fun rest => (Except.ok (here + rest) : R Nat)
    refine FwdR.ite (fun _ => FwdR.bindEq (FwdR.rfl' _) rest) fun _ => FwdR.bindEq ?_ rest
    exact FwdR.bind (subtreeGet_fwd hs d i) fun c c' hc =>
      (hall t List.mem_cons_self c c' hc).bindSame _

theorem valueByteLength_reads (h : HashFn) : ∀ t, Reads h (valueByteLength t) := by
  intro t
  induction t using Ty.induct with
  | uint _ | bool | bytesN _ | bitvector _ => exact fun _ _ _ => FwdR.rfl' _
  | bitlist lim =>
    intro n n' hs
    exact (listLength_fwd hs lim).bindSame _
  | vector e k ih =>
    intro n n' hs
    exact .guard _ ((elems_fwd hs ih _ _).bindSame _)
  | list e lim ih =>
    intro n n' hs
    refine FwdR.bindEq (listLength_fwd hs lim) fun _ => ?_
    exact .guard _ (FwdR.bind (getNode_fwd hs _) fun c c' hc => (elems_fwd hc ih _ _).bindSame _)
  | container fs ih =>
    intro n n' hs
    exact .guard _ (lenFieldsView_fwd fs ih n n' _ 0 hs)
  | union hn opts ih =>
    intro n n' hs
    refine union_fwd hs _ _ _ fun r c c' hc => FwdR.bindSame ?_ _
    exact opt_reads (fun _ _ => rfl) (fun _ _ _ => rfl) (fun _ _ _ _ => rfl) opts ih _ c c' hc

/-- a mutation that succeeds on the partial view (`r'`), given what the same mutation of the
    full view (`r`) does in terms of the value (`set_rep` and its like): the value-level mutation
    is defined, the full-view mutation yields a `Rep` backing of its result, the new partial
    backing is a summary of that and reads as the new value, with its hash-tree-root -/
theorem mutated_partial (h : HashFn) {t : Ty} (hwf : t.wf = true) (hr : inRange t = true)
    {ov : Option Val} {r r' : R Node} {m' : Node}
    (hspec : match ov with
      | some v' => ∃ n', r = .ok n' ∧ Rep h t v' n' ∧ hasType t v' = true
      | none => ∃ e, r = .error e ∧ e ≠ .panic)
    (hb : BackR (Summ h) r r') (hm : r' = .ok m') :
    ∃ v' m, ov = some v' ∧ r = .ok m ∧ Rep h t v' m ∧ hasType t v' = true ∧ Summ h m m' ∧
      (viewVal t m' = .ok v' ∨ viewVal t m' = .error .nav) ∧
      (noBoolSeries t = true → m'.root h = htr h t v') := by
  obtain ⟨m, hfull, hsum⟩ := hb m' hm
  cases ov with
  | none => obtain ⟨e, he, _⟩ := hspec; cases he.symm.trans hfull
  | some v' =>
    obtain ⟨m1, h1, hrep', hty'⟩ := hspec
    cases h1.symm.trans hfull
    exact ⟨v', m, rfl, hfull, hrep', hty', hsum,
      (viewVal_reads h t m m' hsum).eq_or_nav (rep_getters h hwf hr hty' hrep'),
      fun hnb => hsum.root.trans (rep_root h hwf hnb hty' hrep')⟩

end ZtypV.Partial
