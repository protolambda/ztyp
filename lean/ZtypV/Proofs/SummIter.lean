/-
C12, iterators on a partial backing.  Corollary of C17 (for ANY tree the read-only iterators
produce exactly the `iterSpec` sequence of indexed access) and the simulation of indexed
access (Proofs/SummMut.lean): call by call, the iterator over the partial tree shows the
summary of what the iterator over the full tree shows, the same end, or a (non-panic)
error; a read-only iterator keeps reporting that error from the first missing position on.
-/
import ZtypV.Proofs.SummMut
import ZtypV.Proofs.IterNav
namespace ZtypV.Partial
open ZtypV ZtypV.View ZtypV.View.Iter ZtypV.TreeNav ZtypV.RepMut

/-- what the partial-tree iterator may answer (second) given the full-tree iterator's answer
    to the same call (first) -/
def StepSumm {α : Type} (S : α → α → Prop) : Step α → Step α → Prop
  | _, .err e => e ≠ .panic
  | .item a, .item a' => S a a'
  | .done, .done => True
  | _, _ => False

def StepsSumm {α : Type} (S : α → α → Prop) : List (Step α) → List (Step α) → Prop
  | [], [] => True
  | x :: xs, y :: ys => StepSumm S x y ∧ StepsSumm S xs ys
  | _, _ => False

theorem StepsSumm.get {α : Type} {S : α → α → Prop} : ∀ {xs ys : List (Step α)}, StepsSumm S xs ys →
    xs.length = ys.length ∧ ∀ j (h1 : j < xs.length) (h2 : j < ys.length), StepSumm S xs[j] ys[j] := by
  intro xs ys hs
  match xs, ys, hs with
  | [], [], _ => exact ⟨rfl, nofun⟩
  | x :: xs, y :: ys, hs =>
    obtain ⟨hl, hg⟩ := StepsSumm.get hs.2
    refine ⟨congrArg Nat.succ hl, fun j h1 h2 => ?_⟩
    cases j with
    | zero => exact hs.1
    | succ j => exact hg j (Nat.lt_of_succ_lt_succ h1) (Nat.lt_of_succ_lt_succ h2)

/-- a non-panic error for ever is an admissible answer to whatever the full side shows -/
theorem stepsSumm_err {α : Type} (S : α → α → Prop) {e : Err} (he : e ≠ .panic) (get : Nat → R α)
    (length : Nat) : ∀ n k, StepsSumm S (iterSpec get length k n) (List.replicate n (.err e)) := by
  intro n
  induction n with
  | zero => exact fun _ => True.intro
  | succ n ih =>
    intro k
    rw [iterSpec, List.replicate_succ]
    split
    · split <;> exact ⟨he, ih _⟩
    · exact ⟨he, ih _⟩

theorem iterSpec_summ {α : Type} {S : α → α → Prop} {get get' : Nat → R α} {length : Nat}
    (hg : ∀ k, k < length → Safe S (get k) (get' k)) :
    ∀ n k, StepsSumm S (iterSpec get length k n) (iterSpec get' length k n) := by
  intro n
  induction n with
  | zero => exact fun _ => True.intro
  | succ n ih =>
    intro k
    by_cases hk : k < length
    · cases hg' : get' k with
      | error e' =>
        rw [iterSpec_err get' length k e' hk hg']
        exact stepsSumm_err S (fun he => (hg k hk).2 (he ▸ hg')) get length _ _
      | ok a' =>
        obtain ⟨a, ha, hs⟩ := (hg k hk).1 a' hg'
        rw [iterSpec, iterSpec, if_pos hk, if_pos hk, ha, hg']
        exact ⟨hs, ih (k + 1)⟩
    · rw [iterSpec, iterSpec, if_neg hk, if_neg hk]
      exact ⟨True.intro, ih k⟩

/-- packed element iterator (`basicElemReadonlyIter`): the same VALUES or an error -/
theorem basicIter_summ {h : HashFn} {anchor anchor' : Node} (hs : Summ h anchor anchor')
    (length depth size : Nat) (hl : BottomLeaves anchor depth)
    (hb : (BasicIt.new anchor length depth size).bad = false) (n : Nat) :
    StepsSumm Eq
      (runSteps BasicIt.next n (BasicIt.new anchor length depth size))
      (runSteps BasicIt.next n (BasicIt.new anchor' length depth size)) := by
  rw [basic_run anchor length depth size hb n, basic_run anchor' length depth size hb n]
  exact iterSpec_summ (fun k _ => chunk_safe hs hl _ fun _ =>
    Safe.same (NoPanic.basicFromChunk _ _ _)) n 0

/-- bit iterator (`bitReadonlyIter`): the same BITS or an error -/
theorem bitIter_summ {h : HashFn} {anchor anchor' : Node} (hs : Summ h anchor anchor')
    (length depth : Nat) (hl : BottomLeaves anchor depth)
    (hb : (BitIt.new anchor length depth).bad = false) (n : Nat) :
    StepsSumm Eq
      (runSteps BitIt.next n (BitIt.new anchor length depth))
      (runSteps BitIt.next n (BitIt.new anchor' length depth)) := by
  rw [bit_run anchor length depth hb n, bit_run anchor' length depth hb n]
  exact iterSpec_summ (fun k _ => chunk_safe hs hl _ fun _ => Safe.same (NoPanic.ok _)) n 0

/-- client observations: what the partial view's iterator may show (second) given what the
    full view's iterator shows at the same call (first) -/
def OutSumm (h : HashFn) : Out → Out → Prop
  | _, .err => True
  | .node t x, .node t' x' => t = t' ∧ Summ h x x'
  | .val t v, .val t' v' => t = t' ∧ v = v'
  | .bit b, .bit b' => b = b'
  | .done, .done => True
  | _, _ => False

theorem OutSumm.err (h : HashFn) (o : Out) : OutSumm h o .err := by
  cases o <;> exact True.intro

theorem OutSumm.refl (h : HashFn) (o : Out) : OutSumm h o o := by
  cases o with
  | node t x => exact ⟨rfl, Summ.refl x⟩
  | val t v => exact ⟨rfl, rfl⟩
  | bit b => exact rfl
  | done => exact True.intro
  | err => exact True.intro

def OutsSumm (h : HashFn) : List Out → List Out → Prop
  | [], [] => True
  | x :: xs, y :: ys => OutSumm h x y ∧ OutsSumm h xs ys
  | _, _ => False

theorem OutsSumm.get {h : HashFn} : ∀ {xs ys : List Out}, OutsSumm h xs ys →
    xs.length = ys.length ∧ ∀ j (h1 : j < xs.length) (h2 : j < ys.length), OutSumm h xs[j] ys[j] := by
  intro xs ys hs
  match xs, ys, hs with
  | [], [], _ => exact ⟨rfl, nofun⟩
  | x :: xs, y :: ys, hs =>
    obtain ⟨hl, hg⟩ := OutsSumm.get hs.2
    refine ⟨congrArg Nat.succ hl, fun j h1 h2 => ?_⟩
    cases j with
    | zero => exact hs.1
    | succ j => exact hg j (Nat.lt_of_succ_lt_succ h1) (Nat.lt_of_succ_lt_succ h2)

/-- anything against an iterator stuck in an error -/
theorem outsSumm_stuck (h : HashFn) {it' : AnyIt} (hn : it'.next = (.err, it')) :
    ∀ (m : Nat) (it : AnyIt), OutsSumm h (runSteps AnyIt.next m it) (runSteps AnyIt.next m it')
  | 0, _ => True.intro
  | m + 1, it => by
    rw [runSteps, runSteps, hn]
    exact ⟨OutSumm.err h _, outsSumm_stuck h hn m _⟩

theorem outsSumm_map {α : Type} {h : HashFn} {S : α → α → Prop} (f : α → Out)
    (hf : ∀ a a', S a a' → OutSumm h (f a) (f a')) :
    ∀ (xs ys : List (Step α)), StepsSumm S xs ys →
      OutsSumm h (xs.map (stepOut f)) (ys.map (stepOut f))
  | [], [], _ => True.intro
  | x :: xs, y :: ys, hs => by
    refine ⟨?_, outsSumm_map f hf xs ys hs.2⟩
    have h1 := hs.1
    cases y with
    | err e => exact OutSumm.err h _
    | item a' => cases x <;> first | exact hf _ a' h1 | exact h1.elim
    | done => cases x <;> first | exact True.intro | exact h1.elim

theorem nodesSeq_eq (get : Nat → R Node) (ety : Nat → Option Ty) (length : Nat) : ∀ m k,
    nodesSeq get ety length k m =
      (iterSpec (fun k => get k >>= fun c => .ok (nodeOut ety k c)) length k m).map (stepOut id) := by
  intro m
  induction m with
  | zero => exact fun _ => rfl
  | succ m ih =>
    intro k
    rw [nodesSeq, iterSpec]
    split
    · cases get k with
      | ok c => exact congrArg (_ :: ·) (ih (k + 1))
      | error e => exact congrArg (_ :: ·) (ih k)
    · exact congrArg (_ :: ·) (ih k)

/-- `ReadonlyIter()` of complex series / containers as the client sees it (if the
    construction-time check fails — it depends on length and depth only — both sides are stuck
    in an error).  `hview`: on the full tree every element node can be opened as a view of its
    type (true for `Rep` backings, `rep_viewOk`). -/
theorem anyNodes_summ {h : HashFn} {anchor anchor' : Node} (hs : Summ h anchor anchor')
    (length depth : Nat) (ety : Nat → Option Ty)
    (hview : ∀ k c t, k < length → subtreeGet anchor depth k = .ok c → ety k = some t →
      elemViewOk t c = true) (m : Nat) :
    OutsSumm h (runSteps AnyIt.next m (.nodes (NodeIt.new anchor length depth) ety))
      (runSteps AnyIt.next m (.nodes (NodeIt.new anchor' length depth) ety)) := by
  cases hb : (NodeIt.new anchor length depth).bad
  · rw [anyNodes_run anchor length depth hb ety m, anyNodes_run anchor' length depth hb ety m,
      nodesSeq_eq, nodesSeq_eq]
    refine outsSumm_map id (fun _ _ ho => ho) _ _ (iterSpec_summ (fun k hk => ?_) m 0)
    refine .bind (subtreeGet_safe hs depth k) fun c c' hc hcs => .ok ?_
    unfold nodeOut
    cases het : ety k with
    | none => exact True.intro
    | some t =>
      simp only [hview k c t hk hc het, if_true]
      split
      · exact ⟨rfl, hcs⟩
      · exact True.intro
  · refine outsSumm_stuck h ?_ m _
    have hb' : (NodeIt.new anchor' length depth).bad = true := hb
    rw [next_nodes_eq, NodeIt.next, if_pos hb']

theorem anyBasics_summ {h : HashFn} {anchor anchor' : Node} (hs : Summ h anchor anchor')
    (length depth size : Nat) (t : Ty) (hl : BottomLeaves anchor depth) (m : Nat) :
    OutsSumm h (runSteps AnyIt.next m (.basics (BasicIt.new anchor length depth size) t))
      (runSteps AnyIt.next m (.basics (BasicIt.new anchor' length depth size) t)) := by
  cases hb : (BasicIt.new anchor length depth size).bad
  · rw [anyBasics_run, anyBasics_run]
    exact outsSumm_map (Out.val t) (fun a a' he => ⟨rfl, he⟩) _ _
      (basicIter_summ hs length depth size hl hb m)
  · refine outsSumm_stuck h ?_ m _
    have hb' : (BasicIt.new anchor' length depth size).bad = true := hb
    rw [next_basics_eq, BasicIt.next, if_pos hb']

theorem anyBits_summ {h : HashFn} {anchor anchor' : Node} (hs : Summ h anchor anchor')
    (length depth : Nat) (hl : BottomLeaves anchor depth) (m : Nat) :
    OutsSumm h (runSteps AnyIt.next m (.bits (BitIt.new anchor length depth)))
      (runSteps AnyIt.next m (.bits (BitIt.new anchor' length depth))) := by
  cases hb : (BitIt.new anchor length depth).bad
  · rw [anyBits_run, anyBits_run]
    exact outsSumm_map Out.bit (fun a a' he => he) _ _ (bitIter_summ hs length depth hl hb m)
  · refine outsSumm_stuck h ?_ m _
    have hb' : (BitIt.new anchor' length depth).bad = true := hb
    rw [next_bits_eq, BitIt.next, if_pos hb']

/-- `Get(i)` on a partial `Rep`-backed view: success only with the summary of the full view's
    element backing, which represents the element the value model reads -/
theorem getElem_partial (h : HashFn) {t : Ty} {v : Val} {n n' : Node} (i : Nat) (hwf : t.wf = true)
    (hd : DepthOk t) (hty : hasType t v = true) (hrep : Rep h t v n) (hs : Summ h n n')
    {et : Ty} {en' : Node} (hg : getElemNode t n' i = .ok (et, en')) :
    ∃ en x, getElemNode t n i = .ok (et, en) ∧ ElemSumm h t (et, en) (et, en') ∧
      Sim.valElem t v i = some (et, x) ∧ Rep h et x en ∧ hasType et x = true ∧
      viewFromBackingOk et en = true := by
  obtain ⟨⟨et0, en⟩, hfull, hsum⟩ := (getElem_safe t i hs (rep_readLeaves h hrep)).1 _ hg
  cases (show et0 = et from hsum.1)
  have hspec := getElem_rep h t v n i hwf hd hty hrep
  cases hve : Sim.valElem t v i with
  | none =>
    rw [hve] at hspec
    obtain ⟨e, he, _⟩ := hspec
    rw [he] at hfull; cases hfull
  | some ex =>
    obtain ⟨et1, x⟩ := ex
    rw [hve] at hspec
    obtain ⟨en1, h1, hrx, hvo, htx⟩ := hspec
    rw [h1] at hfull
    cases hfull
    exact ⟨en, x, h1, hsum, rfl, hrx, htx, hvo⟩

theorem indexedOut_summ (h : HashFn) {t : Ty} {v : Val} {n n' : Node} (k : Nat) (hwf : t.wf = true)
    (hd : DepthOk t) (hty : hasType t v = true) (hrep : Rep h t v n) (hs : Summ h n n') :
    OutSumm h (indexedOut t n k) (indexedOut t n' k) := by
  cases hg' : getElemNode t n' k with
  | error e =>
    rw [show indexedOut t n' k = .err by rw [indexedOut, hg']]
    exact OutSumm.err h _
  | ok p =>
    obtain ⟨et, en'⟩ := p
    obtain ⟨en, x, hfull, ⟨_, hsum, hsame⟩, _, _, _, hvo⟩ :=
      getElem_partial h k hwf hd hty hrep hs hg'
    by_cases hp : packedSlot t = true
    · -- packed elements and bits: the same fresh leaf, so the same observation
      cases hsame hp
      rw [indexedOut, indexedOut, hfull, hg']
      exact OutSumm.refl h _
    · have hvo' : elemViewOk et en = true := hvo
      cases hv' : elemViewOk et en'
      · rw [show indexedOut t n' k = .err by simp only [indexedOut, hg', hv', Bool.not_false, if_true]]
        exact OutSumm.err h _
      · cases t with
        | vector e j | list e j | container fs =>
          simp only [indexedOut, hfull, hg', hvo', hv', Bool.not_true, Bool.false_eq_true, if_false]
          exact ⟨rfl, hsum⟩
        | bitvector j | bitlist j => exact absurd rfl hp
        | _ => cases hg'

/-- the index-based `Iter()` on a partial view, call by call (every call advances, so after an
    error the following positions are served again) -/
theorem anyIndexed_summ (h : HashFn) {t : Ty} {v : Val} {n n' : Node} (length : Nat)
    (hwf : t.wf = true) (hd : DepthOk t) (hty : hasType t v = true) (hrep : Rep h t v n)
    (hs : Summ h n n') (m : Nat) :
    OutsSumm h (runSteps AnyIt.next m (.indexed t n length 0))
      (runSteps AnyIt.next m (.indexed t n' length 0)) := by
  -- `outSeq` is `iterSpec` over an access that always succeeds
  rw [indexed_run, indexed_run,
    ← iterSpec_map_all_ok (fun j => .ok (indexedOut t n j)) id length (indexedOut t n)
      fun _ _ => ⟨_, rfl, rfl⟩,
    ← iterSpec_map_all_ok (fun j => .ok (indexedOut t n' j)) id length (indexedOut t n')
      fun _ _ => ⟨_, rfl, rfl⟩]
  exact outsSumm_map id (fun _ _ ho => ho) _ _
    (iterSpec_summ (fun k _ => .ok (indexedOut_summ h k hwf hd hty hrep hs)) m 0)

/-! ### starting the iterators of a view (`Iter.start`)

If the partial view cannot even start the iterator (its `Length()` fails, or the contents anchor
is missing because the whole view was summarised) the started iterator is the failed iterator:
an error for ever. -/

theorem outsSumm_failed (h : HashFn) (it : AnyIt) (m : Nat) :
    OutsSumm h (runSteps AnyIt.next m it) (runSteps AnyIt.next m .failed) :=
  outsSumm_stuck h rfl m it

/-- a partial list-like view whose `Length()` works: it is a pair, the full view is a pair with
    the same length, and the contents anchors are related -/
theorem list_anchor {h : HashFn} {n n' : Node} {lim ll : Nat} (hs : Summ h n n') (hl : LenLeaf n)
    (hll : listLength n' lim = .ok ll) :
    listLength n lim = .ok ll ∧ ∃ l r l' r', n = .pair l r ∧ n' = .pair l' r' ∧ Summ h l l' := by
  obtain ⟨_, h1, rfl⟩ := (listLength_safe hs hl lim).1 ll hll
  obtain ⟨⟨l', r', rfl⟩, _⟩ := listLength_ok hll
  obtain ⟨l, r, rfl, hl', _⟩ := Summ.pair_right hs
  exact ⟨h1, l, r, l', r', rfl, rfl, hl'⟩

theorem series_view_ok (h : HashFn) {e : Ty} {vs : List Val} {xs : List Node} {c : Node} {d : Nat}
    (hrl : RepList h e vs xs) (hsh : SeqShape h d c xs) (hd : d < 64) :
    ∀ k x t, k < vs.length → subtreeGet c d k = .ok x → (fun _ : Nat => some e) k = some t →
      elemViewOk t x = true := by
  intro k x t hk hg ht
  have hk' : k < xs.length := repList_length h e vs xs hrl ▸ hk
  rw [shape_get h hsh hk' hd] at hg
  cases hg
  cases ht
  exact rep_viewOk h _ _ _ (repList_get h e vs xs hrl k hk hk')

theorem fields_view_ok (h : HashFn) {fs : List Ty} {vs : List Val} {xs : List Node} {c : Node}
    (hrf : RepFields h fs vs xs) (hsh : SeqShape h (coverDepth fs.length) c xs)
    (hd : coverDepth fs.length < 64) :
    ∀ k x t, k < fs.length → subtreeGet c (coverDepth fs.length) k = .ok x → fs[k]? = some t →
      elemViewOk t x = true := by
  intro k x t hk hg ht
  obtain ⟨hl1, hl2⟩ := repFields_length h fs vs xs hrf
  have hk' : k < xs.length := Nat.lt_of_lt_of_eq hk hl2.symm
  rw [shape_get h hsh hk' hd] at hg
  cases hg
  cases (List.getElem?_eq_getElem hk).symm.trans ht
  exact rep_viewOk h _ _ _ (repFields_get h fs vs xs hrf k hk (Nat.lt_of_lt_of_eq hk hl1.symm) hk')

end ZtypV.Partial
