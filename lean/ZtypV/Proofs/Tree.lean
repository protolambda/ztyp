/-
Laws of tree navigation (`getNode`, `setNode`, `summarizeInto`) behind C11, in the namespace
`ZtypV.TreeNav`: `ZtypV` itself has unfolding lemmas of the same names (Proofs/FillGet.lean,
Proofs/Shape.lean).

Three facts carry the rest.  `setNode_cons_cases` describes one step of a write, expansion
included.  `setNode_cases` says a write either fails with a navigation error whatever is written
or succeeds whatever is written; read-back, the error laws and independence of the written value
are read off it.  `setNode_append_of_get` splits a write at a position that exists; the laws
about missing positions, the spine and concatenated paths follow from it.
-/
import ZtypV.Model.TreeG
import ZtypV.Proofs.Fill
namespace ZtypV.TreeNav

theorem R.map_eq_ok {α β : Type} {f : α → β} {x : R α} {y : β} :
    f <$> x = Except.ok y ↔ ∃ a, x = Except.ok a ∧ y = f a := by
  cases x with
  | error e => simp
  | ok a => simp [eq_comm]

theorem R.map_ok_iff {α β : Type} {f : α → β} {x : R α} :
    (∃ y, f <$> x = Except.ok y) ↔ ∃ a, x = Except.ok a := by
  cases x <;> simp

theorem R.bind_eq_ok {α β : Type} {x : R α} {f : α → R β} {y : β} :
    (x >>= f) = Except.ok y ↔ ∃ a, x = Except.ok a ∧ f a = Except.ok y := by
  cases x with
  | error e => simp [bind, Except.bind]
  | ok a => simp [bind, Except.bind]

/-! ### one step of a read or a write -/

@[simp] theorem getNode_leaf_cons (x : Root) (b : Bool) (bs : List Bool) :
    getNode (.leaf x) (b :: bs) = .error .nav := rfl
@[simp] theorem getNode_pair_cons (l r : Node) (b : Bool) (bs : List Bool) :
    getNode (.pair l r) (b :: bs) = if b then getNode r bs else getNode l bs := rfl

@[simp] theorem setNode_pair_cons (h : HashFn) (l r : Node) (b : Bool) (bs : List Bool) (e : Bool) (v : Node) :
    setNode h (.pair l r) (b :: bs) e v =
      if b then (fun r' => Node.pair l r') <$> setNode h r bs e v
      else (fun l' => Node.pair l' r) <$> setNode h l bs e v := rfl
theorem setNode_leaf_cons (h : HashFn) (x : Root) (b : Bool) (bs : List Bool) (e : Bool) (v : Node) :
    setNode h (.leaf x) (b :: bs) e v =
      if e && x == zh h (bs.length + 1) then
        (if b then (fun r' => Node.pair (zeroNode h bs.length) r') <$> setNode h (zeroNode h bs.length) bs e v
         else (fun l' => Node.pair l' (zeroNode h bs.length)) <$> setNode h (zeroNode h bs.length) bs e v)
      else .error .nav := rfl
@[simp] theorem setNode_leaf_cons_false (h : HashFn) (x : Root) (b : Bool) (bs : List Bool) (v : Node) :
    setNode h (.leaf x) (b :: bs) false v = .error .nav := by
  simp [setNode_leaf_cons]

-- The same steps with the direction inside the term, so that proofs need not split on `b`.
theorem getNode_pair_cons' (l r : Node) (b : Bool) (bs : List Bool) :
    getNode (.pair l r) (b :: bs) = getNode (if b then r else l) bs := by cases b <;> rfl

theorem setNode_pair_cons' (h : HashFn) (l r : Node) (b : Bool) (bs : List Bool) (e : Bool) (v : Node) :
    setNode h (.pair l r) (b :: bs) e v =
      (fun c => if b then Node.pair l c else Node.pair c r) <$> setNode h (if b then r else l) bs e v := by
  cases b <;> rfl

theorem getNode_rebuilt (l r c : Node) (b : Bool) (q : List Bool) :
    getNode (if b then Node.pair l c else Node.pair c r) (b :: q) = getNode c q := by cases b <;> rfl

theorem setNode_leaf_expand (h : HashFn) (x : Root) (b : Bool) (bs : List Bool) (e : Bool) (v : Node)
    (hc : (e && x == zh h (bs.length + 1)) = true) :
    setNode h (.leaf x) (b :: bs) e v =
      setNode h (.pair (zeroNode h bs.length) (zeroNode h bs.length)) (b :: bs) e v := by
  rw [setNode_leaf_cons, if_pos hc]; cases b <;> rfl

theorem setNode_cons_cases (h : HashFn) (n : Node) (b : Bool) (bs : List Bool) (e : Bool) :
    (∀ v, setNode h n (b :: bs) e v = .error .nav) ∨
    ∃ l r, (n = .pair l r ∨
        e = true ∧ n = zeroNode h (bs.length + 1) ∧ l = zeroNode h bs.length ∧ r = zeroNode h bs.length) ∧
      ∀ v, setNode h n (b :: bs) e v =
        (fun c => if b then Node.pair l c else Node.pair c r) <$> setNode h (if b then r else l) bs e v := by
  cases n with
  | pair l r => exact .inr ⟨l, r, .inl rfl, setNode_pair_cons' h l r b bs e⟩
  | leaf x =>
    by_cases hc : (e && x == zh h (bs.length + 1)) = true
    · have hc' := hc
      rw [Bool.and_eq_true] at hc'
      exact .inr ⟨_, _, .inr ⟨hc'.1, congrArg Node.leaf (eq_of_beq hc'.2), rfl, rfl⟩, fun v =>
        (setNode_leaf_expand h x b bs e v hc).trans (setNode_pair_cons' h _ _ b bs e v)⟩
    · exact .inl fun v => by rw [setNode_leaf_cons, if_neg hc]

/-! ### composition of paths -/

/-- `e'` is free: nothing is missing on `q`, so the write-back expands nothing. -/
theorem setNode_append_of_get (h : HashFn) (n : Node) (q r : List Bool) (e e' : Bool) (v s : Node) :
    getNode n q = .ok s →
    setNode h n (q ++ r) e v = (setNode h s r e v >>= fun s' => setNode h n q e' s') := by
  induction q generalizing n with
  | nil =>
    intro hg
    rw [getNode_nil] at hg; cases hg
    rw [List.nil_append]
    cases setNode h s r e v with
    | error er => rfl
    | ok s' => exact (setNode_nil h s e' s').symm
  | cons a q ih =>
    intro hg
    cases n with
    | leaf x => cases hg
    | pair l rr =>
      rw [getNode_pair_cons'] at hg
      rw [List.cons_append, setNode_pair_cons', ih _ hg]
      cases setNode h s r e v with
      | error er => rfl
      | ok s' => exact (setNode_pair_cons' h l rr a q e' s').symm

/-! ### the outcome of a write -/

/-- This is why Go's two-stage `Setter` + `Link` can be modelled as the one function `setNode`. -/
theorem setNode_cases (h : HashFn) (n : Node) (p : List Bool) (e : Bool) :
    (∀ v, setNode h n p e v = .error .nav) ∨
    ∃ k : Node → Node, ∀ v, setNode h n p e v = .ok (k v) ∧ getNode (k v) p = .ok v := by
  induction p generalizing n with
  | nil => exact .inr ⟨id, fun v => ⟨setNode_nil h n e v, getNode_nil v⟩⟩
  | cons b bs ih =>
    rcases setNode_cons_cases h n b bs e with hn | ⟨l, r, _, hlr⟩
    · exact .inl hn
    · rcases ih (if b then r else l) with hn | ⟨k, hk⟩
      · exact .inl fun v => by rw [hlr, hn]; rfl
      · exact .inr ⟨fun v => if b then .pair l (k v) else .pair (k v) r, fun v =>
          ⟨by rw [hlr, (hk v).1]; rfl, by rw [getNode_rebuilt]; exact (hk v).2⟩⟩

theorem getNode_setNode (h : HashFn) (n : Node) (p : List Bool) (e : Bool) (v n' : Node) :
    setNode h n p e v = .ok n' → getNode n' p = .ok v := by
  intro hs
  rcases setNode_cases h n p e with hn | ⟨k, hk⟩
  · rw [hn] at hs; cases hs
  · rw [(hk v).1] at hs; cases hs; exact (hk v).2

theorem setNode_error_nav (h : HashFn) (n : Node) (p : List Bool) (e : Bool) (v : Node) (er : Err) :
    setNode h n p e v = .error er → er = .nav := by
  intro hs
  rcases setNode_cases h n p e with hn | ⟨k, hk⟩
  · rw [hn] at hs; cases hs; rfl
  · rw [(hk v).1] at hs; cases hs

theorem setNode_error_indep (h : HashFn) (n : Node) (p : List Bool) (e : Bool) (v w : Node) (er : Err) :
    setNode h n p e v = .error er → setNode h n p e w = .error er := by
  intro hs
  rcases setNode_cases h n p e with hn | ⟨k, hk⟩
  · rw [hn] at hs ⊢; exact hs
  · rw [(hk v).1] at hs; cases hs

theorem getNode_error_nav (n : Node) (p : List Bool) (er : Err) :
    getNode n p = .error er → er = .nav := by
  induction p generalizing n with
  | nil => intro hs; rw [getNode_nil] at hs; cases hs
  | cons b bs ih =>
    cases n with
    | leaf x => intro hs; cases hs; rfl
    | pair l r => rw [getNode_pair_cons']; exact ih _

theorem setNode_false_ok_iff_get (h : HashFn) (n : Node) (p : List Bool) (v : Node) :
    (∃ n', setNode h n p false v = .ok n') ↔ (∃ s, getNode n p = .ok s) := by
  induction p generalizing n with
  | nil => exact ⟨fun _ => ⟨n, getNode_nil n⟩, fun _ => ⟨v, setNode_nil h n false v⟩⟩
  | cons b bs ih =>
    cases n with
    | leaf x => exact ⟨fun ⟨_, hs⟩ => (nomatch hs), fun ⟨_, hg⟩ => (nomatch hg)⟩
    | pair l r => rw [setNode_pair_cons', getNode_pair_cons', R.map_ok_iff]; exact ih _

theorem setNode_flag_of_get (h : HashFn) {n s : Node} {q : List Bool} (hg : getNode n q = .ok s)
    (e e' : Bool) (v : Node) : setNode h n q e v = setNode h n q e' v := by
  have := setNode_append_of_get h n q [] e e' v s hg
  rwa [List.append_nil, setNode_nil] at this

theorem setNode_ok_of_get (h : HashFn) {n s : Node} {q : List Bool} (hg : getNode n q = .ok s)
    (e : Bool) (v : Node) : ∃ n', setNode h n q e v = .ok n' := by
  rw [setNode_flag_of_get h hg e false]
  exact (setNode_false_ok_iff_get h n q v).2 ⟨s, hg⟩

theorem setNode_append_ok_iff (h : HashFn) {n s : Node} {q : List Bool} (hg : getNode n q = .ok s)
    (r : List Bool) (e : Bool) (v : Node) :
    (∃ n', setNode h n (q ++ r) e v = .ok n') ↔ ∃ s', setNode h s r e v = .ok s' := by
  rw [setNode_append_of_get h n q r e false v s hg]
  constructor
  · rintro ⟨n', hn⟩
    obtain ⟨s', hs', _⟩ := R.bind_eq_ok.1 hn
    exact ⟨s', hs'⟩
  · rintro ⟨s', hs'⟩
    rw [hs']
    exact setNode_ok_of_get h hg false s'

theorem diverge_of_not_prefix (p q : List Bool) (h1 : ¬ p <+: q) (h2 : ¬ q <+: p) :
    ∃ c b p' q', p = c ++ b :: p' ∧ q = c ++ (!b) :: q' := by
  induction p generalizing q with
  | nil => exact absurd List.nil_prefix h1
  | cons a p ih =>
    cases q with
    | nil => exact absurd List.nil_prefix h2
    | cons a' q =>
      by_cases haa : a' = a
      · subst haa
        obtain ⟨c, b, p', q', rfl, rfl⟩ := ih q
          (fun hp => h1 (List.cons_prefix_cons.2 ⟨rfl, hp⟩)) (fun hp => h2 (List.cons_prefix_cons.2 ⟨rfl, hp⟩))
        exact ⟨a' :: c, b, p', q', rfl, rfl⟩
      · exact ⟨[], a, p, q, rfl, congrArg (· :: q) (Bool.eq_not_of_ne haa)⟩

theorem setNode_root_same (h : HashFn) (n : Node) (p : List Bool) (v n' s : Node) :
    setNode h n p false v = .ok n' → getNode n p = .ok s → v.root h = s.root h →
    n'.root h = n.root h := by
  induction p generalizing n n' with
  | nil => intro hs hg hr; rw [setNode_nil] at hs; rw [getNode_nil] at hg; cases hs; cases hg; exact hr
  | cons b bs ih =>
    intro hs hg hr
    cases n with
    | leaf x => cases hg
    | pair l r =>
      rw [setNode_pair_cons', R.map_eq_ok] at hs
      obtain ⟨a, ha, rfl⟩ := hs
      rw [getNode_pair_cons'] at hg
      have := ih _ _ ha hg hr
      cases b <;> simp only [Node.root, this, if_true, if_false, Bool.false_eq_true]

/-! ### summarising -/

theorem summarizeInto_of_get (h : HashFn) {n s : Node} {p : List Bool} (hg : getNode n p = .ok s) :
    summarizeInto h n p = setNode h n p false (.leaf (s.root h)) := by
  obtain ⟨t, ht⟩ := (setNode_false_ok_iff_get h n p n).2 ⟨s, hg⟩
  rw [summarizeInto, ht, hg]; rfl

theorem summarizeInto_of_get_error (h : HashFn) {n : Node} {p : List Bool} {er : Err}
    (hg : getNode n p = .error er) : summarizeInto h n p = .error .nav := by
  cases hs : setNode h n p false n with
  | error er' => cases setNode_error_nav h n p false n er' hs; rw [summarizeInto, hs]; rfl
  | ok t =>
    obtain ⟨s, hs'⟩ := (setNode_false_ok_iff_get h n p n).1 ⟨t, hs⟩
    rw [hg] at hs'; cases hs'

theorem summarizeInto_eq (h : HashFn) (n : Node) (p : List Bool) (n' : Node) :
    summarizeInto h n p = .ok n' ↔
      ∃ s, getNode n p = .ok s ∧ setNode h n p false (.leaf (s.root h)) = .ok n' := by
  cases hg : getNode n p with
  | ok s =>
    rw [summarizeInto_of_get h hg]
    exact ⟨fun hs => ⟨s, rfl, hs⟩, fun ⟨_, hs', hs⟩ => by cases hs'; exact hs⟩
  | error er =>
    rw [summarizeInto_of_get_error h hg]
    exact ⟨fun hs => (nomatch hs), fun ⟨_, hs', _⟩ => (nomatch hs')⟩

/-! ### expansion and materialisation -/

/-- the path can be written with expansion: every leaf met before the end of the path is the
    zero summary of exactly the remaining height -/
def ZeroShaped (h : HashFn) : Node → List Bool → Prop
  | _, [] => True
  | .pair l r, b :: bs => if b then ZeroShaped h r bs else ZeroShaped h l bs
  | .leaf x, _ :: bs => x = zh h (bs.length + 1)

/-- replace every zero summary (of the right height) met on the path by the pair of zero
    summaries one level below, down to the target depth; other leaves are left alone -/
def materialise (h : HashFn) : Node → List Bool → Node
  | n, [] => n
  | .pair l r, b :: bs => if b then .pair l (materialise h r bs) else .pair (materialise h l bs) r
  | .leaf x, b :: bs =>
    if x == zh h (bs.length + 1) then
      (if b then .pair (zeroNode h bs.length) (materialise h (zeroNode h bs.length) bs)
       else .pair (materialise h (zeroNode h bs.length) bs) (zeroNode h bs.length))
    else .leaf x

/-- the complete tree of `2^k` zero chunks -/
def fullZero (h : HashFn) (k : Nat) : Node := fillToDepth (zeroNode h 0) k

/-- replace the zero summary (of the right height) met on the path by the fully materialised
    zero subtree -/
def materialiseFull (h : HashFn) : Node → List Bool → Node
  | n, [] => n
  | .pair l r, b :: bs => if b then .pair l (materialiseFull h r bs) else .pair (materialiseFull h l bs) r
  | .leaf x, _ :: bs => if x == zh h (bs.length + 1) then fullZero h (bs.length + 1) else .leaf x

theorem fullZero_root (h : HashFn) (k : Nat) : (fullZero h k).root h = zh h k := by
  induction k with
  | zero => rfl
  | succ k ih => show h ((fullZero h k).root h) ((fullZero h k).root h) = _; rw [ih]; rfl

theorem materialise_root (h : HashFn) (n : Node) (p : List Bool) :
    (materialise h n p).root h = n.root h := by
  induction p generalizing n with
  | nil => cases n <;> rfl
  | cons b bs ih =>
    have pair : ∀ l r, (materialise h (.pair l r) (b :: bs)).root h = (Node.pair l r).root h := fun l r => by
      cases b <;> simp only [materialise, Node.root, ih, if_true, if_false, Bool.false_eq_true]
    cases n with
    | pair l r => exact pair l r
    | leaf x =>
      have hm : materialise h (.leaf x) (b :: bs) =
          if (x == zh h (bs.length + 1)) = true then
            materialise h (.pair (zeroNode h bs.length) (zeroNode h bs.length)) (b :: bs)
          else .leaf x := rfl
      by_cases hx : (x == zh h (bs.length + 1)) = true
      · rw [hm, if_pos hx, pair, eq_of_beq hx]; rfl
      · rw [hm, if_neg hx]

theorem materialiseFull_root (h : HashFn) (n : Node) (p : List Bool) :
    (materialiseFull h n p).root h = n.root h := by
  induction p generalizing n with
  | nil => cases n <;> rfl
  | cons b bs ih =>
    cases n with
    | pair l r => cases b <;> simp only [materialiseFull, Node.root, ih, if_true, if_false, Bool.false_eq_true]
    | leaf x =>
      by_cases hx : (x == zh h (bs.length + 1)) = true
      · cases eq_of_beq hx
        simp only [materialiseFull, if_pos hx, fullZero_root]; rfl
      · simp only [materialiseFull, if_neg hx]

theorem root_setNode_pair (h : HashFn) (l r : Node) (b : Bool) (bs : List Bool) (e : Bool) (v : Node) :
    Node.root h <$> setNode h (.pair l r) (b :: bs) e v =
      (fun x => if b then h (l.root h) x else h x (r.root h)) <$>
        (Node.root h <$> setNode h (if b then r else l) bs e v) := by
  rw [setNode_pair_cons']
  cases setNode h (if b then r else l) bs e v with
  | error er => rfl
  | ok c => cases b <;> rfl

theorem setNode_fullZero_root (h : HashFn) (p : List Bool) (v : Node) :
    (Node.root h) <$> setNode h (fullZero h p.length) p false v
      = (Node.root h) <$> setNode h (zeroNode h p.length) p true v := by
  induction p with
  | nil => rw [setNode_nil, setNode_nil]
  | cons b bs ih =>
    have hz := setNode_leaf_expand h (zh h (bs.length + 1)) b bs true v (beq_self_eq_true _)
    have hf : fullZero h (bs.length + 1) = .pair (fullZero h bs.length) (fullZero h bs.length) := rfl
    rw [List.length_cons, zeroNode, hz, hf, root_setNode_pair, root_setNode_pair]
    simp only [ite_self, ih, zeroNode_root, fullZero_root]

/-! ### generalized indices as paths -/

theorem gbits_length (g : Nat) : (gbits g).length = Nat.log2 g := by simp [gbits]

theorem gbits_one : gbits 1 = [] := by decide

theorem range_succ_reverse_map (k : Nat) (f : Nat → Bool) :
    (List.range (k + 1)).reverse.map f = (List.range k).reverse.map (fun i => f (i + 1)) ++ [f 0] := by
  rw [List.range_succ_eq_map]
  simp [List.map_reverse, Function.comp_def]

theorem gbits_eq (g : Nat) (hg : 2 ≤ g) : gbits g = gbits (g / 2) ++ [g.testBit 0] := by
  unfold gbits
  rw [Nat.log2_def g, if_pos hg, range_succ_reverse_map]
  simp only [Nat.testBit_succ]

theorem gbits_step (g : Nat) (hg : 0 < g) (b : Bool) : gbits (2 * g + b.toNat) = gbits g ++ [b] := by
  have hdiv : (2 * g + b.toNat) / 2 = g := by rw [Nat.mul_add_div Nat.two_pos]; cases b <;> rfl
  have hmod : (2 * g + b.toNat) % 2 = b.toNat := by rw [Nat.mul_add_mod]; cases b <;> rfl
  rw [gbits_eq _ (Nat.le_trans (Nat.mul_le_mul_left 2 hg) (Nat.le_add_right _ _)), hdiv,
    Nat.testBit_zero, hmod]
  cases b <;> rfl

theorem gindexOfPath_append (p : List Bool) (b : Bool) : gindexOfPath (p ++ [b]) = 2 * gindexOfPath p + b.toNat := by
  simp [gindexOfPath, List.foldl_append]

theorem step_pos {a : Nat} (ha : 0 < a) (b : Bool) : 0 < 2 * a + b.toNat :=
  Nat.lt_of_lt_of_le (Nat.mul_pos Nat.two_pos ha) (Nat.le_add_right _ _)

theorem gindexOfPath_pos (p : List Bool) : 0 < gindexOfPath p := by
  suffices ∀ a, 0 < a → 0 < p.foldl (fun a b => 2 * a + b.toNat) a from this 1 Nat.one_pos
  induction p with
  | nil => exact fun a ha => ha
  | cons b bs ih => exact fun a ha => ih _ (step_pos ha b)

theorem gbits_foldl (p : List Bool) (a : Nat) (ha : 0 < a) :
    gbits (p.foldl (fun a b => 2 * a + b.toNat) a) = gbits a ++ p := by
  induction p generalizing a with
  | nil => exact (List.append_nil _).symm
  | cons b bs ih =>
    rw [List.foldl_cons, ih _ (step_pos ha b), gbits_step a ha b, List.append_assoc]; rfl

theorem gbits_gindexOfPath (p : List Bool) : gbits (gindexOfPath p) = p := by
  unfold gindexOfPath; rw [gbits_foldl p 1 Nat.one_pos, gbits_one]; rfl

theorem gindexOfPath_gbits (g : Nat) (hg : 0 < g) : gindexOfPath (gbits g) = g := by
  induction g using Nat.strongRecOn with
  | ind g ih =>
    by_cases h1 : g = 1
    · subst h1; rfl
    · have h2 : 2 ≤ g := Nat.lt_of_le_of_ne hg (Ne.symm h1)
      have hbit : (decide (g % 2 = 1)).toNat = g % 2 := by
        rcases Nat.mod_two_eq_zero_or_one g with hm | hm <;> rw [hm] <;> rfl
      rw [gbits_eq g h2, gindexOfPath_append, ih (g / 2) (Nat.div_lt_self hg Nat.one_lt_two)
        (Nat.div_pos h2 Nat.two_pos), Nat.testBit_zero, hbit]
      exact Nat.div_add_mod g 2

theorem toPath_ok {i d : Nat} {p : List Bool} (hp : toPath i d = .ok p) :
    d < 64 ∧ i < 2 ^ d ∧ p = (List.range d).reverse.map fun k => i.testBit k := by
  by_cases hd : d ≥ 64
  · rw [toPath, if_pos hd] at hp; cases hp
  by_cases hi : i ≥ 2 ^ d
  · rw [toPath, if_neg hd, if_pos hi] at hp; cases hp
  rw [toPath, if_neg hd, if_neg hi] at hp; cases hp
  exact ⟨Nat.not_le.1 hd, Nat.not_le.1 hi, rfl⟩

theorem toPath_eq_gbits {i d : Nat} {p : List Bool} (hp : toPath i d = .ok p) : p = gbits (2 ^ d + i) := by
  obtain ⟨_, hi, rfl⟩ := toPath_ok hp
  have hlog : Nat.log2 (2 ^ d + i) = d := by
    rw [Nat.log2_eq_iff (Nat.ne_of_gt (Nat.lt_of_lt_of_le (Nat.two_pow_pos d) (Nat.le_add_right _ _))),
      Nat.pow_succ, Nat.mul_two]
    exact ⟨Nat.le_add_right _ _, Nat.add_lt_add_left hi _⟩
  unfold gbits
  rw [hlog]
  exact List.map_congr_left fun k hk =>
    (Nat.testBit_two_pow_add_gt (List.mem_range.1 (List.mem_reverse.1 hk)) i).symm

end ZtypV.TreeNav
