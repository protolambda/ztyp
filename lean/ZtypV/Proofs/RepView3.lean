/-
`Serialize` and `ValueByteLength` on any `Rep` backing give the spec encoding / its length
(`rep_ser`, `rep_len`).
-/
import ZtypV.Proofs.RepView2
namespace ZtypV
open View RepMut

/-- `SubtreeIntoBytes` over a subtree whose bottom nodes are the chunks of `bs` -/
theorem subtreeIntoBytes_shape {h : HashFn} {d : Nat} {bs : Bytes} {n : Node}
    (hs : SeqShape h d n (packedNodes bs)) (hd : d < 64) (count L : Nat)
    (hc : count = (bs.length + 31) / 32) :
    subtreeIntoBytes n d count L = .ok ((chunks bs).flatten.take L) := by
  unfold subtreeIntoBytes
  have hm : (List.range count).mapM (fun i => do
      let c ← subtreeGet n d i
      asLeaf c) = .ok (chunks bs) := by
    apply mapM_range_ok' _ _ _ (by simp [hc])
    intro i hi
    have hi' : i < (packedNodes bs).length := by rw [packedNodes_length]; simpa using hi
    rw [shape_get h hs hi' hd, packedNodes_getElem, R.bind_ok, asLeaf_leaf, chunks_getElem]
  rw [hm]; rfl

/-! ### `Serialize` -/

theorem sizeOk_elem {t e : Ty} {vs : List Val} (hfree : offsetFree t = true → offsetFree e = true)
    (hge : (serList e vs).flatten.length ≤ (serialize t (.seq vs)).length)
    (hs : SizeOk t (.seq vs)) (i : Nat) (hi : i < vs.length) : SizeOk e vs[i] :=
  hs.elim (fun hf => Or.inl (hfree hf)) (fun hlt =>
    Or.inr (Nat.lt_of_le_of_lt (Nat.le_trans (elem_ser_le e vs i hi) hge) hlt))

theorem repSer_elems (h : HashFn) (e : Ty) (vs : List Val) (xs : List Node) (get : Nat → R Node)
    (ih : ∀ v ∈ vs, ∀ n, inRange e = true → SizeOk e v → Rep h e v n →
      serializeView e n = .ok (serialize e v))
    (hre : inRange e = true) (hsz : ∀ i (hi : i < vs.length), SizeOk e vs[i])
    (hrl : RepList h e vs xs) (hget : ∀ i (hi : i < xs.length), get i = .ok xs[i]) :
    (List.range vs.length).mapM (fun i => do let c ← get i; serializeView e c)
      = .ok (serList e vs) := by
  have hl := repList_length _ _ _ _ hrl
  have := elems_get get (serializeView e) xs (serList e vs) (by simp [hl]) hget (by
    intro i h1 h2
    have hi : i < vs.length := by omega
    rw [serList_getElem e vs i hi]
    exact ih vs[i] (List.getElem_mem hi) xs[i] hre (hsz i hi) (repList_get _ _ _ _ hrl i hi h1))
  rwa [serList_length] at this

/-- a complex series is written as the concatenated parts, with offsets in front of them when
    the elements are of variable size -/
theorem series_parts_ok {e : Ty} {t : Ty} {vs : List Val}
    (hser : serialize t (.seq vs)
      = if e.isFixed then (serList e vs).flatten else serVarParts (serList e vs))
    (hfree : offsetFree t = true → e.isFixed = true) (hs : SizeOk t (.seq vs)) :
    (if e.isFixed then (.ok (serList e vs).flatten : R Bytes) else serVarSeries (serList e vs))
      = .ok (serialize t (.seq vs)) := by
  rw [hser]
  cases hfx : e.isFixed
  · rcases hs with hs | hs
    · rw [hfree hs] at hfx; cases hfx
    · rw [hser, hfx] at hs
      exact serVarSeries_ok _ hs
  · rfl

theorem repSer_all (h : HashFn) : ∀ t v, t.wf = true → hasType t v = true →
    ∀ n, inRange t = true → SizeOk t v → Rep h t v n →
      serializeView t n = .ok (serialize t v) := by
  refine typed_induct ?uint ?bool ?bytesN ?bitvector ?bitlist ?vector ?list ?container
    ?unionNone ?unionSome
  case uint =>
    intro b k hb _ n _ _ hrep
    simp only [Rep] at hrep
    subst hrep
    have := chunkOf_take_self (leBytes b k) (by simp; omega)
    rw [leBytes_length] at this
    simp only [serializeView, asLeaf_leaf, R.bind_ok, this, serialize]
  case bool =>
    intro b n _ _ hrep
    simp only [Rep] at hrep
    subst hrep
    simp only [serializeView, asLeaf_leaf, R.bind_ok, chunkOf_single_getD, serialize]
    cases b <;> simp
  case bytesN =>
    intro k bs _ hk ht n _ _ hrep
    simp only [Rep] at hrep
    subst hrep
    have := chunkOf_take_self bs (by omega)
    rw [ht] at this
    simp only [serializeView, asLeaf_leaf, R.bind_ok, serialize, this]
  case bitvector =>
    intro k bs ht n hr _ hrep
    simp only [inRange, decide_eq_true_eq] at hr
    simp only [Rep] at hrep
    simp only [serializeView, serialize]
    rw [subtreeIntoBytes_shape hrep.2 hr _ _ (by rw [packBits_length, hrep.1, bits_chunks])]
    have : (k + 7) / 8 = (packBits bs).length := by rw [packBits_length, ht]
    rw [this, chunks_flatten_take]
  case bitlist =>
    intro lim bs ht n hr _ hrep
    simp only [inRange, Bool.and_eq_true, decide_eq_true_eq] at hr
    simp only [Rep] at hrep
    obtain ⟨_, c, hn, hs⟩ := hrep
    subst hn
    simp only [serializeView, serialize]
    rw [getNode_pair_false, getNode_nil, R.bind_ok, listLength_pair c _ lim ht hr.1, R.bind_ok,
      subtreeIntoBytes_shape hs (by omega) _ _ (by rw [packBits_length, bits_chunks]), R.bind_ok]
    -- the view copies the chunks into `(len + 8) / 8` zeroed bytes and ORs the delimiter bit into
    -- the last one; `packBits_delimiter`: that is the packing of `bs ++ [true]`
    have hpad := chunks_take_pad (packBits bs) ((bs.length + 8) / 8) (by rw [packBits_length]; omega)
    rw [packBits_length] at hpad
    obtain ⟨last, hl1, hl2⟩ := packBits_delimiter bs _ hpad
    simp only [hl1, hl2]
  case vector =>
    intro e k vs _ hwe hlen hall ih n hr hs hrep
    simp only [inRange, Bool.and_eq_true, decide_eq_true_eq] at hr
    cases hb : isBasicElem e
    · simp only [Rep, hb, Bool.false_eq_true, if_false] at hrep
      obtain ⟨_, xs, hrl, hsh⟩ := hrep
      have hd : coverDepth k < 64 := by rw [← seriesDepth_complex hb k]; exact hr.1
      have hm := repSer_elems h e vs xs (subtreeGet n (coverDepth k)) ih hr.2
        (sizeOk_elem (fun hf => by simp only [offsetFree, Bool.and_eq_true] at hf; exact hf.2)
          (vector_ser_ge e k vs) hs) hrl (fun i hi => shape_get h hsh hi hd)
      rw [hlen] at hm
      simp only [serializeView, hb, Bool.false_eq_true, if_false, hm, R.bind_ok]
      exact series_parts_ok (by simp only [serialize])
        (fun hf => by simp only [offsetFree, Bool.and_eq_true] at hf; exact hf.1) hs
    · obtain ⟨b, rfl⟩ := isBasicElem_uint hb
      simp only [Rep, isBasicElem, if_true] at hrep
      have hfl := basic_flatten_length b vs hall
      simp only [serializeView, isBasicElem, if_true, Ty.fixedSize, serialize, Ty.isFixed]
      rw [subtreeIntoBytes_shape hrep.2 hr.1 _ _
        (by rw [View.bottomNodes_eq b k (wf_uint hwe), hfl, hlen])]
      rw [← hlen, ← hfl, chunks_flatten_take]
  case list =>
    intro e lim vs hwe hlen hall ih n hr hs hrep
    simp only [inRange, Bool.and_eq_true, decide_eq_true_eq] at hr
    cases hb : isBasicElem e
    · simp only [Rep, hb, Bool.false_eq_true, if_false] at hrep
      obtain ⟨_, xs, hrl, c, hn, hsh⟩ := hrep
      subst hn
      have hd : coverDepth lim < 64 := by rw [← seriesDepth_complex hb lim]; omega
      have hm := repSer_elems h e vs xs (subtreeGet c (coverDepth lim)) ih hr.2
        (sizeOk_elem (fun hf => by simp only [offsetFree, Bool.and_eq_true] at hf; exact hf.2)
          (list_ser_ge e lim vs) hs) hrl (fun i hi => shape_get h hsh hi hd)
      simp only [serializeView, hb, Bool.false_eq_true, if_false]
      rw [listLength_pair c _ lim hlen hr.1.1, R.bind_ok, getNode_pair_false, getNode_nil, R.bind_ok,
        hm, R.bind_ok]
      exact series_parts_ok (by simp only [serialize])
        (fun hf => by simp only [offsetFree, Bool.and_eq_true] at hf; exact hf.1) hs
    · obtain ⟨b, rfl⟩ := isBasicElem_uint hb
      simp only [Rep, isBasicElem, if_true] at hrep
      obtain ⟨_, c, hn, hsh⟩ := hrep
      subst hn
      have hfl := basic_flatten_length b vs hall
      simp only [serializeView, isBasicElem, if_true, Ty.fixedSize, serialize, Ty.isFixed]
      rw [getNode_pair_false, getNode_nil, R.bind_ok, listLength_pair c _ lim hlen hr.1.1, R.bind_ok]
      have hbn := View.bottomNodes_eq b vs.length (wf_uint hwe)
      unfold bottomNodes at hbn
      rw [subtreeIntoBytes_shape hsh (by omega) _ _ (by rw [hbn, hfl])]
      rw [← hfl, chunks_flatten_take]
  case container =>
    intro fs vs _ hlen ht ih n hr hs hrep
    simp only [inRange, Bool.and_eq_true, decide_eq_true_eq] at hr
    simp only [SizeOk, serialize, offsetFree, Bool.and_eq_true] at hs
    simp only [serialize]
    simp only [Rep] at hrep
    obtain ⟨xs, hrf, hsh⟩ := hrep
    have hl := (repFields_length _ _ _ _ hrf).2
    have hparts : serFieldsView fs n (coverDepth fs.length) 0 = .ok (serFields fs vs) := by
      apply serFieldsView_ok n _ fs vs 0 hlen
      intro j h1 h2
      have h3 : j < xs.length := by omega
      refine ⟨xs[j], ?_, ?_⟩
      · rw [Nat.zero_add]; exact shape_get h hsh h3 hr.1
      · refine ih j h1 h2 xs[j] (inRangeAll_get fs j _ hr.2 (List.getElem?_eq_getElem h1)) ?_
          (repFields_get _ _ _ _ hrf j h1 h2 h3)
        rcases hs with hs | hs
        · exact Or.inl (offsetFreeAll_get fs j _ hs.2 (List.getElem?_eq_getElem h1))
        · have := field_ser_le fs vs j h1 h2
          exact Or.inr (by omega)
    simp only [serializeView, hparts, R.bind_ok]
    have hfp := (fixedPartLen_serFields fs vs (fun v _ t => serialize_fixed_length v t) ht).symm
    rcases hs with hs | hs
    · exact serContainer_ok_fixed _ _ hfp (serFields_allFixed fs vs hs.1)
    · exact serContainer_ok _ _ hfp hs
  case unionNone =>
    intro opts n _ _ hrep
    obtain ⟨_, _, hn⟩ := rep_union_none.mp hrep
    subst hn
    have ho : unionOpt true opts 0 = none := by simp [unionOpt]
    rw [serializeView_union true opts _ (by omega)]
    simp [serialize, ho]
  case unionSome =>
    intro hasNone opts sel v t ho hvn hsl _ _ ih n hr hs hrep
    simp only [inRange] at hr
    obtain ⟨hlt, hnz, hget⟩ := unionOpt_some ho
    simp only [SizeOk, offsetFree, serialize, ho, List.length_cons] at hs
    obtain ⟨c, hrc, hn⟩ := (rep_union_some ho hvn).mp hrep
    subst hn
    have hrec := ih c (inRangeAll_get opts _ t hr hget)
      (hs.elim (fun hf => Or.inl (offsetFreeAll_get opts _ t hf hget)) (fun hl => Or.inr (by omega)))
      hrc
    rw [serializeView_union hasNone opts c hsl, if_neg (by omega)]
    simp only [hnz, Bool.false_eq_true, if_false, serOptView_get opts _ t c hget, hrec, R.bind_ok,
      serialize, ho]

/-- C02, `Serialize`: on any `Rep` backing it gives the spec encoding (`SizeOk`: the type writes
    no offsets, or the encoding fits `uint32`) -/
theorem rep_ser_sizeOk (h : HashFn) {t : Ty} {v : Val} {n : Node} (hwf : t.wf = true)
    (hr : inRange t = true) (hty : hasType t v = true) (hs : SizeOk t v) (hrep : Rep h t v n) :
    serializeView t n = .ok (serialize t v) :=
  repSer_all h t v hwf hty n hr hs hrep

theorem rep_ser (h : HashFn) {t : Ty} {v : Val} {n : Node} (hwf : t.wf = true)
    (hr : inRange t = true) (hty : hasType t v = true) (hlen : (serialize t v).length < 2 ^ 32)
    (hrep : Rep h t v n) : serializeView t n = .ok (serialize t v) :=
  rep_ser_sizeOk h hwf hr hty (Or.inr hlen) hrep

/-! ### `ValueByteLength` -/

theorem repLen_elems (h : HashFn) (e : Ty) (vs : List Val) (xs : List Node) (get : Nat → R Node)
    (ih : ∀ v ∈ vs, ∀ n, inRange e = true → Rep h e v n →
      valueByteLength e n = .ok (serialize e v).length)
    (hre : inRange e = true) (hrl : RepList h e vs xs)
    (hget : ∀ i (hi : i < xs.length), get i = .ok xs[i]) :
    (List.range vs.length).mapM (fun i => do let c ← get i; valueByteLength e c)
      = .ok ((serList e vs).map List.length) := by
  have hl := repList_length _ _ _ _ hrl
  have := elems_get get (valueByteLength e) xs ((serList e vs).map List.length) (by simp [hl])
    hget (by
      intro i h1 h2
      have hi : i < vs.length := by omega
      rw [List.getElem_map, serList_getElem e vs i hi]
      exact ih vs[i] (List.getElem_mem hi) xs[i] hre (repList_get _ _ _ _ hrl i hi h1))
  rwa [List.length_map, serList_length] at this

theorem rep_list_pair {h : HashFn} {e : Ty} {lim : Nat} {vs : List Val} {n : Node}
    (hrep : Rep h (.list e lim) (.seq vs) n) : ∃ c, n = .pair c (lengthNode vs.length) := by
  simp only [Rep] at hrep
  obtain ⟨_, hrep⟩ := hrep
  split at hrep
  · obtain ⟨c, hn, _⟩ := hrep; exact ⟨c, hn⟩
  · obtain ⟨_, _, c, hn, _⟩ := hrep; exact ⟨c, hn⟩

theorem repLen_all (h : HashFn) : ∀ t v, t.wf = true → hasType t v = true →
    ∀ n, inRange t = true → Rep h t v n → valueByteLength t n = .ok (serialize t v).length := by
  refine typed_induct ?uint ?bool ?bytesN ?bitvector ?bitlist ?vector ?list ?container
    ?unionNone ?unionSome
  case uint => intro b k _ _ n _ _; simp only [valueByteLength, serialize, leBytes_length]
  case bool => intro b n _ _; simp only [valueByteLength, serialize, List.length_singleton]
  case bytesN => intro k bs _ _ ht n _ _; simp only [valueByteLength, serialize, ht]
  case bitvector =>
    intro k bs ht n _ _
    simp only [valueByteLength, serialize, packBits_length, ht]
  case bitlist =>
    intro lim bs ht n hr hrep
    simp only [inRange, Bool.and_eq_true, decide_eq_true_eq] at hr
    simp only [Rep] at hrep
    obtain ⟨_, c, hn, _⟩ := hrep
    subst hn
    simp only [valueByteLength, serialize, packBits_length, List.length_append,
      List.length_singleton]
    rw [listLength_pair c _ _ ht hr.1, R.bind_ok]
  case vector =>
    intro e k vs _ _ hlen hall ih n hr hrep
    simp only [inRange, Bool.and_eq_true, decide_eq_true_eq] at hr
    cases hfx : e.isFixed
    · have hb := not_fixed_not_basic hfx
      simp only [Rep, hb, Bool.false_eq_true, if_false] at hrep
      obtain ⟨_, xs, hrl, hsh⟩ := hrep
      have hd : coverDepth k < 64 := by rw [← seriesDepth_complex hb k]; exact hr.1
      have hm := repLen_elems h e vs xs (subtreeGet n (coverDepth k)) ih hr.2 hrl
        (fun i hi => shape_get h hsh hi hd)
      rw [hlen] at hm
      simp only [valueByteLength, serialize, hfx, Bool.false_eq_true, if_false, hm, R.bind_ok]
      rw [var_series_length _ k (by simp [hlen])]
    · simp only [valueByteLength, serialize, hfx, if_true]
      rw [serList_flatten_length_fixed hfx vs hall, hlen]
  case list =>
    intro e lim vs _ hlen hall ih n hr hrep
    simp only [inRange, Bool.and_eq_true, decide_eq_true_eq] at hr
    cases hfx : e.isFixed
    · have hb := not_fixed_not_basic hfx
      simp only [Rep, hb, Bool.false_eq_true, if_false] at hrep
      obtain ⟨_, xs, hrl, c, hn, hsh⟩ := hrep
      subst hn
      have hd : coverDepth lim < 64 := by rw [← seriesDepth_complex hb lim]; omega
      have hm := repLen_elems h e vs xs (subtreeGet c (coverDepth lim)) ih hr.2 hrl
        (fun i hi => shape_get h hsh hi hd)
      simp only [valueByteLength, serialize, hfx, Bool.false_eq_true, if_false]
      rw [listLength_pair c _ lim hlen hr.1.1, R.bind_ok, getNode_pair_false, getNode_nil, R.bind_ok,
        hm, R.bind_ok, var_series_length _ vs.length (by simp)]
    · obtain ⟨c, hn⟩ := rep_list_pair hrep
      subst hn
      simp only [valueByteLength, serialize, hfx, if_true]
      rw [listLength_pair c _ lim hlen hr.1.1, R.bind_ok, serList_flatten_length_fixed hfx vs hall]
  case container =>
    intro fs vs _ hlen ht ih n hr hrep
    simp only [inRange, Bool.and_eq_true, decide_eq_true_eq] at hr
    simp only [serialize, serContainerParts_length]
    simp only [Rep] at hrep
    obtain ⟨xs, hrf, hsh⟩ := hrep
    have hl := (repFields_length _ _ _ _ hrf).2
    cases haf : Ty.allFixed fs
    · simp only [valueByteLength, haf, Bool.false_eq_true, if_false]
      apply lenFieldsView_ok n _ fs vs 0 hlen
      intro j h1 h2
      have h3 : j < xs.length := by omega
      refine ⟨fun hfx => serialize_fixed_length _ _ hfx (fieldsHaveType_getElem fs vs ht j h1 h2),
        fun _ => ⟨xs[j], ?_, ?_⟩⟩
      · rw [Nat.zero_add]; exact shape_get h hsh h3 hr.1
      · exact ih j h1 h2 xs[j] (inRangeAll_get fs j _ hr.2 (List.getElem?_eq_getElem h1))
          (repFields_get _ _ _ _ hrf j h1 h2 h3)
    · simp only [valueByteLength, haf, if_true]
      rw [serVarPart_allFixed fs vs haf,
        fixedPartLen_serFields fs vs (fun v _ t => serialize_fixed_length v t) ht]
      rfl
  case unionNone =>
    intro opts n _ hrep
    obtain ⟨_, _, hn⟩ := rep_union_none.mp hrep
    subst hn
    have ho : unionOpt true opts 0 = none := by simp [unionOpt]
    rw [valueByteLength_union true opts _ (by omega)]
    simp [serialize, ho]
  case unionSome =>
    intro hasNone opts sel v t ho hvn hsl _ _ ih n hr hrep
    simp only [inRange] at hr
    obtain ⟨hlt, hnz, hget⟩ := unionOpt_some ho
    obtain ⟨c, hrc, hn⟩ := (rep_union_some ho hvn).mp hrep
    subst hn
    rw [valueByteLength_union hasNone opts c hsl, if_neg (by omega)]
    simp only [hnz, Bool.false_eq_true, if_false, lenOptView_get opts _ t c hget,
      ih c (inRangeAll_get opts _ t hr hget) hrc, R.bind_ok, serialize, ho, List.length_cons]

/-- C02, `ValueByteLength`: on any `Rep` backing it gives the length of the spec encoding -/
theorem rep_len (h : HashFn) {t : Ty} {v : Val} {n : Node} (hwf : t.wf = true)
    (hr : inRange t = true) (hty : hasType t v = true) (hrep : Rep h t v n) :
    valueByteLength t n = .ok (serialize t v).length :=
  repLen_all h t v hwf hty n hr hrep

end ZtypV
