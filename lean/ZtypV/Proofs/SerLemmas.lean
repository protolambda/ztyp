/-
List, byte and bit facts about the Spec's serialization helpers (`chunkOf`, `chunks`, `packBits`,
`byteOfBits`, `offsetsOf`, `serContainerParts`, `leBytes`/`leNat`, `coverDepth`, `unionOpt`), `mapM`
in `R` over steps that succeed, and the induction principles of the nested `Val` and `Ty`.
-/
import ZtypV.Spec
import ZtypV.Model.Tree
namespace ZtypV

/-! ### the result monad `R` -/

@[simp] theorem R.bind_ok {α β : Type} (a : α) (f : α → R β) : (Except.ok a >>= f) = f a := rfl
@[simp] theorem R.bind_error {α β : Type} (e : Err) (f : α → R β) :
    ((Except.error e : R α) >>= f) = .error e := rfl

theorem mapM_ok_of_getElem {α β : Type} (f : α → R β) : ∀ (l : List α) (out : List β),
    l.length = out.length →
    (∀ j (h1 : j < l.length) (h2 : j < out.length), f l[j] = .ok out[j]) →
    l.mapM f = .ok out := by
  intro l
  induction l with
  | nil =>
    intro out hl _
    have : out = [] := List.eq_nil_of_length_eq_zero hl.symm
    subst this; rfl
  | cons a l ih =>
    intro out hl hj
    cases out with
    | nil => simp at hl
    | cons b out =>
      rw [List.mapM_cons]
      have h0 := hj 0 (by simp) (by simp)
      simp only [List.getElem_cons_zero] at h0
      rw [h0, ih out (by simpa using hl) (fun j h1 h2 => by
        have := hj (j + 1) (by simp; omega) (by simp; omega)
        simpa using this)]
      rfl

theorem mapM_range_ok {β : Type} (f : Nat → R β) (out : List β)
    (hf : ∀ i (hi : i < out.length), f i = .ok out[i]) :
    (List.range out.length).mapM f = .ok out := by
  apply mapM_ok_of_getElem
  · simp
  · intro j h1 h2
    simp only [List.getElem_range]
    exact hf j h2

theorem mapM_range_ok' {β : Type} (f : Nat → R β) (k : Nat) (out : List β) (hk : out.length = k)
    (hf : ∀ i (hi : i < out.length), f i = .ok out[i]) :
    (List.range k).mapM f = .ok out := by
  subst hk; exact mapM_range_ok f out hf

/-! ### chunks -/

@[simp] theorem chunkOf_length (bs : Bytes) : (chunkOf bs).length = 32 := by
  simp [chunkOf]

theorem chunkOf_getD (bs : Bytes) (j : Nat) (hj : j < 32) :
    (chunkOf bs).getD j 0 = bs.getD j 0 := by
  unfold chunkOf
  rw [List.getD_eq_getElem?_getD, List.getD_eq_getElem?_getD, List.getElem?_take, if_pos hj,
    List.getElem?_append]
  split
  · rfl
  · rename_i hge
    rw [List.getElem?_replicate, if_pos (Nat.lt_of_le_of_lt (Nat.sub_le _ _) hj),
      List.getElem?_eq_none (Nat.le_of_not_lt hge)]
    rfl

theorem chunkOf_take (bs : Bytes) (k : Nat) (hk : k ≤ bs.length) (hk32 : k ≤ 32) :
    (chunkOf bs).take k = bs.take k := by
  unfold chunkOf
  rw [List.take_take, Nat.min_eq_left hk32, List.take_append_of_le_length hk]

theorem chunkOf_take_self (bs : Bytes) (h32 : bs.length ≤ 32) :
    (chunkOf bs).take bs.length = bs := by
  rw [chunkOf_take bs _ (Nat.le_refl _) h32, List.take_length]

theorem chunkOf_of_ge (bs : Bytes) (h32 : 32 ≤ bs.length) : chunkOf bs = bs.take 32 := by
  unfold chunkOf
  rw [List.take_append_of_le_length h32]

theorem chunkOf_of_le (bs : Bytes) (h32 : bs.length ≤ 32) :
    chunkOf bs = bs ++ List.replicate (32 - bs.length) 0 := by
  unfold chunkOf
  rw [List.take_append, List.take_of_length_le h32, List.take_replicate,
    Nat.min_eq_left (Nat.sub_le 32 _)]

theorem chunkOf_drop_take (bs : Bytes) (a k : Nat) (hk : a + k ≤ bs.length) (hk32 : a + k ≤ 32) :
    ((chunkOf bs).drop a).take k = (bs.drop a).take k := by
  rw [List.take_drop, List.take_drop, chunkOf_take bs (a + k) hk hk32]

@[simp] theorem chunks_length (bs : Bytes) : (chunks bs).length = (bs.length + 31) / 32 := by
  simp [chunks]

theorem chunks_getElem (bs : Bytes) (k : Nat) (hk : k < (chunks bs).length) :
    (chunks bs)[k] = chunkOf (bs.drop (32 * k)) := by
  simp [chunks]

theorem chunks_nil : chunks [] = [] := rfl

/-- the number of pieces of `n + 1` items that cover `x > 0` items: one more than for the rest -/
theorem ceilDiv_sub_add_one (n x : Nat) (hx : 0 < x) :
    (x + n) / (n + 1) = (x - (n + 1) + n) / (n + 1) + 1 := by
  by_cases h : n + 1 ≤ x
  · obtain ⟨y, rfl⟩ := Nat.exists_eq_add_of_le h
    rw [Nat.add_sub_cancel_left, ← Nat.add_div_right _ (Nat.succ_pos n), Nat.add_comm (n + 1) y,
      Nat.add_right_comm]
  · rw [Nat.sub_eq_zero_of_le (Nat.le_of_lt (Nat.lt_of_not_le h)), Nat.zero_add,
      Nat.div_eq_of_lt (Nat.lt_succ_self n)]
    apply Nat.div_eq_of_lt_le (k := 1)
    · rw [Nat.one_mul, Nat.add_comm x n]
      exact Nat.add_le_add_left hx n
    · show x + n < 2 * (n + 1)
      rw [Nat.two_mul]
      exact Nat.add_lt_add_of_lt_of_le (Nat.lt_of_not_le h) (Nat.le_succ n)

/-- `chunks` and `packBits` cut a list into pieces of `n` items by mapping over the piece
    indices; this is the step from one piece to the next -/
theorem map_range_succ_drop {α β : Type} (f : List α → β) (n m : Nat) (l : List α) :
    (List.range (m + 1)).map (fun i => f (l.drop (n * i))) =
      f l :: (List.range m).map (fun i => f ((l.drop n).drop (n * i))) := by
  rw [List.range_succ_eq_map, List.map_cons, List.map_map, Nat.mul_zero, List.drop_zero]
  congr 1
  apply List.map_congr_left
  intro i _
  rw [List.drop_drop, Function.comp_apply, Nat.mul_succ, Nat.add_comm]

theorem chunks_cons (bs : Bytes) (hne : 0 < bs.length) :
    chunks bs = chunkOf bs :: chunks (bs.drop 32) := by
  have hn : (bs.length + 31) / 32 = ((bs.drop 32).length + 31) / 32 + 1 := by
    rw [List.length_drop]; exact ceilDiv_sub_add_one 31 _ hne
  unfold chunks
  rw [hn]
  exact map_range_succ_drop chunkOf 32 _ bs

/-! ### lengths in a flattened list; uniform pieces (packed basic elements) -/

theorem mem_le_flatten_length {α : Type} : ∀ (ls : List (List α)) (l : List α), l ∈ ls →
    l.length ≤ ls.flatten.length := by
  intro ls
  induction ls with
  | nil => intro l hl; cases hl
  | cons a ls ih =>
    intro l hl
    rw [List.flatten_cons, List.length_append]
    rcases List.mem_cons.mp hl with rfl | hl
    · omega
    · have := ih l hl; omega

theorem flatten_uniform_length {α : Type} (b : Nat) : ∀ (ls : List (List α)),
    (∀ l ∈ ls, l.length = b) → ls.flatten.length = ls.length * b := by
  intro ls
  induction ls with
  | nil => simp
  | cons l ls ih =>
    intro hall
    rw [List.flatten_cons, List.length_append, ih (fun x hx => hall x (List.mem_cons_of_mem _ hx)),
      hall l List.mem_cons_self, List.length_cons, Nat.succ_mul, Nat.add_comm]

theorem flatten_uniform_drop_take {α : Type} (b : Nat) : ∀ (ls : List (List α)) (i : Nat)
    (hi : i < ls.length), (∀ l ∈ ls, l.length = b) → (ls.flatten.drop (b * i)).take b = ls[i] := by
  intro ls
  induction ls with
  | nil => intro i hi; simp at hi
  | cons l ls ih =>
    intro i hi hall
    have hl : l.length = b := hall l List.mem_cons_self
    cases i with
    | zero =>
      rw [Nat.mul_zero, List.drop_zero, List.flatten_cons, List.getElem_cons_zero, ← hl,
        List.take_left]
    | succ i =>
      rw [List.flatten_cons, List.getElem_cons_succ, Nat.mul_succ, Nat.add_comm, ← List.drop_drop,
        ← hl, List.drop_left, hl]
      exact ih i (Nat.lt_of_succ_lt_succ hi) (fun x hx => hall x (List.mem_cons_of_mem _ hx))

/-! ### the chunks of a byte string, concatenated -/

/-- `k` is fuel for the induction -/
theorem chunks_flatten_pad : ∀ (k : Nat) (bs : Bytes), bs.length ≤ k →
    ∃ p, (chunks bs).flatten = bs ++ List.replicate p 0 := by
  intro k
  induction k with
  | zero =>
    intro bs h
    obtain rfl := List.eq_nil_of_length_eq_zero (Nat.le_zero.mp h)
    exact ⟨0, rfl⟩
  | succ k ih =>
    intro bs h
    by_cases h0 : bs.length = 0
    · obtain rfl := List.eq_nil_of_length_eq_zero h0
      exact ⟨0, rfl⟩
    rw [chunks_cons bs (Nat.pos_of_ne_zero h0), List.flatten_cons]
    by_cases h32 : bs.length ≤ 32
    · rw [List.drop_of_length_le h32, chunks_nil, List.flatten_nil, List.append_nil,
        chunkOf_of_le bs h32]
      exact ⟨_, rfl⟩
    · obtain ⟨p, hp⟩ := ih (bs.drop 32) (by
        rw [List.length_drop]
        exact Nat.sub_le_of_le_add (Nat.le_trans h (Nat.add_le_add_left (by decide) k)))
      rw [hp, chunkOf_of_ge bs (Nat.le_of_not_le h32), ← List.append_assoc, List.take_append_drop]
      exact ⟨p, rfl⟩

theorem chunks_flatten_length (bs : Bytes) :
    (chunks bs).flatten.length = 32 * ((bs.length + 31) / 32) := by
  rw [flatten_uniform_length 32 (chunks bs), chunks_length, Nat.mul_comm]
  intro l hl
  obtain ⟨i, hi, rfl⟩ := List.getElem_of_mem hl
  rw [chunks_getElem, chunkOf_length]

theorem chunks_flatten (k : Nat) (bs : Bytes) (h1 : bs.length ≤ 32 * k) (h2 : 32 * k < bs.length + 32) :
    (chunks bs).flatten = bs ++ List.replicate (32 * k - bs.length) 0 := by
  obtain ⟨p, hp⟩ := chunks_flatten_pad bs.length bs (Nat.le_refl _)
  have hlen := chunks_flatten_length bs
  rw [hp, List.length_append, List.length_replicate] at hlen
  have hk : (bs.length + 31) / 32 = k :=
    Nat.div_eq_of_lt_le (by rw [Nat.mul_comm]; exact Nat.le_of_lt_succ h2)
      (by rw [Nat.succ_mul, Nat.mul_comm]; exact Nat.lt_succ_of_le (Nat.add_le_add_right h1 31))
  rw [hk] at hlen
  rw [hp, ← hlen, Nat.add_sub_cancel_left]

theorem chunks_flatten_take (bs : Bytes) : (chunks bs).flatten.take bs.length = bs := by
  obtain ⟨p, hp⟩ := chunks_flatten_pad bs.length bs (Nat.le_refl _)
  rw [hp, List.take_left]

theorem chunks_flatten_take_ge (bs : Bytes) (L : Nat) (hL : bs.length ≤ L)
    (hL2 : L ≤ 32 * ((bs.length + 31) / 32)) :
    (chunks bs).flatten.take L = bs ++ List.replicate (L - bs.length) 0 := by
  obtain ⟨p, hp⟩ := chunks_flatten_pad bs.length bs (Nat.le_refl _)
  have hlen := chunks_flatten_length bs
  rw [hp, List.length_append, List.length_replicate, Nat.add_comm] at hlen
  rw [hp, List.take_append, List.take_of_length_le hL, List.take_replicate,
    Nat.min_eq_left (Nat.sub_le_of_le_add (hlen ▸ hL2))]

/-! ### bits -/

/-- numeric value of a little-endian bit list -/
def bitsVal (bs : List Bool) : Nat := bs.foldr (fun b acc => 2 * acc + (if b then 1 else 0)) 0

theorem byteOfBits_eq (bs : List Bool) : byteOfBits bs = UInt8.ofNat (bitsVal bs) := rfl

@[simp] theorem bitsVal_nil : bitsVal [] = 0 := rfl
theorem bitsVal_cons (b : Bool) (bs : List Bool) :
    bitsVal (b :: bs) = 2 * bitsVal bs + (if b then 1 else 0) := rfl

theorem bitsVal_lt (bs : List Bool) : bitsVal bs < 2 ^ bs.length := by
  induction bs with
  | nil => simp
  | cons b bs ih =>
    rw [bitsVal_cons, List.length_cons, Nat.pow_succ]
    split <;> omega

theorem bitsVal_bit : ∀ (bs : List Bool) (m : Nat),
    bitsVal bs / 2 ^ m % 2 = if bs.getD m false then 1 else 0 := by
  intro bs
  induction bs with
  | nil => intro m; simp
  | cons b bs ih =>
    intro m
    cases m with
    | zero =>
      rw [bitsVal_cons, Nat.pow_zero, Nat.div_one, List.getD_cons_zero, Nat.mul_add_mod]
      cases b <;> rfl
    | succ m =>
      rw [bitsVal_cons, List.getD_cons_succ, ← ih m, Nat.pow_succ, Nat.mul_comm (2 ^ m) 2,
        ← Nat.div_div_eq_div_mul, Nat.mul_add_div (by decide)]
      cases b <;> rfl

theorem bitsVal_snoc_true (bs : List Bool) : bitsVal (bs ++ [true]) = bitsVal bs + 2 ^ bs.length := by
  induction bs with
  | nil => rfl
  | cons b bs ih =>
    rw [List.cons_append, bitsVal_cons, ih, bitsVal_cons, List.length_cons, Nat.pow_succ,
      Nat.mul_add, Nat.add_right_comm, Nat.mul_comm 2 (2 ^ _)]

theorem byteOfBits_toNat (bs : List Bool) (h8 : bs.length ≤ 8) :
    (byteOfBits bs).toNat = bitsVal bs := by
  rw [byteOfBits_eq, UInt8.toNat_ofNat']
  apply Nat.mod_eq_of_lt
  have h1 := bitsVal_lt bs
  have h2 : 2 ^ bs.length ≤ 2 ^ 8 := Nat.pow_le_pow_right (by omega) h8
  omega

@[simp] theorem byteOfBits_nil : byteOfBits [] = 0 := rfl

theorem byteOfBits_bit (bs : List Bool) (m : Nat) (h8 : bs.length ≤ 8) :
    ((byteOfBits bs).toNat / 2 ^ m % 2 == 1) = bs.getD m false := by
  rw [byteOfBits_toNat bs h8, bitsVal_bit]
  cases bs.getD m false <;> rfl

theorem byteOfBits_snoc_true (bs : List Bool) (h8 : bs.length < 8) :
    byteOfBits (bs ++ [true]) = byteOfBits bs ||| UInt8.ofNat (2 ^ bs.length) := by
  apply UInt8.toNat_inj.mp
  rw [UInt8.toNat_or, byteOfBits_toNat bs (Nat.le_of_lt h8),
    byteOfBits_toNat _ (by rw [List.length_append]; exact h8), UInt8.toNat_ofNat', bitsVal_snoc_true,
    Nat.mod_eq_of_lt (Nat.pow_lt_pow_right (by decide) h8), Nat.add_comm, Nat.or_comm]
  have h := Nat.two_pow_add_eq_or_of_lt (bitsVal_lt bs) 1
  rw [Nat.mul_one] at h
  exact h

@[simp] theorem packBits_length (bs : List Bool) : (packBits bs).length = (bs.length + 7) / 8 := by
  simp [packBits]

theorem delimited_length (bits : List Bool) :
    (packBits (bits ++ [true])).length = bits.length / 8 + 1 := by
  rw [packBits_length, List.length_append, List.length_singleton, Nat.add_assoc,
    Nat.add_div_right _ (by decide)]

theorem packBits_getD (bs : List Bool) (k : Nat) :
    (packBits bs).getD k 0 = byteOfBits ((bs.drop (8 * k)).take 8) := by
  rw [List.getD_eq_getElem?_getD]
  by_cases hk : k < (bs.length + 7) / 8
  · rw [packBits, List.getElem?_map, List.getElem?_range hk]
    rfl
  · have h8 : bs.length + 7 < (k + 1) * 8 :=
      (Nat.div_lt_iff_lt_mul (by decide)).mp (Nat.lt_succ_of_le (Nat.le_of_not_lt hk))
    rw [List.getElem?_eq_none (by rw [packBits_length]; exact Nat.le_of_not_lt hk),
      List.drop_of_length_le (by omega)]
    rfl

@[simp] theorem packBits_nil : packBits [] = [] := rfl

theorem packBits_cons (bs : List Bool) (hne : 0 < bs.length) :
    packBits bs = byteOfBits (bs.take 8) :: packBits (bs.drop 8) := by
  have hn : (bs.length + 7) / 8 = ((bs.drop 8).length + 7) / 8 + 1 := by
    rw [List.length_drop]; exact ceilDiv_sub_add_one 7 _ hne
  unfold packBits
  rw [hn]
  exact map_range_succ_drop (fun l => byteOfBits (l.take 8)) 8 _ bs

theorem packBits_short (bs : List Bool) (h0 : 0 < bs.length) (h8 : bs.length ≤ 8) :
    packBits bs = [byteOfBits bs] := by
  rw [packBits_cons bs h0, List.take_of_length_le h8, List.drop_of_length_le h8, packBits_nil]

theorem packBits_append_aligned (a b : List Bool) (q : Nat) (ha : a.length = 8 * q) :
    packBits (a ++ b) = packBits a ++ packBits b := by
  induction q generalizing a with
  | zero =>
    obtain rfl := List.eq_nil_of_length_eq_zero ha
    rfl
  | succ q ih =>
    rw [Nat.mul_succ] at ha
    have h8 : 8 ≤ a.length := ha ▸ Nat.le_add_left 8 _
    have h0 : 0 < a.length := Nat.lt_of_lt_of_le (by decide) h8
    rw [packBits_cons (a ++ b) (List.length_append ▸ Nat.lt_of_lt_of_le h0 (Nat.le_add_right _ _)),
      packBits_cons a h0, List.take_append_of_le_length h8, List.drop_append_of_le_length h8,
      ih (a.drop 8) (by rw [List.length_drop, ha, Nat.add_sub_cancel]), List.cons_append]

theorem aligned_div (q t : Nat) (ht : t < 8) : (8 * q + t) / 8 = q := by
  rw [Nat.mul_add_div (by decide), Nat.div_eq_of_lt ht, Nat.add_zero]

theorem aligned_ceilDiv (q t : Nat) (h0 : 0 < t) (ht : t ≤ 8) : (8 * q + t + 7) / 8 = q + 1 := by
  rw [Nat.add_assoc, Nat.mul_add_div (by decide), Nat.div_eq_of_lt_le (k := 1) (by omega) (by omega)]

theorem exists_aligned_split (bs : List Bool) :
    ∃ q full tail, bs = full ++ tail ∧ full.length = 8 * q ∧ tail.length < 8 := by
  refine ⟨bs.length / 8, bs.take (8 * (bs.length / 8)), bs.drop (8 * (bs.length / 8)),
    (List.take_append_drop _ _).symm, ?_, ?_⟩
  · rw [List.length_take, Nat.min_eq_left (Nat.mul_div_le _ 8)]
  · rw [List.length_drop, ← Nat.mod_def]
    exact Nat.mod_lt _ (by decide)

theorem packBits_append_last (full tail : List Bool) (q : Nat) (hf : full.length = 8 * q)
    (h0 : 0 < tail.length) (h8 : tail.length ≤ 8) :
    packBits (full ++ tail) = packBits full ++ [byteOfBits tail] := by
  rw [packBits_append_aligned full tail q hf, packBits_short tail h0 h8]

theorem packBits_append_delim (full tail : List Bool) (q : Nat) (hf : full.length = 8 * q)
    (ht : tail.length < 8) :
    packBits (full ++ (tail ++ [true])) = packBits full ++ [byteOfBits (tail ++ [true])] := by
  apply packBits_append_last full _ q hf
  · rw [List.length_append]; exact Nat.succ_pos _
  · rw [List.length_append]; exact ht

/-- the bitlist encoding (`bs` then the delimiter bit) in the form the Go code produces it:
    pack the bits, extend to `(len+8)/8` bytes, OR the delimiter into the last byte -/
theorem packBits_delimiter (bs : List Bool) (padded : Bytes)
    (hp : padded = packBits bs ++ List.replicate ((bs.length + 8) / 8 - (bs.length + 7) / 8) 0) :
    ∃ last, padded.getLast? = some last ∧
      padded.dropLast ++ [last ||| UInt8.ofNat (2 ^ (bs.length % 8))] = packBits (bs ++ [true]) := by
  obtain ⟨q, full, tail, rfl, hf, ht⟩ := exists_aligned_split bs
  have hpad : padded = packBits full ++ [byteOfBits tail] := by
    rw [hp, List.length_append, hf, Nat.add_div_right _ (by decide), aligned_div q _ ht]
    cases tail with
    | nil =>
      rw [List.append_nil, List.length_nil, Nat.add_zero, aligned_div q 7 (by decide),
        Nat.add_sub_cancel_left]
      rfl
    | cons b tail =>
      have h0 : 0 < (b :: tail).length := Nat.succ_pos _
      rw [packBits_append_last full _ q hf h0 (Nat.le_of_lt ht),
        aligned_ceilDiv q _ h0 (Nat.le_of_lt ht), Nat.sub_self]
      exact List.append_nil _
  refine ⟨byteOfBits tail, by rw [hpad, List.getLast?_concat], ?_⟩
  rw [hpad, List.dropLast_concat, List.append_assoc, packBits_append_delim full tail q hf ht,
    byteOfBits_snoc_true tail ht, List.length_append, hf, Nat.mul_add_mod, Nat.mod_eq_of_lt ht]

theorem packBits_getD_bit (bs : List Bool) (q m : Nat) (hm : m < 8) :
    (((packBits bs).getD q 0).toNat / 2 ^ m % 2 == 1) = bs.getD (8 * q + m) false := by
  rw [packBits_getD, byteOfBits_bit _ _ (List.length_take_le 8 _), List.getD_eq_getElem?_getD,
    List.getElem?_take, if_pos hm, List.getElem?_drop, ← List.getD_eq_getElem?_getD]

/-- bit `i` read from the chunk that holds it (`bitFromChunk` arithmetic): byte `(i%256)/8` of
    chunk `i/256` of the packed bytes is byte `i/8`, and bit `i%8` of it is `bits[i]` -/
theorem packed_bit (bits : List Bool) (i : Nat) :
    (((chunkOf ((packBits bits).drop (32 * (i / 256)))).getD (i % 256 / 8) 0).toNat
        / 2 ^ (i % 256 % 8) % 2 == 1) = bits.getD i false := by
  have hq : 32 * (i / 256) + i % 256 / 8 = i / 8 := by
    rw [← Nat.mul_add_div (by decide : 0 < 8), ← Nat.mul_assoc]
    exact congrArg (· / 8) (Nat.div_add_mod i 256)
  rw [chunkOf_getD _ (i % 256 / 8) (Nat.div_lt_of_lt_mul (Nat.mod_lt i (by decide) : i % 256 < 8 * 32)),
    List.getD_eq_getElem?_getD, List.getElem?_drop, ← List.getD_eq_getElem?_getD, hq,
    Nat.mod_mod_of_dvd i (by decide : 8 ∣ 256),
    packBits_getD_bit _ _ _ (Nat.mod_lt i (by decide)), Nat.div_add_mod]

/-! ### offsets and container layout -/

theorem offsetsOf_flatten_length : ∀ (ps : List Bytes) (s : Nat),
    (offsetsOf s ps).flatten.length = 4 * ps.length := by
  intro ps
  induction ps with
  | nil => intro s; rfl
  | cons p ps ih =>
    intro s
    rw [offsetsOf, List.flatten_cons, List.length_append, ih, leBytes_length, List.length_cons]
    omega

theorem serVarParts_length (ps : List Bytes) :
    (serVarParts ps).length = 4 * ps.length + ps.flatten.length := by
  rw [serVarParts, List.length_append, offsetsOf_flatten_length]

theorem serFixedPart_length : ∀ (ps : List (Bool × Bytes)) (off : Nat),
    (serFixedPart off ps).length = fixedPartLen ps := by
  intro ps
  induction ps with
  | nil => intro off; rfl
  | cons p ps ih =>
    intro off
    obtain ⟨fx, p⟩ := p
    cases fx
    · rw [serFixedPart, List.length_append, leBytes_length, ih]; simp [fixedPartLen]
    · rw [serFixedPart, List.length_append, ih]; simp [fixedPartLen]

theorem serContainerParts_length (ps : List (Bool × Bytes)) :
    (serContainerParts ps).length = fixedPartLen ps + (serVarPart ps).length := by
  rw [serContainerParts, List.length_append, serFixedPart_length]

theorem serVarPart_eq_filter : ∀ (ps : List (Bool × Bytes)),
    serVarPart ps = ((ps.filter (fun x => !x.1)).map (·.2)).flatten := by
  intro ps
  induction ps with
  | nil => rfl
  | cons p ps ih =>
    obtain ⟨fx, p⟩ := p
    cases fx <;> simp [serVarPart, ih]

/-- every part's encoding is no longer than the container's -/
theorem part_le_serContainerParts : ∀ (ps : List (Bool × Bytes)) (x : Bool × Bytes), x ∈ ps →
    x.2.length ≤ fixedPartLen ps + (serVarPart ps).length := by
  intro ps
  induction ps with
  | nil => intro x hx; cases hx
  | cons p ps ih =>
    intro x hx
    obtain ⟨fx, p⟩ := p
    rcases List.mem_cons.mp hx with rfl | hx
    · cases fx <;> simp [fixedPartLen, serVarPart] <;> omega
    · have := ih x hx
      cases fx <;> simp [fixedPartLen, serVarPart] <;> omega

/-! ### little-endian numbers -/

theorem leBytes_leNat (x : Bytes) : leBytes x.length (leNat x) = x := by
  induction x with
  | nil => rfl
  | cons b bs ih =>
    have hb : b.toNat < 256 := UInt8.toNat_lt b
    have h1 : (b.toNat + 256 * leNat bs) % 256 = b.toNat := by
      rw [Nat.add_mul_mod_self_left, Nat.mod_eq_of_lt hb]
    have h2 : (b.toNat + 256 * leNat bs) / 256 = leNat bs := by
      rw [Nat.add_mul_div_left _ _ (by decide : 0 < 256), Nat.div_eq_of_lt hb, Nat.zero_add]
    rw [List.length_cons, leNat, leBytes, h1, h2, ih, UInt8.ofNat_toNat]

theorem leNat_lt (x : Bytes) : leNat x < 256 ^ x.length := by
  induction x with
  | nil => exact Nat.one_pos
  | cons b bs ih =>
    have hb : b.toNat < 256 := UInt8.toNat_lt b
    rw [List.length_cons, leNat, Nat.pow_succ]
    omega

theorem leNat_leBytes_of_lt {k n : Nat} (h : n < 256 ^ k) : leNat (leBytes k n) = n := by
  rw [leNat_leBytes, Nat.mod_eq_of_lt h]

theorem leBytes_zero (k : Nat) : leBytes k 0 = List.replicate k 0 := by
  induction k with
  | zero => rfl
  | succ k ih => rw [leBytes, Nat.zero_div, ih]; rfl

/-! ### cover depth -/

theorem le_two_pow_coverDepth (n : Nat) : n ≤ 2 ^ coverDepth n := by
  unfold coverDepth
  split
  · rename_i h; exact h
  · exact Nat.le_of_pred_lt Nat.lt_log2_self

theorem coverDepth_le_iff (v d : Nat) : coverDepth v ≤ d ↔ v ≤ 2^d := by
  have : 0 < 2^d := Nat.two_pow_pos d
  unfold coverDepth
  split
  · constructor <;> intro _ <;> omega
  · rw [Nat.succ_le_iff, Nat.log2_lt (by omega)]
    omega

/-! ### union selectors -/

/-- what `unionOpt = some t` means: the selector is in range, it is not the `None` selector
    and the option at the index the decoder uses is `t` -/
theorem unionOpt_some {hasNone : Bool} {opts : List Ty} {sel : Nat} {t : Ty}
    (hu : unionOpt hasNone opts sel = some t) :
    sel < opts.length + (if hasNone then 1 else 0) ∧ (hasNone && sel == 0) = false ∧
      opts[if hasNone then sel - 1 else sel]? = some t := by
  unfold unionOpt at hu
  cases hasNone with
  | true =>
    simp only [if_true] at hu ⊢
    by_cases h0 : sel = 0
    · simp [h0] at hu
    · rw [if_neg h0] at hu
      have := (List.getElem?_eq_some_iff.mp hu).1
      exact ⟨by omega, by simpa using h0, hu⟩
  | false =>
    simp only [Bool.false_eq_true, if_false] at hu ⊢
    exact ⟨(List.getElem?_eq_some_iff.mp hu).1, rfl, hu⟩

/-! ### induction principles for the nested inductives `Val` and `Ty` -/

theorem Val.induct {P : Val → Prop}
    (num : ∀ n, P (.num n)) (bool : ∀ b, P (.bool b)) (bytes : ∀ bs, P (.bytes bs))
    (bits : ∀ bs, P (.bits bs)) (seq : ∀ vs, (∀ v ∈ vs, P v) → P (.seq vs)) (none : P .none)
    (union : ∀ sel v, P v → P (.union sel v)) : ∀ v, P v := by
  intro v
  exact Val.rec (motive_1 := P) (motive_2 := fun vs => ∀ v ∈ vs, P v)
    num bool bytes bits seq none union
    (by intro v hv; cases hv)
    (by
      intro head tail ih1 ih2 v hv
      rcases List.mem_cons.mp hv with rfl | hv
      · exact ih1
      · exact ih2 v hv)
    v

theorem Ty.induct {P : Ty → Prop}
    (uint : ∀ b, P (.uint b)) (bool : P .bool) (bytesN : ∀ n, P (.bytesN n))
    (bitvector : ∀ n, P (.bitvector n)) (bitlist : ∀ n, P (.bitlist n))
    (vector : ∀ e n, P e → P (.vector e n)) (list : ∀ e n, P e → P (.list e n))
    (container : ∀ fs, (∀ t ∈ fs, P t) → P (.container fs))
    (union : ∀ hn opts, (∀ t ∈ opts, P t) → P (.union hn opts)) : ∀ t, P t := by
  intro t
  exact Ty.rec (motive_1 := P) (motive_2 := fun ts => ∀ t ∈ ts, P t)
    uint bool bytesN bitvector bitlist vector list container union
    (by intro t ht; cases ht)
    (by
      intro head tail ih1 ih2 t ht
      rcases List.mem_cons.mp ht with rfl | ht
      · exact ih1
      · exact ih2 t ht)
    t

end ZtypV
