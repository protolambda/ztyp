/-
`View.inRange` (the depth / uint64 side condition of the C02 theorems) holds for every
well-formed type whose lengths, limits and field counts are at most `2^62`.
-/
import ZtypV.Proofs.ViewSer
namespace ZtypV

namespace View

mutual
/-- every vector length, bitvector length, list / bitlist limit and field count is `≤ B` -/
def limitsLe (B : Nat) : Ty → Bool
  | .uint _ | .bool | .bytesN _ => true
  | .bitvector n => n ≤ B
  | .bitlist lim => lim ≤ B
  | .vector e n => n ≤ B && limitsLe B e
  | .list e lim => lim ≤ B && limitsLe B e
  | .container fs => fs.length ≤ B && limitsLeAll B fs
  | .union _ opts => limitsLeAll B opts
def limitsLeAll (B : Nat) : List Ty → Bool
  | [] => true
  | t :: ts => limitsLe B t && limitsLeAll B ts
end

theorem coverDepth_mono (a b : Nat) (h : a ≤ b) : coverDepth a ≤ coverDepth b :=
  (coverDepth_le_iff a _).mpr (Nat.le_trans h (le_two_pow_coverDepth b))

theorem bitDepth_le (n : Nat) (h : n ≤ 2 ^ 62) : bitDepth n ≤ 62 := by
  unfold bitDepth
  apply (coverDepth_le_iff _ _).mpr
  omega

theorem seriesDepth_le (e : Ty) (n : Nat) (hw : e.wf = true) (h : n ≤ 2 ^ 62) :
    seriesDepth e n ≤ 62 := by
  unfold seriesDepth
  split
  · rename_i hb
    obtain ⟨b, rfl⟩ := isBasicElem_uint hb
    have hbw := wf_uint hw
    apply (coverDepth_le_iff _ _).mpr
    rw [Ty.fixedSize, bottomNodes_eq b n hbw]
    have : n * b ≤ n * 32 := Nat.mul_le_mul_left n (by omega)
    omega
  · exact (coverDepth_le_iff _ _).mpr h

theorem limitsLeAll_eq (B : Nat) : ∀ ts : List Ty, limitsLeAll B ts = ts.all (limitsLe B)
  | [] => rfl
  | t :: ts => by rw [limitsLeAll, List.all_cons, limitsLeAll_eq B ts]

theorem inRange_of_small : ∀ (t : Ty), t.wf = true → limitsLe (2 ^ 62) t = true →
    inRange t = true := by
  intro t
  induction t using Ty.induct with
  | uint b => intro _ _; rfl
  | bool => intro _ _; rfl
  | bytesN n => intro _ _; rfl
  | bitvector n =>
    intro _ hl
    simp only [limitsLe, decide_eq_true_eq] at hl
    have := bitDepth_le n hl
    simp only [inRange, decide_eq_true_eq]; omega
  | bitlist n =>
    intro _ hl
    simp only [limitsLe, decide_eq_true_eq] at hl
    have := bitDepth_le n hl
    simp only [inRange, Bool.and_eq_true, decide_eq_true_eq]; omega
  | vector e n ih =>
    intro hw hl
    simp only [limitsLe, Bool.and_eq_true, decide_eq_true_eq] at hl
    simp only [Ty.wf, Bool.and_eq_true, decide_eq_true_eq] at hw
    have := seriesDepth_le e n hw.2 hl.1
    simp only [inRange, Bool.and_eq_true, decide_eq_true_eq]
    exact ⟨by omega, ih hw.2 hl.2⟩
  | list e n ih =>
    intro hw hl
    simp only [limitsLe, Bool.and_eq_true, decide_eq_true_eq] at hl
    simp only [Ty.wf] at hw
    have := seriesDepth_le e n hw hl.1
    simp only [inRange, Bool.and_eq_true, decide_eq_true_eq]
    exact ⟨⟨by omega, by omega⟩, ih hw hl.2⟩
  | container fs ih =>
    intro hw hl
    simp only [limitsLe, Bool.and_eq_true, decide_eq_true_eq] at hl
    simp only [Ty.wf, Bool.and_eq_true] at hw
    have := (coverDepth_le_iff fs.length 62).mpr hl.1
    simp only [inRange, Bool.and_eq_true, decide_eq_true_eq]
    rw [inRangeAll_eq, List.all_eq_true]
    exact ⟨by omega, fun t ht => ih t ht (wfAll_mem fs hw.2 t ht)
      (List.all_eq_true.mp (limitsLeAll_eq _ fs ▸ hl.2) t ht)⟩
  | union hn opts ih =>
    intro hw hl
    simp only [limitsLe] at hl
    simp only [Ty.wf, Bool.and_eq_true] at hw
    rw [inRange, inRangeAll_eq, List.all_eq_true]
    exact fun t ht => ih t ht (wfAll_mem opts hw.1.2 t ht)
      (List.all_eq_true.mp (limitsLeAll_eq _ opts ▸ hl) t ht)

end View
end ZtypV
