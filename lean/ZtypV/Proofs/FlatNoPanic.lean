/-
C10, panic freedom of the flat decoder model: no `panic` outcome of `flatDecode` is reachable,
for every type (well-formed or not), every prior destination content and every reader state.
The reader's primitives never panic and the helpers are built from them by `>>=` and `if`, so each
proof follows the helper's definition.  The decoder model has a `panic` arm in three places: the two
offset loops when the offsets outnumber the items, and `flatSelect` beyond the option list; the
callers rule these out.
-/
import ZtypV.Proofs.Flat
namespace ZtypV.FlatProofs
open ZtypV ZtypV.View ZtypV.Flat ZtypV.DecodeProofs

def DNoPanic (f : DR → R (Val × DR)) : Prop := ∀ dr, f dr ≠ .error .panic

theorem err_ne_panic {α : Type} : (Flat.err : R α) ≠ .error .panic := by
  intro hc; cases hc

theorem readFull_ne_panic (s : Slice) (dr : DR) : s.readFull dr ≠ .error .panic :=
  bind_ne_panic (read_ne_panic dr _) fun ⟨_, _⟩ _ => ok_ne_panic _

theorem decByteVector_ne_panic (dst : Slice) (n : Nat) (dr : DR) :
    decByteVector dst n dr ≠ .error .panic := readFull_ne_panic _ _

theorem decByteList_ne_panic (dst : Slice) (n : Nat) (dr : DR) :
    decByteList dst n dr ≠ .error .panic :=
  ite_ne_panic (fun _ => err_ne_panic) (fun _ => readFull_ne_panic _ _)

theorem decBitVector_ne_panic (dst : Slice) (n : Nat) (dr : DR) :
    decBitVector dst n dr ≠ .error .panic :=
  bind_ne_panic (readFull_ne_panic _ _) fun ⟨_, _⟩ _ =>
    ite_ne_panic (fun _ => ok_ne_panic _) (fun _ => err_ne_panic)

theorem decBitList_ne_panic (dst : Slice) (n : Nat) (dr : DR) :
    decBitList dst n dr ≠ .error .panic :=
  ite_ne_panic (fun _ => err_ne_panic) fun _ =>
    bind_ne_panic (readFull_ne_panic _ _) fun ⟨_, _⟩ _ =>
      ite_ne_panic (fun _ => ok_ne_panic _) (fun _ => err_ne_panic)

theorem readRootsLoop_ne_panic : ∀ (n : Nat) (dr : DR), readRootsLoop n dr ≠ .error .panic
  | 0, _ => ok_ne_panic _
  | n + 1, dr =>
    bind_ne_panic (read_ne_panic dr _) fun ⟨_, d1⟩ _ =>
      bind_ne_panic (readRootsLoop_ne_panic n d1) fun ⟨_, _⟩ _ => ok_ne_panic _

theorem readRoots_ne_panic (dst : RSlice) (n : Nat) (dr : DR) : readRoots dst n dr ≠ .error .panic :=
  bind_ne_panic (readRootsLoop_ne_panic _ _) fun ⟨_, _⟩ _ => ok_ne_panic _

theorem readRootsLimited_ne_panic (dst : RSlice) (n : Nat) (dr : DR) :
    readRootsLimited dst n dr ≠ .error .panic :=
  ite_ne_panic (fun _ => err_ne_panic) fun _ =>
    ite_ne_panic (fun _ => err_ne_panic) (fun _ => readRoots_ne_panic _ _ _)

theorem decFixedItems_ne_panic (size : Nat) : ∀ (items : List Des) (dr : DR),
    (∀ it ∈ items, DNoPanic it.run) → decFixedItems size items dr ≠ .error .panic
  | [], _, _ => ok_ne_panic _
  | it :: its, dr, h =>
    bind_ne_panic (inSub_ne_panic dr size it.run (List.forall_mem_cons.mp h).1) fun ⟨_, d1⟩ _ =>
      bind_ne_panic (decFixedItems_ne_panic size its d1 (List.forall_mem_cons.mp h).2)
        fun ⟨_, _⟩ _ => ok_ne_panic _

theorem readOffsetsN_ne_panic : ∀ (n : Nat) (dr : DR), readOffsetsN n dr ≠ .error .panic
  | 0, _ => ok_ne_panic _
  | n + 1, dr =>
    bind_ne_panic (readOffset_ne_panic dr) fun ⟨_, d1⟩ _ =>
      bind_ne_panic (readOffsetsN_ne_panic n d1) fun ⟨_, _⟩ _ => ok_ne_panic _

theorem decOffsetItems_ne_panic (vec : Bool) (scope : Nat) : ∀ (offs : List Nat) (items : List Des)
    (prev : Nat) (dr : DR), offs.length ≤ items.length → (∀ it ∈ items, DNoPanic it.run) →
    decOffsetItems vec scope prev offs items dr ≠ .error .panic
  | [], _, _, _, _, _ => by unfold decOffsetItems; exact ok_ne_panic _
  | _ :: _, [], _, _, hl, _ => absurd hl (Nat.not_succ_le_zero _)
  | off :: rest, it :: its, prev, dr, hl, h => by
    unfold decOffsetItems
    exact ite_ne_panic (fun _ => err_ne_panic) fun _ => ite_ne_panic (fun _ => err_ne_panic) fun _ =>
      bind_ne_panic (inSub_ne_panic dr _ it.run (List.forall_mem_cons.mp h).1) fun ⟨_, d1⟩ _ =>
        bind_ne_panic (decOffsetItems_ne_panic vec scope rest its _ d1 (Nat.le_of_succ_le_succ hl)
          (List.forall_mem_cons.mp h).2) fun ⟨_, _⟩ _ => ok_ne_panic _

theorem decVector_ne_panic (items : List Des) (fix : Nat) (dr : DR)
    (h : ∀ it ∈ items, DNoPanic it.run) : decVector items fix dr ≠ .error .panic :=
  ite_ne_panic (fun _ => decFixedItems_ne_panic _ _ _ h) fun _ =>
    bind_ne_panic (readOffsetsN_ne_panic _ _) fun ⟨_, _⟩ ho =>
      ite_ne_panic (fun _ => err_ne_panic) fun _ =>
        decOffsetItems_ne_panic _ _ _ _ _ _ (Nat.le_of_eq (readOffsetsN_ok _ _ _ _ ho).1) h

theorem decList_ne_panic (add : DR → R (Val × DR)) (fix lim : Nat) (dr : DR)
    (h : DNoPanic add) : decList add fix lim dr ≠ .error .panic :=
  ite_ne_panic (fun _ => ok_ne_panic _) fun _ => ite_ne_panic
    (fun _ => ite_ne_panic (fun _ => err_ne_panic) fun _ => ite_ne_panic (fun _ => err_ne_panic) fun _ =>
      decFixedItems_ne_panic _ _ _ (List.forall_mem_replicate.mpr (.inr h)))
    fun _ => bind_ne_panic (readOffset_ne_panic dr) fun ⟨first, d1⟩ _ =>
      ite_ne_panic (fun _ => err_ne_panic) fun _ => ite_ne_panic (fun _ => err_ne_panic) fun hne =>
        ite_ne_panic (fun _ => err_ne_panic) fun _ =>
          bind_ne_panic (readOffsetsN_ne_panic _ _) fun ⟨os, d2⟩ ho =>
            decOffsetItems_ne_panic _ _ _ _ _ _
              (by rw [List.length_cons, List.length_replicate, (readOffsetsN_ok _ _ _ _ ho).1]; omega)
              (List.forall_mem_replicate.mpr (.inr h))

theorem decFixedLenContainer_ne_panic : ∀ (fields : List Des) (dr : DR),
    (∀ f ∈ fields, DNoPanic f.run) → decFixedLenContainer fields dr ≠ .error .panic
  | [], _, _ => ok_ne_panic _
  | f :: fs, dr, h =>
    bind_ne_panic (h f (by simp) dr) fun ⟨_, d1⟩ _ =>
      bind_ne_panic (decFixedLenContainer_ne_panic fs d1 (List.forall_mem_cons.mp h).2)
        fun ⟨_, _⟩ _ => ok_ne_panic _

theorem decContainerFixed_ne_panic : ∀ (fields : List Des) (dr : DR),
    (∀ f ∈ fields, DNoPanic f.run) → decContainerFixed fields dr ≠ .error .panic
  | [], _, _ => ok_ne_panic _
  | f :: fs, dr, h => by
    have ih := fun d => decContainerFixed_ne_panic fs d (List.forall_mem_cons.mp h).2
    unfold decContainerFixed
    exact ite_ne_panic
      (fun _ => bind_ne_panic (inSub_ne_panic dr _ f.run (List.forall_mem_cons.mp h).1) fun ⟨_, d1⟩ _ =>
        bind_ne_panic (ih d1) fun ⟨_, _, _, _⟩ _ => ok_ne_panic _)
      (fun _ => bind_ne_panic (readOffset_ne_panic dr) fun ⟨_, d1⟩ _ =>
        bind_ne_panic (ih d1) fun ⟨_, _, _, _⟩ _ => ok_ne_panic _)

theorem decContainerFixed_shape : ∀ (fields : List Des) (dr : DR) (slots : List (Option Val))
    (offs : List Nat) (dyn : List Des) (dr' : DR),
    decContainerFixed fields dr = .ok (slots, offs, dyn, dr') →
    offs.length = dyn.length ∧ (∀ f ∈ dyn, f ∈ fields)
  | [] => by
    intro dr slots offs dyn dr' h
    unfold decContainerFixed at h; cases h; simp
  | f :: fs => by
    intro dr slots offs dyn dr' h
    unfold decContainerFixed at h
    by_cases hf : f.fixedLength ≠ 0
    · rw [if_pos hf] at h
      obtain ⟨⟨x, d1⟩, _, h⟩ := bind_eq_ok h
      obtain ⟨⟨slots', offs', dyn', d2⟩, h2, h⟩ := bind_eq_ok h
      obtain ⟨hl, hm⟩ := decContainerFixed_shape fs d1 slots' offs' dyn' d2 h2
      cases h
      exact ⟨hl, fun g hg => List.mem_cons_of_mem _ (hm g hg)⟩
    · rw [if_neg hf] at h
      obtain ⟨⟨o, d1⟩, _, h⟩ := bind_eq_ok h
      obtain ⟨⟨slots', offs', dyn', d2⟩, h2, h⟩ := bind_eq_ok h
      obtain ⟨hl, hm⟩ := decContainerFixed_shape fs d1 slots' offs' dyn' d2 h2
      cases h
      refine ⟨by rw [List.length_cons, List.length_cons, hl], fun g hg => ?_⟩
      rcases List.mem_cons.mp hg with rfl | hg'
      · exact List.mem_cons_self
      · exact List.mem_cons_of_mem _ (hm g hg')

theorem decContainerDyn_ne_panic (scope : Nat) : ∀ (offs : List Nat) (dyn : List Des) (dr : DR),
    offs.length ≤ dyn.length → (∀ f ∈ dyn, DNoPanic f.run) →
    decContainerDyn scope offs dyn dr ≠ .error .panic
  | [], _, _, _, _ => by unfold decContainerDyn; exact ok_ne_panic _
  | _ :: _, [], _, hl, _ => absurd hl (Nat.not_succ_le_zero _)
  | off :: rest, f :: fs, dr, hl, h => by
    unfold decContainerDyn
    exact ite_ne_panic (fun _ => err_ne_panic) fun _ =>
      bind_ne_panic (inSub_ne_panic dr _ f.run (List.forall_mem_cons.mp h).1) fun ⟨_, d1⟩ _ =>
        bind_ne_panic (decContainerDyn_ne_panic scope rest fs d1 (Nat.le_of_succ_le_succ hl)
          (List.forall_mem_cons.mp h).2) fun ⟨_, _⟩ _ => ok_ne_panic _

theorem decContainer_ne_panic (fields : List Des) (dr : DR)
    (h : ∀ f ∈ fields, DNoPanic f.run) : decContainer fields dr ≠ .error .panic :=
  bind_ne_panic (decContainerFixed_ne_panic fields dr h) fun ⟨_, _, _, _⟩ hf =>
    have ⟨hl, hm⟩ := decContainerFixed_shape _ _ _ _ _ _ hf
    ite_ne_panic (fun _ => ok_ne_panic _) fun _ => ite_ne_panic (fun _ => err_ne_panic) fun _ =>
      bind_ne_panic (decContainerDyn_ne_panic _ _ _ _ (Nat.le_of_eq hl) (fun g hg => h g (hm g hg)))
        fun ⟨_, _⟩ _ => ok_ne_panic _

theorem decUnion_ne_panic (select : Nat → R (Option Des)) (dr : DR)
    (hs : ∀ sel, select sel ≠ .error .panic)
    (hd : ∀ sel d, select sel = .ok (some d) → DNoPanic d.run) :
    decUnion select dr ≠ .error .panic :=
  bind_ne_panic (read_ne_panic dr 1) fun ⟨_, d1⟩ _ => bind_ne_panic (hs _) fun dest hdest =>
    match dest, hdest with
    | .none, _ =>
      ite_ne_panic (fun _ => err_ne_panic) fun _ => ite_ne_panic (fun _ => err_ne_panic) fun _ => ok_ne_panic _
    | some d, hdest =>
      ite_ne_panic (fun _ => err_ne_panic) fun _ =>
        bind_ne_panic (hd _ d hdest d1) fun ⟨_, _⟩ _ => ok_ne_panic _

theorem decUint_ne_panic (b : Nat) : DNoPanic (decUint b) := fun dr =>
  bind_ne_panic (read_ne_panic dr b) fun ⟨_, _⟩ _ => ok_ne_panic _

theorem decBool_ne_panic : DNoPanic decBool := fun dr =>
  bind_ne_panic (read_ne_panic dr 1) fun ⟨_, _⟩ _ =>
    ite_ne_panic (fun _ => err_ne_panic) (fun _ => ok_ne_panic _)

theorem decRoot_ne_panic : DNoPanic decRoot := fun dr =>
  bind_ne_panic (read_ne_panic dr 32) fun ⟨_, _⟩ _ => ok_ne_panic _

theorem flatFieldDes_mem : ∀ (fs : List Ty) (p : Val) (i : Nat) (f : Des), f ∈ flatFieldDes fs p i →
    ∃ t ∈ fs, ∃ q : Val, f = ⟨flatFixedLength t, fun d => flatDecode t q d⟩
  | [], p, i, f, h => by rw [flatFieldDes] at h; cases h
  | t :: ts, p, i, f, h => by
    rw [flatFieldDes] at h
    rcases List.mem_cons.mp h with rfl | h'
    · exact ⟨t, by simp, _, rfl⟩
    · obtain ⟨t', ht', q, hq⟩ := flatFieldDes_mem ts p (i + 1) f h'
      exact ⟨t', by simp [ht'], q, hq⟩

theorem flatDecode_noPanic (t : Ty) : ∀ (prior : Val), DNoPanic (flatDecode t prior) := by
  induction t using Ty.induct with
  | uint b => intro p dr; unfold flatDecode; exact decUint_ne_panic b dr
  | bool => intro p dr; unfold flatDecode; exact decBool_ne_panic dr
  | bytesN n =>
    intro p dr
    unfold flatDecode
    exact ite_ne_panic (fun _ => decRoot_ne_panic dr) fun _ =>
      bind_ne_panic (decByteVector_ne_panic _ _ _) fun ⟨_, _⟩ _ => ok_ne_panic _
  | bitvector n =>
    intro p dr
    unfold flatDecode
    exact bind_ne_panic (decBitVector_ne_panic _ _ _) fun ⟨_, _⟩ _ => ok_ne_panic _
  | bitlist n =>
    intro p dr
    unfold flatDecode
    exact bind_ne_panic (decBitList_ne_panic _ _ _) fun ⟨_, _⟩ _ => ok_ne_panic _
  | vector e n ih =>
    intro p dr
    unfold flatDecode
    exact ite_ne_panic
      (fun _ => bind_ne_panic (decByteVector_ne_panic _ _ _) fun ⟨_, _⟩ _ => ok_ne_panic _) fun _ =>
      ite_ne_panic (fun _ => bind_ne_panic (readRoots_ne_panic _ _ _) fun ⟨_, _⟩ _ => ok_ne_panic _)
        fun _ => bind_ne_panic
          (decVector_ne_panic _ _ _ (List.forall_mem_map.mpr fun _ _ => ih _))
          fun ⟨_, _⟩ _ => ok_ne_panic _
  | list e lim ih =>
    intro p dr
    unfold flatDecode
    exact ite_ne_panic
      (fun _ => bind_ne_panic (decByteList_ne_panic _ _ _) fun ⟨_, _⟩ _ => ok_ne_panic _) fun _ =>
      ite_ne_panic
        (fun _ => bind_ne_panic (readRootsLimited_ne_panic _ _ _) fun ⟨_, _⟩ _ => ok_ne_panic _)
        fun _ => bind_ne_panic (decList_ne_panic _ _ _ _ (ih _))
          fun ⟨_, _⟩ _ => ok_ne_panic _
  | container fs ih =>
    intro p dr
    unfold flatDecode
    have hf : ∀ f ∈ flatFieldDes fs p 0, DNoPanic f.run := by
      intro f hf
      obtain ⟨t, ht, q, rfl⟩ := flatFieldDes_mem fs p 0 f hf
      exact ih t ht q
    exact ite_ne_panic
      (fun _ => bind_ne_panic (decFixedLenContainer_ne_panic _ _ hf) fun ⟨_, _⟩ _ => ok_ne_panic _)
      (fun _ => bind_ne_panic (decContainer_ne_panic _ _ hf) fun ⟨_, _⟩ _ => ok_ne_panic _)
  | union hasNone opts ih =>
    intro p dr
    unfold flatDecode
    refine bind_ne_panic (decUnion_ne_panic (unionSelect hasNone opts) dr (fun sel => ?_)
      fun sel d hd => ?_) fun ⟨⟨_, ov⟩, _⟩ _ => ?_
    · rw [unionSelect_eq]
      split
      · exact ok_ne_panic _
      · exact ite_ne_panic (fun _ => ok_ne_panic _) (fun _ => err_ne_panic)
    · rw [unionSelect_eq] at hd
      split at hd
      · rename_i t ht
        cases hd
        exact ih t (unionOpt_mem ht) _
      · split at hd <;> cases hd
    · cases ov <;> exact ok_ne_panic _

theorem flatDecodeTop_noPanic (t : Ty) (prior : Val) (bs : Bytes) :
    flatDecodeTop t prior bs ≠ .error .panic :=
  bind_ne_panic (flatDecode_noPanic t prior _) fun ⟨_, _⟩ _ => ok_ne_panic _

end ZtypV.FlatProofs
