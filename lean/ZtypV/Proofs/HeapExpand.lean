/-
Model H: sequencing of clients, and the rebinding spine that `Setter/DeeperSetter` build — without
(`setPath`) and with (`setPathX`) expansion of zero summaries: it is built without hashing, leaves
every existing cell untouched, denotes the tree the pure setter gives, and hashing its top costs at
most one call per level (C07).
-/
import ZtypV.Proofs.HeapCost
namespace ZtypV.H

/-! ### sequencing -/

/-- go on with `f` on the result of a run, in the heap it left; an aborted run stays aborted -/
def thenRun (h : HashFn) (f : α → Prog β) (x : Option α × Heap × Trace) : Option β × Heap × Trace :=
  match x.1 with
  | some a => pre x.2.2 (run h (f a) x.2.1)
  | none => (none, x.2.1, x.2.2)

theorem thenRun_pre (h : HashFn) (f : α → Prog β) (t : Trace) (x : Option α × Heap × Trace) :
    thenRun h f (pre t x) = pre t (thenRun h f x) := by
  unfold thenRun
  rw [pre_fst]
  cases x.1 with
  | none => rfl
  | some a => simp only [pre, Trace.app_assoc]

theorem run_bind (h : HashFn) (f : α → Prog β) : ∀ (p : Prog α) (hp : Heap),
    run h (p.bind f) hp = thenRun h f (run h p hp) := by
  intro p
  induction p with
  | ret a0 => intro hp; simp only [Prog.bind, run_ret, thenRun, pre, Trace.nil_app]
  | allocLeaf r k ih => intro hp; rw [Prog.bind, run_allocLeaf, run_allocLeaf, ih, thenRun_pre]
  | read x k ih =>
    intro hp
    simp only [Prog.bind, run]
    split
    · exact ih _ hp
    · rw [ih]; exact (thenRun_pre h f _ _).symm
  | allocPair _ _ _ ih | root _ _ ih | pokeLeaf _ _ _ ih =>
    intro hp
    simp only [Prog.bind, run]
    split
    · rw [ih]; exact (thenRun_pre h f _ _).symm
    · rfl

/-! ### building a spine -/

/-- what a spine-building client promises: if it returns an address `x'`, the heap it leaves and
    `x'` are as `Q` says, and nothing was hashed -/
def Builds (Q : Heap → Nat → Prop) (res : Option (Option Nat) × Heap × Trace) : Prop :=
  ∀ x', res.1 = some (some x') → Q res.2.1 x' ∧ res.2.2.calls = 0

theorem Builds.pre {Q : Heap → Nat → Prop} {res : Option (Option Nat) × Heap × Trace} {t : Trace}
    (ht : t.calls = 0) (hb : Builds Q res) : Builds Q (pre t res) := fun x' hr =>
  ⟨(hb x' hr).1, by rw [pre_trace, Trace.app_calls, ht, (hb x' hr).2]⟩

theorem Builds.fail {Q : Heap → Nat → Prop} (h : HashFn) (hp : Heap) : Builds Q (run h (.ret none) hp) :=
  fun _ hr => by cases hr

/-- one level: the rest of the path yields `c'`, then one `NewPairNode` -/
theorem builds_level (h : HashFn) {sub : Prog (Option Nat)} {F : Option Nat → Prog (Option Nat)}
    {L R : Nat → Nat} {hp0 : Heap} {Q Q' : Heap → Nat → Prop}
    (hnone : F none = .ret none)
    (hsome : ∀ c', F (some c') = .allocPair (L c') (R c') (fun a => .ret (some a)))
    (ih : Builds Q (run h sub hp0))
    (up : ∀ hp1 c', Q hp1 c' → L c' < hp1.size → R c' < hp1.size →
      Q' (hp1.push (.pair z0 (L c') (R c'))) hp1.size) :
    Builds Q' (run h (sub.bind F) hp0) := by
  intro x' hr
  rw [run_bind, thenRun] at hr ⊢
  cases hsub : (run h sub hp0).1 with
  | none => rw [hsub] at hr; cases hr
  | some o =>
    simp only [hsub] at hr ⊢
    cases o with
    | none => rw [hnone] at hr; cases hr
    | some c' =>
      obtain ⟨q, hc⟩ := ih c' hsub
      rw [hsome] at hr ⊢
      by_cases hlr : L c' < (run h sub hp0).2.1.size ∧ R c' < (run h sub hp0).2.1.size
      · rw [run_allocPair_ok h _ hlr.1 hlr.2, run_ret] at hr ⊢
        cases hr
        refine ⟨up _ c' q hlr.1 hlr.2, ?_⟩
        show _ + (0 + 0) = 0
        rw [hc]
      · rw [run_allocPair_bad h _ hlr] at hr; cases hr

/-! ### the spine without expansion -/

theorem run_setPath (h : HashFn) : ∀ (path : List Bool) (x y : Nat) (hp : Heap),
    Builds (fun hp' x' => Spine hp hp' path x y x') (run h (setPath path x y) hp) := by
  intro path
  induction path with
  | nil => intro x y hp x' hr; cases hr; exact ⟨Spine.nil hp x y, rfl⟩
  | cons b bs ih =>
    intro x y hp
    rw [setPath]
    cases hx : hp[x]? with
    | none => rw [run_read_none h _ hx]; exact .fail h hp
    | some c =>
      rw [run_read_some h _ hx]
      refine .pre rfl ?_
      cases c with
      | leaf r0 => exact .fail h hp
      | pair m l r =>
        simp only [view]
        cases b with
        | true =>
          simp only [if_true]
          exact builds_level h (L := fun _ => l) (R := fun c' => c') rfl (fun _ => rfl) (ih r y hp)
            (fun _ _ sp hl hc => Spine.right m l r hx sp hl hc)
        | false =>
          simp only [Bool.false_eq_true, if_false]
          exact builds_level h (L := fun c' => c') (R := fun _ => r) rfl (fun _ => rfl) (ih l y hp)
            (fun _ _ sp hc hr => Spine.left m l r hx sp hc hr)

theorem spine_frame {hp hp' : Heap} {path : List Bool} {x y x' : Nat}
    (hs : Spine hp hp' path x y x') (hw : WF hp) (hy : y < hp.size) :
    PExt hp hp' ∧ x' < hp'.size ∧ WF hp' := by
  induction hs with
  | nil x y => exact ⟨PExt.refl _, hy, hw⟩
  | @right hp1 bs x y c' m l r e _ hl hc' ih =>
    obtain ⟨pe, _, hw1⟩ := ih hy
    exact ⟨pe.trans (pext_push _ _), by simp, WF_push hw1 (.pair hl hc')⟩
  | @left hp1 bs x y c' m l r e _ hc' hr ih =>
    obtain ⟨pe, _, hw1⟩ := ih hy
    exact ⟨pe.trans (pext_push _ _), by simp, WF_push hw1 (.pair hc' hr)⟩

/-- the spine denotes the tree the pure setter gives (tie between Model H and Model P) -/
theorem spine_abs {hp hp' : Heap} {path : List Bool} {x y x' : Nat}
    (hs : Spine hp hp' path x y x') (hw : WF hp) (hy : y < hp.size) :
    Node.setAt path (absNode hp x) (absNode hp y) = some (absNode hp' x') := by
  induction hs with
  | nil x y => rfl
  | @right hp1 bs x y c' m l r e hs' hl hc' ih =>
    obtain ⟨pe, _, hw1⟩ := spine_frame hs' hw hy
    have hlx := hw x m l r e
    have hxs := get_lt_size e
    rw [absNode_pair hw e, Node.setAt]
    simp only [if_true, ih hy, Option.map_some]
    rw [absNode_pair (WF_push hw1 (.pair hl hc')) Array.getElem?_push_size,
      absNode_ext hw1 (ext_push hp1 _) hl, absNode_ext hw1 (ext_push hp1 _) hc',
      absNode_ext hw pe.ext (x := l) (by omega)]
  | @left hp1 bs x y c' m l r e hs' hc' hr ih =>
    obtain ⟨pe, _, hw1⟩ := spine_frame hs' hw hy
    have hlx := hw x m l r e
    have hxs := get_lt_size e
    rw [absNode_pair hw e, Node.setAt]
    simp only [Bool.false_eq_true, if_false, ih hy, Option.map_some]
    rw [absNode_pair (WF_push hw1 (.pair hc' hr)) Array.getElem?_push_size,
      absNode_ext hw1 (ext_push hp1 _) hr, absNode_ext hw1 (ext_push hp1 _) hc',
      absNode_ext hw pe.ext (x := r) (by omega)]

/-! ### the shape of a freshly rebound path, and what hashing it costs -/

/-- one hash call per unset pair of the chain, whatever else the heap contains -/
theorem spn_cost (h : HashFn) {hp : Heap} {x d : Nat} (hw : WF hp) (hs : Spn hp x d) :
    ∀ f, x < f → (rootH h f hp x).2.2.calls ≤ d := by
  induction hs with
  | base d ht => intro f _; rw [(rootH_top h ht).2.2]; exact Nat.zero_le _
  | @right x l r d e htl _ ih =>
    intro f hlt
    have hlr := hw x z0 l r e
    obtain ⟨f, rfl⟩ : ∃ f0, f = f0 + 1 := ⟨f - 1, by omega⟩
    rw [rootH_unset h e, Trace.node_calls, (rootH_top h htl).1, (rootH_top h htl).2.2]
    have := ih f (by omega)
    omega
  | @left x l r d e _ htr ih =>
    intro f hlt
    have hlr := hw x z0 l r e
    obtain ⟨f, rfl⟩ : ∃ f0, f = f0 + 1 := ⟨f - 1, by omega⟩
    -- after hashing the chain below `l` the sibling is still answered from its memo
    rw [rootH_unset h e, Trace.node_calls, (rootH_top h (topMemo_memoStep htr (rootH_memoStep h f hp l))).2.2]
    have := ih f (by omega)
    omega

theorem spn_lt {hp : Heap} {x d : Nat} (hs : Spn hp x d) : x < hp.size := by
  cases hs with
  | base d ht => exact topMemo_lt ht
  | right e _ _ => exact get_lt_size e
  | left e _ _ => exact get_lt_size e

theorem spn_mono {hp hp' : Heap} {x d : Nat} (he : PExt hp hp') (hs : Spn hp x d) : Spn hp' x d := by
  induction hs with
  | base d ht => exact .base d (topMemo_pext he ht)
  | right e htl _ ih => exact .right (he.get e) (topMemo_pext he htl) ih
  | left e _ htr ih => exact .left (he.get e) ih (topMemo_pext he htr)

/-- what rebinding a path of `d` levels in `hp` leaves: the old cells untouched, and at `x'` a chain
    of at most `d` unset pairs whose siblings answer from their memo -/
structure Rebound (hp : Heap) (d : Nat) (hp' : Heap) (x' : Nat) : Prop where
  ext : PExt hp hp'
  wf : WF hp'
  spn : Spn hp' x' d

theorem Rebound.mono {hp0 hp hp' : Heap} {d x' : Nat} (he : PExt hp0 hp) (rb : Rebound hp d hp' x') :
    Rebound hp0 d hp' x' := ⟨he.trans rb.ext, rb.wf, rb.spn⟩

/-- one more level: a new pair over the chain and a sibling that was hashed before -/
theorem Rebound.right {hp hp1 : Heap} {l c' d : Nat} (rb : Rebound hp d hp1 c') (htl : TopMemo hp l) :
    Rebound hp (d+1) (hp1.push (.pair z0 l c')) hp1.size :=
  have pe := pext_push hp1 (.pair z0 l c')
  ⟨rb.ext.trans pe, WF_push rb.wf (.pair (Nat.lt_of_lt_of_le (topMemo_lt htl) rb.ext.1) (spn_lt rb.spn)),
    .right Array.getElem?_push_size (topMemo_pext (rb.ext.trans pe) htl) (spn_mono pe rb.spn)⟩

theorem Rebound.left {hp hp1 : Heap} {c' r d : Nat} (rb : Rebound hp d hp1 c') (htr : TopMemo hp r) :
    Rebound hp (d+1) (hp1.push (.pair z0 c' r)) hp1.size :=
  have pe := pext_push hp1 (.pair z0 c' r)
  ⟨rb.ext.trans pe, WF_push rb.wf (.pair (spn_lt rb.spn) (Nat.lt_of_lt_of_le (topMemo_lt htr) rb.ext.1)),
    .left Array.getElem?_push_size (spn_mono pe rb.spn) (topMemo_pext (rb.ext.trans pe) htr)⟩

theorem Rebound.cost (h : HashFn) {hp hp' : Heap} {d x' : Nat} (rb : Rebound hp d hp' x') :
    (run h (Prog.root1 x') hp').2.2.calls ≤ d := by
  rw [run_root1 h (spn_lt rb.spn)]
  exact spn_cost h rb.wf rb.spn (x'+1) (Nat.lt_succ_self x')

theorem spine_rebound {hp hp' : Heap} {path : List Bool} {x y x' : Nat}
    (hs : Spine hp hp' path x y x') (hw : WF hp) (hy : TopMemo hp y) (hfx : FullyMemo hp x) :
    Rebound hp path.length hp' x' := by
  induction hs with
  | nil x y => exact ⟨PExt.refl _, hw, .base 0 hy⟩
  | @right hp1 bs x y c' m l r e _ _ _ ih =>
    obtain ⟨hfl, hfr⟩ := fullyMemo_child hfx e
    have hlx := hw x m l r e
    have hxs := get_lt_size e
    exact (ih hy hfr).right (topMemo_of_fullyMemo hfl (by omega))
  | @left hp1 bs x y c' m l r e _ _ _ ih =>
    obtain ⟨hfl, hfr⟩ := fullyMemo_child hfx e
    have hlx := hw x m l r e
    have hxs := get_lt_size e
    exact (ih hy hfl).left (topMemo_of_fullyMemo hfr (by omega))

/-! ### the spine with expansion of zero summaries -/

theorem fullyMemo_leaf {hp : Heap} {a : Nat} {r : Root} (ha : hp[a]? = some (Cell.leaf r)) :
    FullyMemo hp a := by
  intro y m l r' hr hy
  cases hr with
  | refl => rw [ha] at hy; cases hy
  | left m' l' r'' e _ => rw [ha] at e; cases e
  | right m' l' r'' e _ => rw [ha] at e; cases e

/-- `setPathX` hashes nothing, leaves all existing cells untouched and yields a chain of unset pairs -/
theorem run_setPathX (h : HashFn) (zs : Nat → Nat) :
    ∀ (path : List Bool) (x y : Nat) (hp : Heap),
    WF hp → (∀ d, ∃ r, hp[zs d]? = some (Cell.leaf r)) → TopMemo hp y → FullyMemo hp x →
    Builds (Rebound hp path.length) (run h (setPathX zs path x y) hp) := by
  intro path
  induction path with
  | nil => intro x y hp hw _ hty _ x' hr; cases hr; exact ⟨⟨PExt.refl hp, hw, .base 0 hty⟩, rfl⟩
  | cons b bs ih =>
    intro x y hp hw hzs hty hfx
    rw [setPathX]
    cases hx : hp[x]? with
    | none => rw [run_read_none h _ hx]; exact .fail h hp
    | some c =>
      rw [run_read_some h _ hx]
      refine .pre rfl ?_
      cases c with
      | pair m l r =>
        have hlr := hw x m l r hx
        have hxs := get_lt_size hx
        obtain ⟨hfl, hfr⟩ := fullyMemo_child hfx hx
        have htl := topMemo_of_fullyMemo hfl (by omega)
        have htr := topMemo_of_fullyMemo hfr (by omega)
        simp only [view]
        cases b with
        | true =>
          simp only [if_true]
          exact builds_level h (L := fun _ => l) (R := fun c' => c') rfl (fun _ => rfl)
            (ih r y hp hw hzs hty hfr) (fun _ _ rb _ _ => rb.right htl)
        | false =>
          simp only [Bool.false_eq_true, if_false]
          exact builds_level h (L := fun c' => c') (R := fun _ => r) rfl (fun _ => rfl)
            (ih l y hp hw hzs hty hfl) (fun _ _ rb _ _ => rb.left htr)
      | leaf v =>
        simp only [view]
        obtain ⟨vz, hz⟩ := hzs (bs.length + 1)
        rw [run_read_some h _ hz]
        refine .pre rfl ?_
        simp only [view]
        by_cases hv : v = vz
        · simp only [hv, if_true]
          obtain ⟨vc, hc⟩ := hzs bs.length
          have hcs := get_lt_size hc
          rw [run_allocPair_ok h _ hcs hcs]
          refine .pre rfl ?_
          -- the heap with the throw-away expansion pair; from here on as below a pair of zero leaves
          have peg := pext_push hp (Cell.pair z0 (zs bs.length) (zs bs.length))
          have sub := ih (zs bs.length) y _ (WF_push hw (.pair hcs hcs))
            (fun d => (hzs d).imp (fun _ e => peg.get e)) (topMemo_pext peg hty) (fullyMemo_leaf (peg.get hc))
          cases b with
          | true =>
            simp only [if_true]
            exact builds_level h (L := fun _ => zs bs.length) (R := fun c' => c') rfl (fun _ => rfl) sub
              (fun _ _ rb _ _ => (rb.mono peg).right (.inl ⟨vc, hc⟩))
          | false =>
            simp only [Bool.false_eq_true, if_false]
            exact builds_level h (L := fun c' => c') (R := fun _ => zs bs.length) rfl (fun _ => rfl) sub
              (fun _ _ rb _ _ => (rb.mono peg).left (.inl ⟨vc, hc⟩))
        · simp only [hv, if_false]
          exact .fail h hp

theorem exZs_leaves (hp : Heap) (h0 : ∃ r, hp[0]? = some (Cell.leaf r)) (h1 : ∃ r, hp[1]? = some (Cell.leaf r)) :
    ∀ d, ∃ r, hp[exZs d]? = some (Cell.leaf r) := by
  intro d
  unfold exZs
  split
  · exact h0
  · exact h1

end ZtypV.H
