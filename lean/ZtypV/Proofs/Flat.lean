/-
Basic facts of the flat codec (C09/C10): the flat value's type-level `FixedLength()` agrees with the
spec's sizes on well-formed types; each reader step splits the stream (`dr.avail = bs ++ dr'.avail`:
what the soundness half concludes of a step and the completeness half assumes of it); running
offsets; the union's `selectFn`; first equations of the model's recursive functions.
-/
import ZtypV.Model.Flat
import ZtypV.Proofs.DecodeBasic
namespace ZtypV.FlatProofs
open ZtypV ZtypV.View ZtypV.Flat ZtypV.DecodeProofs

theorem isU8_iff {t : Ty} : isU8 t = true ↔ t = .uint 1 := by
  constructor
  · intro h
    unfold isU8 at h
    split at h
    · rfl
    · cases h
  · rintro rfl; rfl

theorem isRootTy_iff {t : Ty} : isRootTy t = true ↔ t = .bytesN 32 := by
  constructor
  · intro h
    unfold isRootTy at h
    split at h
    · rfl
    · cases h
  · rintro rfl; rfl

mutual
theorem flatFixedLength_spec : (t : Ty) → t.wf = true →
    (t.isFixed = true → flatFixedLength t = t.fixedSize ∧ 0 < t.fixedSize) ∧
    (t.isFixed = false → flatFixedLength t = 0)
  | .uint b, hw => by
    have hb : 0 < b := by rcases wf_uint hw with rfl | rfl | rfl | rfl | rfl <;> decide
    exact ⟨fun _ => ⟨rfl, hb⟩, fun h => by cases h⟩
  | .bool, _ => ⟨fun _ => ⟨rfl, Nat.one_pos⟩, fun h => by cases h⟩
  | .bytesN k, hw => by
    simp only [Ty.wf, Bool.and_eq_true, decide_eq_true_eq] at hw
    simp only [flatFixedLength, Ty.fixedSize, Ty.isFixed]
    exact ⟨fun _ => ⟨by trivial, by omega⟩, fun h => by cases h⟩
  | .bitvector k, hw => by
    simp only [Ty.wf, decide_eq_true_eq] at hw
    simp only [flatFixedLength, Ty.fixedSize, Ty.isFixed]
    exact ⟨fun _ => ⟨by trivial, by omega⟩, fun h => by cases h⟩
  | .bitlist _, _ => ⟨fun h => (by cases h), fun _ => rfl⟩
  | .list _ _, _ => ⟨fun h => (by cases h), fun _ => rfl⟩
  | .union _ _, _ => ⟨fun h => (by cases h), fun _ => rfl⟩
  | .vector e k, hw => by
    simp only [Ty.wf, Bool.and_eq_true, decide_eq_true_eq] at hw
    have ih := flatFixedLength_spec e hw.2
    simp only [flatFixedLength, Ty.isFixed, Ty.fixedSize]
    constructor
    · intro hf
      obtain ⟨h1, h2⟩ := ih.1 hf
      rw [h1]; simp only [hf, if_true]
      exact ⟨by trivial, Nat.mul_pos (by omega) h2⟩
    · intro hf
      rw [ih.2 hf]; simp
  | .container fs, hw => by
    simp only [Ty.wf, Bool.and_eq_true] at hw
    have ih := flatFixedSum_spec fs hw.2
    simp only [flatFixedLength, Ty.isFixed, Ty.fixedSize]
    constructor
    · intro hf
      obtain ⟨h1, h2⟩ := ih.1 hf
      rw [h1]; simp only [Option.getD_some, true_and]
      cases fs with
      | nil => simp at hw
      | cons a as => exact h2 (by simp)
    · intro hf
      rw [ih.2 hf]; rfl
theorem flatFixedSum_spec : (fs : List Ty) → Ty.wfAll fs = true →
    (Ty.allFixed fs = true → flatFixedSum fs = some (Ty.fixedPart fs) ∧ (fs ≠ [] → 0 < Ty.fixedPart fs)) ∧
    (Ty.allFixed fs = false → flatFixedSum fs = Option.none)
  | [], _ => by simp [flatFixedSum, Ty.fixedPart, Ty.allFixed]
  | t :: ts, hw => by
    simp only [Ty.wfAll, Bool.and_eq_true] at hw
    have iht := flatFixedLength_spec t hw.1
    have ihs := flatFixedSum_spec ts hw.2
    simp only [flatFixedSum, Ty.allFixed, Ty.fixedPart]
    constructor
    · intro hf
      simp only [Bool.and_eq_true] at hf
      obtain ⟨h1, h2⟩ := iht.1 hf.1
      obtain ⟨h3, _⟩ := ihs.1 hf.2
      rw [h1, h3]
      simp only [hf.1, if_true]
      rw [if_neg (by omega)]
      exact ⟨rfl, fun _ => by omega⟩
    · intro hf
      cases hft : t.isFixed with
      | false => rw [iht.2 hft]; simp
      | true =>
        rw [hft] at hf
        simp only [Bool.true_and] at hf
        obtain ⟨h1, h2⟩ := iht.1 hft
        rw [h1, if_neg (by omega), ihs.2 hf]; rfl
end

theorem flatFixedLength_fixed {t : Ty} (hw : t.wf = true) (hf : t.isFixed = true) :
    flatFixedLength t = t.fixedSize := ((flatFixedLength_spec t hw).1 hf).1

theorem flatFixedLength_var {t : Ty} (hw : t.wf = true) (hf : t.isFixed = false) :
    flatFixedLength t = 0 := (flatFixedLength_spec t hw).2 hf

theorem flatFixedLength_ne_zero_iff {t : Ty} (hw : t.wf = true) :
    flatFixedLength t ≠ 0 ↔ t.isFixed = true := by
  cases hf : t.isFixed with
  | true =>
    have := flatFixedLength_fixed hw hf
    have := fixedSize_pos t hw hf
    constructor <;> intro _ <;> first | rfl | omega
  | false =>
    rw [flatFixedLength_var hw hf]; simp

theorem flatFixedLength_eq_typeByteLength {t : Ty} (hw : t.wf = true) :
    flatFixedLength t = t.typeByteLength := by
  unfold Ty.typeByteLength
  cases hf : t.isFixed with
  | true => simp [flatFixedLength_fixed hw hf]
  | false => simp [flatFixedLength_var hw hf]

/-! ### the reader: every step takes a prefix off the stream

Said as `dr.avail = bs ++ dr'.avail`, consecutive steps compose by associativity of `++`. -/

theorem span_iff {dr dr' : DR} {k : Nat} {bs : Bytes} :
    Span dr dr' k bs ↔ bs.length = k ∧ dr.avail = bs ++ dr'.avail := by
  constructor
  · rintro ⟨ht, hl, hd⟩
    rw [hd, ht, List.length_take, List.take_append_drop]
    exact ⟨Nat.min_eq_left hl, rfl⟩
  · rintro ⟨rfl, h⟩
    exact ⟨by rw [h, List.take_left], by rw [h, List.length_append]; exact Nat.le_add_right _ _,
      by rw [h, List.drop_left]⟩

namespace Dec

/-- the reader after `n` more bytes were read from it, `rest` still to come -/
def adv (dr : DR) (n : Nat) (rest : Bytes) : DR := { dr with i := dr.i + n, avail := rest }

@[simp] theorem adv_i (dr : DR) (n : Nat) (rest : Bytes) : (adv dr n rest).i = dr.i + n := rfl
@[simp] theorem adv_max (dr : DR) (n : Nat) (rest : Bytes) : (adv dr n rest).max = dr.max := rfl
@[simp] theorem adv_avail (dr : DR) (n : Nat) (rest : Bytes) : (adv dr n rest).avail = rest := rfl

theorem adv_scope (dr : DR) (n : Nat) (rest : Bytes) : (adv dr n rest).scope = dr.scope - n :=
  Nat.sub_add_eq _ _ _

theorem le_adv_scope (dr : DR) (n : Nat) (rest : Bytes) : dr.scope ≤ (adv dr n rest).scope + n :=
  Nat.le_add_of_sub_le (Nat.le_of_eq (adv_scope dr n rest).symm)

theorem adv_adv (dr : DR) (m n : Nat) (r r' : Bytes) : adv (adv dr m r) n r' = adv dr (m + n) r' := by
  simp only [adv, Nat.add_assoc]

end Dec

theorem read_iff {dr dr' : DR} {n : Nat} {bs : Bytes} :
    dr.read n = .ok (bs, dr') ↔
      bs.length = n ∧ n ≤ dr.scope ∧ ∃ rest, dr.avail = bs ++ rest ∧ dr' = Dec.adv dr n rest := by
  unfold DR.read DR.scope
  by_cases h0 : n = 0
  · subst h0
    rw [if_pos rfl]
    constructor
    · intro h; cases h; exact ⟨rfl, Nat.zero_le _, _, rfl, rfl⟩
    · rintro ⟨hl, _, rest, hav, rfl⟩
      obtain rfl := List.eq_nil_of_length_eq_zero hl
      obtain rfl : rest = dr.avail := hav.symm
      rfl
  · rw [if_neg h0]
    constructor
    · intro h
      obtain ⟨h1, h⟩ := ite_err_eq_ok h
      obtain ⟨h2, h⟩ := ite_err_eq_ok h
      cases h
      exact ⟨by rw [List.length_take]; omega, by omega, _, (List.take_append_drop n _).symm, rfl⟩
    · rintro ⟨rfl, hs, rest, hav, rfl⟩
      rw [if_neg (by omega), if_neg (by rw [hav, List.length_append]; omega), hav, List.take_left,
        List.drop_left]
      rfl

theorem read_split {dr dr' : DR} {n : Nat} {bs : Bytes} (h : dr.read n = .ok (bs, dr')) :
    bs.length = n ∧ dr.avail = bs ++ dr'.avail := by
  obtain ⟨hl, _, rest, hav, rfl⟩ := read_iff.mp h
  exact ⟨hl, hav⟩

theorem read_scope_eq {dr dr' : DR} {n : Nat} {bs : Bytes} (h : dr.read n = .ok (bs, dr')) :
    dr.scope = n + dr'.scope := by
  obtain ⟨_, hs, rest, _, rfl⟩ := read_iff.mp h
  rw [Dec.adv_scope, Nat.add_sub_cancel' hs]

theorem readOffset_iff {dr dr' : DR} {o : Nat} :
    dr.readOffset = .ok (o, dr') ↔
      o < 2 ^ 32 ∧ 4 ≤ dr.scope ∧ ∃ rest, dr.avail = leBytes 4 o ++ rest ∧ dr' = Dec.adv dr 4 rest := by
  unfold DR.readOffset
  constructor
  · intro h
    obtain ⟨⟨bs, d⟩, h1, h⟩ := bind_eq_ok h
    cases h
    obtain ⟨hl, hs, rest, hav, rfl⟩ := read_iff.mp h1
    have hb := leBytes_leNat bs
    have hlt := leNat_lt bs
    rw [hl] at hb hlt
    exact ⟨hlt, hs, rest, by rw [hb]; exact hav, rfl⟩
  · rintro ⟨ho, hs, rest, hav, rfl⟩
    have ho' : o < 256 ^ 4 := ho
    rw [read_iff.mpr ⟨leBytes_length 4 o, hs, rest, hav, rfl⟩]
    simp only [R.bind_ok, leNat_leBytes, Nat.mod_eq_of_lt ho']

theorem readOffset_split {dr dr' : DR} {o : Nat} (h : dr.readOffset = .ok (o, dr')) :
    dr.avail = leBytes 4 o ++ dr'.avail := by
  obtain ⟨_, _, rest, hav, rfl⟩ := readOffset_iff.mp h
  exact hav

theorem readOffsetsN_ok : ∀ (n : Nat) (dr dr' : DR) (os : List Nat),
    readOffsetsN n dr = .ok (os, dr') →
    os.length = n ∧ dr.avail = (os.map (leBytes 4)).flatten ++ dr'.avail
  | 0, dr, dr', os, h => by
    unfold readOffsetsN at h; cases h; simp
  | n + 1, dr, dr', os, h => by
    unfold readOffsetsN at h
    obtain ⟨⟨o, d1⟩, h1, h⟩ := bind_eq_ok h
    obtain ⟨⟨os', d2⟩, h2, h⟩ := bind_eq_ok h
    obtain ⟨ihl, ihapp⟩ := readOffsetsN_ok n d1 d2 os' h2
    cases h
    exact ⟨by rw [List.length_cons, ihl],
      by rw [readOffset_split h1, ihapp, List.map_cons, List.flatten_cons, List.append_assoc]⟩

theorem resize_len (s : Slice) (n : Nat) : (s.resize n).len = n := by
  unfold Slice.resize; split <;> rfl

/-! ### the union's selector function -/

theorem flatSelect_eq : ∀ (opts : List Ty) (k : Nat) (t : Ty), opts[k]? = some t →
    flatSelect opts k = .ok (some ⟨flatFixedLength t, fun d => flatDecode t Val.none d⟩)
  | [], k, t, h => by simp at h
  | a :: as, 0, t, h => by
    simp only [List.getElem?_cons_zero, Option.some.injEq] at h
    subst h; rw [flatSelect]
  | a :: as, k + 1, t, h => by
    simp only [List.getElem?_cons_succ] at h
    rw [flatSelect]; exact flatSelect_eq as k t h

/-- the union's `selectFn` as `flatDecode` builds it -/
def unionSelect (hasNone : Bool) (opts : List Ty) : Nat → R (Option Des) := fun sel =>
  if sel ≥ opts.length + (if hasNone then 1 else 0) then Flat.err
  else if hasNone && sel == 0 then .ok Option.none
  else flatSelect opts (if hasNone then sel - 1 else sel)

theorem unionSelect_eq (hasNone : Bool) (opts : List Ty) (sel : Nat) :
    unionSelect hasNone opts sel = match unionOpt hasNone opts sel with
      | some t => .ok (some ⟨flatFixedLength t, fun d => flatDecode t Val.none d⟩)
      | Option.none => if hasNone = true ∧ sel = 0 then .ok Option.none else Flat.err := by
  unfold unionSelect unionOpt
  cases hasNone with
  | false =>
    simp only [Bool.false_eq_true, if_false, Nat.add_zero, Bool.false_and, false_and]
    by_cases hs : sel ≥ opts.length
    · rw [if_pos hs, List.getElem?_eq_none hs]
    · have hlt : sel < opts.length := Nat.lt_of_not_le hs
      rw [if_neg hs, List.getElem?_eq_getElem hlt]
      exact flatSelect_eq opts sel _ (List.getElem?_eq_getElem hlt)
  | true =>
    simp only [if_true, Bool.true_and, beq_iff_eq, true_and]
    by_cases h0 : sel = 0
    · rw [if_neg (by omega), if_pos h0, if_pos h0, if_pos h0]
    · rw [if_neg h0, if_neg h0]
      by_cases hs : sel ≥ opts.length + 1
      · rw [if_pos hs, List.getElem?_eq_none (by omega), if_neg h0]
      · have hlt : sel - 1 < opts.length := by omega
        rw [if_neg hs, List.getElem?_eq_getElem hlt]
        exact flatSelect_eq opts (sel - 1) _ (List.getElem?_eq_getElem hlt)

theorem unionOpt_mem {hasNone : Bool} {opts : List Ty} {sel : Nat} {t : Ty}
    (h : unionOpt hasNone opts sel = some t) : t ∈ opts :=
  List.mem_of_getElem? (unionOpt_some h).2.2

/-! ### first equations of the flat value's functions

As in DecodeBasic: the equation lemmas behind `rw [f]`, `simp [f]` and `unfold f` are derived when a
proof first asks for them and kept with that proof's module; `flatEncode` and `flatByteLength` match
on type and value with a catch-all arm, which makes the derivation dear.  Asked for here, for the
recursive functions the proofs unfold most, every later module finds them derived. -/

theorem flatDecode_uint (b : Nat) (p : Val) (dr : DR) : flatDecode (.uint b) p dr = decUint b dr := by
  rw [flatDecode]

theorem flatEncode_num (b n : Nat) : flatEncode (.uint b) (.num n) = .ok (leBytes b n) := by
  rw [flatEncode]

theorem flatByteLength_num (b n : Nat) : flatByteLength (.uint b) (.num n) = b := by
  rw [flatByteLength]

theorem flatFieldDes_nil (p : Val) (i : Nat) : flatFieldDes [] p i = [] := by rw [flatFieldDes]

theorem flatFieldSers_cons (t : Ty) (ts : List Ty) (v : Val) (vs : List Val) :
    flatFieldSers (t :: ts) (v :: vs)
      = ⟨flatEncode t v, flatByteLength t v, flatFixedLength t⟩ :: flatFieldSers ts vs := by
  rw [flatFieldSers]

theorem flatSumLength_cons (t : Ty) (ts : List Ty) (v : Val) (vs : List Val) :
    flatSumLength (t :: ts) (v :: vs) = flatByteLength t v + flatSumLength ts vs := by
  rw [flatSumLength]

theorem flatContainerLength_cons (t : Ty) (ts : List Ty) (v : Val) (vs : List Val) :
    flatContainerLength (t :: ts) (v :: vs)
      = (if flatFixedLength t = 0 then flatByteLength t v + 4 else flatFixedLength t)
        + flatContainerLength ts vs := by
  rw [flatContainerLength]

theorem decFixedItems_nil (size : Nat) (dr : DR) : decFixedItems size [] dr = .ok ([], dr) := by
  rw [decFixedItems]

theorem readOffsetsN_zero (dr : DR) : readOffsetsN 0 dr = .ok ([], dr) := by rw [readOffsetsN]

theorem decOffsetItems_nil (vec : Bool) (scope prev : Nat) (items : List Des) (dr : DR) :
    decOffsetItems vec scope prev [] items dr = .ok ([], dr) := by rw [decOffsetItems]

theorem decFixedLenContainer_nil (dr : DR) : decFixedLenContainer [] dr = .ok ([], dr) := by
  rw [decFixedLenContainer]

theorem decContainerFixed_nil (dr : DR) : decContainerFixed [] dr = .ok ([], [], [], dr) := by
  rw [decContainerFixed]

theorem decContainerDyn_nil (scope : Nat) (dyn : List Des) (dr : DR) :
    decContainerDyn scope [] dyn dr = .ok ([], dr) := by rw [decContainerDyn]

theorem containerLength_nil : containerLength [] = 0 := by rw [containerLength]

/-! ### concrete data for the non-vacuity examples of Props/C09 and Props/C10 -/

namespace Ex
/-- container { uint16, List[uint8, 5], Union[None, uint8], Vector[List[uint16,4], 2], Bitlist[10] } -/
def T : Ty := .container [.uint 2, .list (.uint 1) 5, .union true [.uint 1],
  .vector (.list (.uint 2) 4) 2, .bitlist 10]
def V : Val := .seq [.num 258, .seq [.num 7, .num 8, .num 9], .union 1 (.num 5),
  .seq [.seq [.num 1], .seq [.num 2, .num 3]],
  .bits [true, true, true, true, true, true, true, true, true]]
/-- fixed part 2+4+4+4+4 = 18; list at 18 (3 bytes), union at 21 (2 bytes), vector at 23
    (offsets 8, 10; items 2 and 4 bytes = 14 bytes), bitlist at 37 (2 bytes: 9 bits) -/
def enc : Bytes := [2, 1, 18, 0, 0, 0, 21, 0, 0, 0, 23, 0, 0, 0, 37, 0, 0, 0,
  7, 8, 9, 1, 5, 8, 0, 0, 0, 10, 0, 0, 0, 1, 0, 2, 0, 3, 0, 255, 3]
/-- a destination that held something longer before -/
def prior : Val := .seq [.num 9, .seq [.num 1, .num 1, .num 1, .num 1, .num 1], .union 0 .none,
  .seq [.seq [.num 5, .num 5, .num 5, .num 5], .seq []],
  .bits [true, true, true, true, true, true, true, true, true, true]]
def isOkB {α : Type} : R α → Bool
  | .ok _ => true
  | .error _ => false
theorem isOk_ex {α : Type} {x : R α} (h : isOkB x = true) : ∃ r, x = .ok r := by
  cases x with
  | ok a => exact ⟨a, rfl⟩
  | error e => cases h
/-- `x = .ok b` for byte strings, as a Boolean -/
def okBytes : R Bytes → Bytes → Bool
  | .ok a, b => a == b
  | .error _, _ => false
end Ex

end ZtypV.FlatProofs
