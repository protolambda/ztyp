/-
Model H, threads: a shared base heap plus one private heap per goroutine (C14).

A thread that uses only addresses it legitimately holds (`Safe`), all of them private or fully
hashed, never writes below the shared prefix (`step1_safe`); a poke-free client on a fully hashed
base heap is the special case in which every address may be held (`isolated_all`).  The rest is
generic in the thread invariant (`Stable`): the shared heap never changes, every thread is in the
state of its solo run, and a finished thread has computed its big-step run (`isolated_of_stable`).
-/
import ZtypV.Proofs.HeapCost
namespace ZtypV.H

/-! ### what a thread may touch -/

/-- an address a thread may use: private, or a node of the base heap `B` that is fully hashed
    (vacuously so if it does not exist) -/
def OKAddr (B : Heap) (a : Nat) : Prop := B.size ≤ a ∨ FullyMemo B a

/-- children of private pairs are addresses the thread may use -/
def HeapOK (B hp : Heap) : Prop :=
  ∀ (a : Nat) (m : Root) (l r : Nat), B.size ≤ a → hp[a]? = some (Cell.pair m l r) →
    OKAddr B l ∧ OKAddr B r

/-- whatever `MerkleRoot` at such an address hashes is private -/
theorem ureach_private {B hp : Heap} (hB : ∀ y, y < B.size → hp[y]? = B[y]?) (hok : HeapOK B hp)
    {a y : Nat} (hu : UReach hp a y) : OKAddr B a → B.size ≤ y := by
  have top : ∀ {x l r : Nat}, hp[x]? = some (Cell.pair z0 l r) → OKAddr B x → B.size ≤ x := by
    intro x l r e ho
    refine ho.elim id (fun hf => Nat.le_of_not_lt (fun hx => ?_))
    rw [hB x hx] at e
    exact hf x z0 l r (.refl x) e rfl
  induction hu with
  | here l r e => intro ho; exact top e ho
  | left l r e _ ih => intro ho; exact ih (hok _ z0 l r (top e ho) e).1
  | right l r e _ ih => intro ho; exact ih (hok _ z0 l r (top e ho) e).2

/-- a step that leaves the base heap alone and the heap in order -/
structure Private (B hp hp' : Heap) (tr : Trace) : Prop where
  same : ∀ y, y < B.size → hp'[y]? = hp[y]?
  wr : ∀ y, y ∈ tr.writes → B.size ≤ y
  size : hp.size ≤ hp'.size
  wf : WF hp'
  ok : HeapOK B hp'

theorem Private.stay {B hp : Heap} (hw : WF hp) (hok : HeapOK B hp) {tr : Trace}
    (htr : tr.writes = []) : Private B hp hp tr :=
  ⟨fun _ _ => rfl, fun y hy => (by rw [htr] at hy; cases hy), Nat.le_refl _, hw, hok⟩

theorem Private.push {B hp : Heap} (hn : B.size ≤ hp.size) (hw : WF hp) (hok : HeapOK B hp)
    {c : Cell} (hf : Fresh hp c) (hc : ∀ m l r, c = Cell.pair m l r → OKAddr B l ∧ OKAddr B r) :
    Private B hp (hp.push c) (Trace.one hp.size .write) := by
  refine ⟨fun z hz => get_push_lt c (by omega), fun y hy => ?_, by simp, WF_push hw hf,
    fun a m l r hna ha => ?_⟩
  · rw [Trace.writes_write, List.mem_singleton] at hy; omega
  · rcases get_push_some ha with ha | ⟨rfl, rfl⟩
    · exact hok a m l r hna ha
    · exact hc m l r rfl

theorem Private.root (h : HashFn) {B hp : Heap} (hB : ∀ y, y < B.size → hp[y]? = B[y]?) (hw : WF hp)
    (hok : HeapOK B hp) {a : Nat} (oa : OKAddr B a) :
    Private B hp (rootH h (a+1) hp a).2.1 (rootH h (a+1) hp a).2.2 := by
  obtain ⟨keep, fill⟩ := rootH_fill h (a+1) hp a
  have wr : ∀ y, y ∈ (rootH h (a+1) hp a).2.2.writes → B.size ≤ y :=
    fun y hy => ureach_private hB hok (fill y hy).1 oa
  refine ⟨fun z hz => keep z (fun hy => by have := wr z hy; omega), wr,
    Nat.le_of_eq (rootH_size h _ hp a).symm, rootH_wf h _ a hw, fun x m l r hnx hx => ?_⟩
  obtain ⟨m', hx'⟩ := get_pair_of_erase ((rootH_sameStruct h _ hp a).get x) hx
  exact hok x m' l r hnx hx'

/-- One primitive of a client that uses only addresses it may use (`K`), executed on a heap that
    begins with the base heap, touches private cells only, and the rest of the client again uses
    only such addresses (`K'`). -/
theorem step1_safe (h : HashFn) {K : Nat → Prop} {p : Prog α} (hs : Safe K p) {B hp : Heap}
    (hn : B.size ≤ hp.size) (hB : ∀ y, y < B.size → hp[y]? = B[y]?) (hw : WF hp) (hok : HeapOK B hp)
    (hK : ∀ a, K a → OKAddr B a) :
    Private B hp (step1 h p hp).2.1 (step1 h p hp).2.2
      ∧ ∃ K' : Nat → Prop, (∀ a, K' a → OKAddr B a) ∧ ∀ p', (step1 h p hp).1 = .more p' → Safe K' p' := by
  have stay : ∀ {tr : Trace}, tr.writes = [] → Private B hp hp tr := Private.stay hw hok
  -- the addresses held after an allocation
  have grow : ∀ a, K a ∨ a = hp.size → OKAddr B a :=
    fun a ha => ha.elim (hK a) (fun e => e ▸ .inl hn)
  cases hs with
  | ret _ a => exact ⟨stay rfl, K, hK, fun p' e => by cases e⟩
  | allocLeaf _ r k hk =>
    exact ⟨Private.push hn hw hok (.leaf hp r) (fun m l r' e => by cases e), _, grow,
      fun p' e => by cases e; exact hk hp.size⟩
  | allocPair _ l r k hl hr hk =>
    by_cases hlr : l < hp.size ∧ r < hp.size
    · simp only [step1, if_pos hlr]
      exact ⟨Private.push hn hw hok (.pair hlr.1 hlr.2) (fun m l' r' e => by cases e; exact ⟨hK l hl, hK r hr⟩),
        _, grow, fun p' e => by cases e; exact hk hp.size⟩
    · simp only [step1, if_neg hlr]
      exact ⟨stay rfl, K, hK, fun p' e => by cases e⟩
  | read _ a k hka hk =>
    cases hc : hp[a]? with
    | none =>
      simp only [step1, hc]
      exact ⟨stay rfl, fun z => K z ∨ childOf none z, fun z hz => hz.elim (hK z) False.elim,
        fun p' e => by cases e; exact hk none⟩
    | some c =>
      simp only [step1, hc]
      refine ⟨stay rfl, fun z => K z ∨ childOf (some (view c)) z, fun z hz => ?_,
        fun p' e => by cases e; exact hk (some (view c))⟩
      -- the children a read reveals: of a private pair, or of a fully hashed pair of the base heap
      rcases hz with h1 | h2
      · exact hK z h1
      · cases c with
        | leaf r0 => exact h2.elim
        | pair m l r =>
          have o : OKAddr B l ∧ OKAddr B r := by
            by_cases hna : B.size ≤ a
            · exact hok a m l r hna hc
            · rw [hB a (by omega)] at hc
              obtain ⟨f1, f2⟩ := fullyMemo_child ((hK a hka).resolve_left hna) hc
              exact ⟨.inr f1, .inr f2⟩
          rcases h2 with rfl | rfl
          · exact o.1
          · exact o.2
  | root _ a k hka hk =>
    by_cases ha : a < hp.size
    · simp only [step1, if_pos ha]
      exact ⟨Private.root h hB hw hok (hK a hka), K, hK, fun p' e => by cases e; exact hk _⟩
    · simp only [step1, if_neg ha]
      exact ⟨stay rfl, K, hK, fun p' e => by cases e⟩

/-- a poke-free client holds only legitimate addresses if every address is one -/
theorem safe_of_noPoke {p : Prog α} (hnp : NoPoke p) :
    ∀ {K : Nat → Prop}, (∀ z, K z) → Safe K p := by
  induction hnp with
  | ret a => intro K _; exact .ret K a
  | allocLeaf r k _ ih => intro K hK; exact .allocLeaf K r k (fun a => ih a (fun z => .inl (hK z)))
  | allocPair l r k _ ih =>
    intro K hK
    exact .allocPair K l r k (hK l) (hK r) (fun a => ih a (fun z => .inl (hK z)))
  | read a k _ ih => intro K hK; exact .read K a k (hK a) (fun c => ih c (fun z => .inl (hK z)))
  | root a k _ ih => intro K hK; exact .root K a k (hK a) (fun v => ih v hK)

/-! ### generic thread invariants -/

/-- the next state of a thread that executes one primitive against base `B` -/
def TState.next (h : HashFn) (B : Heap) (t : TState α) (p : Prog α) : TState α :=
  { st := (step1 h p (B ++ t.priv)).1,
    priv := (step1 h p (B ++ t.priv)).2.1.extract B.size (step1 h p (B ++ t.priv)).2.1.size,
    tr := t.tr ++ (step1 h p (B ++ t.priv)).2.2 }

/-- a step that leaves the shared part alone -/
structure StepOK (h : HashFn) (B : Heap) (t : TState α) (p : Prog α) : Prop where
  shared : (step1 h p (B ++ t.priv)).2.1.extract 0 B.size = B
  split : B ++ (t.next h B p).priv = (step1 h p (B ++ t.priv)).2.1
  wr : ∀ y, y ∈ (step1 h p (B ++ t.priv)).2.2.writes → B.size ≤ y

/-- a thread invariant that makes every step well-behaved and is preserved by it -/
def Stable (h : HashFn) (B : Heap) (I : TState α → Prop) : Prop :=
  ∀ t p, I t → t.st = .more p → StepOK h B t p ∧ I (t.next h B p)

theorem split_heap {B hp' : Heap} (hsz : B.size ≤ hp'.size)
    (hsame : ∀ y, y < B.size → hp'[y]? = B[y]?) :
    hp'.extract 0 B.size = B ∧ B ++ hp'.extract B.size hp'.size = hp' := by
  have e : hp'.extract 0 B.size = B := by
    apply Array.ext_getElem?
    intro i
    rw [get_prefix hsz]
    split
    · rename_i hi; exact hsame i hi
    · rename_i hi; rw [Array.getElem?_eq_none (by omega)]
  have s : hp'.extract 0 B.size ++ hp'.extract B.size hp'.size = hp' := by
    rw [Array.extract_append_extract, Nat.zero_min, Nat.max_eq_right hsz, Array.extract_size]
  rw [e] at s
  exact ⟨e, s⟩

theorem stepOK_of (h : HashFn) {B : Heap} {t : TState α} {p : Prog α}
    (pv : Private B (B ++ t.priv) (step1 h p (B ++ t.priv)).2.1 (step1 h p (B ++ t.priv)).2.2) :
    StepOK h B t p := by
  have hsz : B.size ≤ (B ++ t.priv).size := by simp
  obtain ⟨s1, s2⟩ := split_heap (Nat.le_trans hsz pv.size)
    (fun y hy => by rw [pv.same y hy, Array.getElem?_append_left hy])
  exact ⟨s1, s2, pv.wr⟩

/-- the thread's heap is in order, and the rest of its program holds legitimate addresses only -/
def InvReach (B : Heap) (t : TState α) : Prop :=
  WF (B ++ t.priv) ∧ HeapOK B (B ++ t.priv)
    ∧ ∃ K : Nat → Prop, (∀ a, K a → OKAddr B a) ∧ ∀ p, t.st = .more p → Safe K p

theorem stable_reach (h : HashFn) (B : Heap) : Stable (α := α) h B (InvReach B) := by
  intro t p ⟨hw, hok, K, hK, hsafe⟩ hst
  obtain ⟨pv, K', hK', hs'⟩ :=
    step1_safe h (hsafe p hst) (by simp : B.size ≤ (B ++ t.priv).size)
      (fun _ hy => Array.getElem?_append_left hy) hw hok hK
  have ok := stepOK_of h pv
  refine ⟨ok, ?_⟩
  show WF (B ++ (t.next h B p).priv) ∧ HeapOK B (B ++ (t.next h B p).priv) ∧ _
  rw [ok.split]
  exact ⟨pv.wf, pv.ok, K', hK', hs'⟩

/-! ### the system -/

theorem sys_step_more (hs : Nat → HashFn) {s : Sys α} {i : Nat} {p : Prog α}
    (hst : (s.threads i).st = .more p) :
    s.step hs i =
      { shared := (step1 (hs i) p (s.shared ++ (s.threads i).priv)).2.1.extract 0 s.shared.size,
        threads := fun j => if j = i then (s.threads i).next (hs i) s.shared p else s.threads j } := by
  unfold Sys.step
  rw [hst]
  rfl

theorem sys_step_idle (hs : Nat → HashFn) {s : Sys α} {i : Nat}
    (hst : ∀ p, (s.threads i).st ≠ .more p) : s.step hs i = s := by
  unfold Sys.step
  split
  · rename_i p e; exact absurd e (hst p)
  · rfl

theorem soloN_more (h : HashFn) (B : Heap) {t : TState α} {p : Prog α} (hst : t.st = .more p)
    (n : Nat) : soloN h B t (n+1) = soloN h B (t.next h B p) n := by
  rw [soloN, hst]
  rfl

theorem soloN_idle (h : HashFn) (B : Heap) {t : TState α} (hst : ∀ p, t.st ≠ .more p) (n : Nat) :
    soloN h B t n = t := by
  cases n with
  | zero => rfl
  | succ n =>
    unfold soloN
    split
    · rename_i p e; exact absurd e (hst p)
    · rfl

/-- system invariant: the shared heap is still the base heap, every thread satisfies its invariant
    and has written private addresses only -/
structure SysInv (B : Heap) (I : Nat → TState α → Prop) (s : Sys α) : Prop where
  shared : s.shared = B
  inv : ∀ i, I i (s.threads i)
  wr : ∀ i y, y ∈ (s.threads i).tr.writes → B.size ≤ y

theorem next_writes {h : HashFn} {B : Heap} {t : TState α} {p : Prog α} (ok : StepOK h B t p)
    (hwr : ∀ y, y ∈ t.tr.writes → B.size ≤ y) : ∀ y, y ∈ (t.next h B p).tr.writes → B.size ≤ y := by
  intro y hy
  have : y ∈ (t.tr ++ (step1 h p (B ++ t.priv)).2.2).writes := hy
  rw [Trace.writes_app, List.mem_append] at this
  exact this.elim (hwr y) (ok.wr y)

theorem sys_step_inv (hs : Nat → HashFn) {B : Heap} {I : Nat → TState α → Prop}
    (hI : ∀ i, Stable (hs i) B (I i)) {s : Sys α} (hi : SysInv B I s) (i : Nat) :
    SysInv B I (s.step hs i)
      ∧ (∀ n, soloN (hs i) B ((s.step hs i).threads i) n = soloN (hs i) B (s.threads i) (n+1))
      ∧ ∀ j, j ≠ i → (s.step hs i).threads j = s.threads j := by
  by_cases hst : ∃ p, (s.threads i).st = .more p
  · obtain ⟨p, hst⟩ := hst
    obtain ⟨ok, g⟩ := hI i _ p (hi.inv i) hst
    rw [sys_step_more hs hst, hi.shared]
    refine ⟨⟨ok.shared, fun j => ?_, fun j => ?_⟩,
      fun n => by rw [soloN_more (hs i) B hst]; simp only [if_true], fun j hj => if_neg hj⟩
    · by_cases hj : j = i
      · subst hj; simp only [if_true]; exact g
      · simp only [hj, if_false]; exact hi.inv j
    · by_cases hj : j = i
      · subst hj; simp only [if_true]; exact next_writes ok (hi.wr j)
      · simp only [hj, if_false]; exact hi.wr j
  · have hst' : ∀ p, (s.threads i).st ≠ .more p := fun p e => hst ⟨p, e⟩
    rw [sys_step_idle hs hst']
    exact ⟨hi, fun n => by rw [soloN_idle (hs i) B hst', soloN_idle (hs i) B hst'], fun _ _ => rfl⟩

theorem sys_exec_inv (hs : Nat → HashFn) {B : Heap} {I : Nat → TState α → Prop}
    (hI : ∀ i, Stable (hs i) B (I i)) (sched : List Nat) :
    ∀ {s : Sys α}, SysInv B I s →
      SysInv B I (s.exec hs sched)
        ∧ ∀ i, (s.exec hs sched).threads i = soloN (hs i) B (s.threads i) (sched.count i) := by
  induction sched with
  | nil => intro s hi; exact ⟨hi, fun _ => rfl⟩
  | cons j js ih =>
    intro s hi
    obtain ⟨hi', e1, e2⟩ := sys_step_inv hs hI hi j
    obtain ⟨hi'', e3⟩ := ih hi'
    refine ⟨hi'', fun i => ?_⟩
    show ((s.step hs j).exec hs js).threads i = _
    rw [e3 i, List.count_cons]
    by_cases hij : i = j
    · subst hij
      simp only [beq_self_eq_true, if_true]
      exact e1 _
    · have : (j == i) = false := by simp [Ne.symm hij]
      simp only [this, Bool.false_eq_true, if_false, Nat.add_zero]
      rw [e2 i hij]

theorem sysInv_init_reach {B : Heap} (hw : WF B) {p : Nat → Prog α} {R : Nat → Nat → Prop}
    (hR : ∀ i a, R i a → FullyMemo B a) (hsafe : ∀ i, Safe (R i) (p i)) :
    SysInv B (fun _ => InvReach B) (Sys.init B p) := by
  refine ⟨rfl, fun i => ?_, fun i y hy => (by cases hy)⟩
  show WF (B ++ #[]) ∧ HeapOK B (B ++ #[]) ∧ _
  rw [Array.append_empty]
  refine ⟨hw, fun a m l r hna ha => ?_, R i, fun a ha => .inr (hR i a ha), fun q e => ?_⟩
  · have := get_lt_size ha
    omega
  · cases e; exact hsafe i

/-! ### small steps and the big-step run -/

/-- a thread that has finished after `n` primitives alone on `B` has computed exactly the big-step
    run of its program on `B ++ priv` -/
theorem solo_run (h : HashFn) {B : Heap} {I : TState α → Prop} (hI : Stable h B I) :
    ∀ (n : Nat) {t : TState α} {p : Prog α} {a : α},
    I t → t.st = .more p → (soloN h B t n).st = .done a →
    (run h p (B ++ t.priv)).1 = some a
      ∧ (run h p (B ++ t.priv)).2.1 = B ++ (soloN h B t n).priv
      ∧ t.tr ++ (run h p (B ++ t.priv)).2.2 = (soloN h B t n).tr := by
  intro n
  induction n with
  | zero =>
    intro t p a _ hst hd
    rw [show soloN h B t 0 = t from rfl, hst] at hd; cases hd
  | succ n ih =>
    intro t p a hg hst hd
    rw [soloN_more h B hst] at hd ⊢
    obtain ⟨ok, g'⟩ := hI t p hg hst
    rw [run_step1, ← ok.split]
    by_cases hm : ∃ p', (t.next h B p).st = .more p'
    · obtain ⟨p', hm⟩ := hm
      obtain ⟨r1, r2, r3⟩ := ih g' hm hd
      rw [show (step1 h p (B ++ t.priv)).1 = .more p' from hm]
      exact ⟨r1, r2, by rw [← r3, pre_trace, ← Trace.app_assoc]; rfl⟩
    · rw [soloN_idle h B (fun q e => hm ⟨q, e⟩)] at hd ⊢
      rw [show (step1 h p (B ++ t.priv)).1 = .done a from hd]
      exact ⟨rfl, rfl, rfl⟩

/-- what C14 states of the system after a schedule: the shared heap is untouched, writes are private,
    no location written by one thread is accessed by another, every thread is where its solo run
    is, and a finished thread has the results of its big-step run -/
structure Isolated (hs : Nat → HashFn) (B : Heap) (p : Nat → Prog α) (s : Sys α) (sched : List Nat) :
    Prop where
  shared : s.shared = B
  wr : ∀ i y, y ∈ (s.threads i).tr.writes → B.size ≤ y
  race : ∀ i j, i ≠ j → ∀ l k,
    (l, Acc.write) ∈ (s.threads i).locs B.size i → (l, k) ∉ (s.threads j).locs B.size j
  seq : ∀ i, s.threads i = soloN (hs i) B ((Sys.init B p).threads i) (sched.count i)
  res : ∀ i a, (s.threads i).st = .done a →
    (run (hs i) (p i) B).1 = some a
      ∧ (run (hs i) (p i) B).2.1 = B ++ (s.threads i).priv
      ∧ (run (hs i) (p i) B).2.2 = (s.threads i).tr

theorem isolated_of_stable (hs : Nat → HashFn) {B : Heap} {I : Nat → TState α → Prop}
    (hI : ∀ i, Stable (hs i) B (I i)) {p : Nat → Prog α} (h0 : SysInv B I (Sys.init B p))
    (sched : List Nat) : Isolated hs B p ((Sys.init B p).exec hs sched) sched := by
  obtain ⟨inv, seq⟩ := sys_exec_inv hs hI sched h0
  refine ⟨inv.shared, inv.wr, ?_, seq, ?_⟩
  · -- a written location is private to its thread; what another thread accesses is shared or its own
    intro i j hij l k hwi hj
    simp only [TState.locs, List.mem_map, Prod.mk.injEq, Prod.exists] at hwi hj
    obtain ⟨y, _, hm, rfl, rfl⟩ := hwi
    obtain ⟨y', _, _, e, _⟩ := hj
    have := inv.wr i y (Trace.mem_writes.mpr hm)
    unfold Loc.of at e
    rw [if_neg (by omega : ¬ y < B.size)] at e
    split at e
    · cases e
    · exact hij (Loc.priv.inj e).1.symm
  · intro i a hd
    rw [seq i] at hd ⊢
    have := solo_run (hs i) (hI i) (sched.count i) (h0.inv i) rfl hd
    simp only [Sys.init, Array.append_empty, Trace.nil_app] at this ⊢
    exact this

/-- threads that start from fully hashed nodes `R i` and use only addresses they legitimately hold -/
theorem isolated_reach (hs : Nat → HashFn) {B : Heap} (hw : WF B) {R : Nat → Nat → Prop}
    (hR : ∀ i a, R i a → FullyMemo B a) {p : Nat → Prog α} (hsafe : ∀ i, Safe (R i) (p i))
    (sched : List Nat) : Isolated hs B p ((Sys.init B p).exec hs sched) sched :=
  isolated_of_stable hs (fun i => stable_reach (hs i) B) (sysInv_init_reach hw hR hsafe) sched

/-- on a fully hashed base heap every address is fully hashed, and any poke-free client will do -/
theorem isolated_all (hs : Nat → HashFn) {B : Heap} (hw : WF B) (hB : AllMemo B) {p : Nat → Prog α}
    (hnp : ∀ i, NoPoke (p i)) (sched : List Nat) :
    Isolated hs B p ((Sys.init B p).exec hs sched) sched :=
  isolated_reach hs hw (R := fun _ _ => True) (fun _ _ _ y m l r _ hy => hB y m l r hy)
    (fun i => safe_of_noPoke (hnp i) (fun _ => trivial)) sched

/-! ### the example threads -/

theorem noPoke_exThreads : ∀ i, NoPoke (exThreads i) := by
  intro i
  unfold exThreads
  split
  · exact noPoke_exClient
  · split
    · exact noPoke_root1 4
    · exact .ret _

theorem safe_exClient : Safe (fun z => z = 4) exClient := by
  unfold exClient
  refine .read _ _ _ rfl (fun c => ?_)
  rcases c with _ | _ | ⟨l, r⟩
  · exact .ret _ _
  · exact .ret _ _
  · refine .allocLeaf _ _ _ (fun a => .allocPair _ _ _ _ ?_ ?_ (fun b => .root _ _ _ ?_ (fun v => .ret _ v)))
    · exact .inl (.inr (.inl rfl))
    · exact .inr rfl
    · exact .inr rfl

theorem safe_exThreads : ∀ i, Safe (fun z => z = 4) (exThreads i) := by
  intro i
  unfold exThreads
  split
  · exact safe_exClient
  · split
    · exact .root _ _ _ rfl (fun v => .ret _ v)
    · exact .ret _ _

end ZtypV.H
