/-
C03, offset tables: an accepted offset table whose items each consume exactly their sub-scope
is the table `serialize` writes (`offsetsOf`, `serVarParts`).
-/
import ZtypV.Proofs.DecodeSeries
namespace ZtypV.DecodeProofs
open ZtypV ZtypV.View

/-- `os` is non-decreasing and starts at or above `p` -/
def Mono : Nat → List Nat → Prop
  | _, [] => True
  | p, o :: os => p ≤ o ∧ Mono o os

theorem isFixed_of_isLeafTy {e : Ty} (h : isLeafTy e = true) : e.isFixed = true := by
  cases e <;> simp [isLeafTy] at h <;> simp [Ty.isFixed]

theorem readOffsets_span : ∀ (n prev : Nat) (dr : DR) (os : List Nat) (dr' : DR),
    readOffsets n prev dr = .ok (os, dr') →
    os.length = n ∧ Mono prev os ∧ Span dr dr' (4 * n) (os.map (leBytes 4)).flatten := by
  intro n
  induction n with
  | zero =>
    intro prev dr os dr' hd
    rw [readOffsets] at hd
    cases hd
    exact ⟨rfl, trivial, Span.refl dr⟩
  | succ n ih =>
    intro prev dr os dr' hd
    rw [readOffsets] at hd
    obtain ⟨⟨o, d1⟩, h1, hd⟩ := bind_eq_ok hd
    obtain ⟨hmono, hd⟩ := ite_err_eq_ok hd
    obtain ⟨⟨os', d2⟩, h2, hd⟩ := bind_eq_ok hd
    cases hd
    obtain ⟨hlen, hm, sp⟩ := ih _ _ _ _ h2
    exact ⟨congrArg (· + 1) hlen, ⟨Nat.le_of_not_lt hmono, hm⟩,
      ((readOffset_span h1).append sp).cast (by omega) rfl⟩

theorem readOffsets_ne_panic : ∀ (n prev : Nat) (dr : DR), readOffsets n prev dr ≠ .error .panic := by
  intro n
  induction n with
  | zero => intro prev dr; rw [readOffsets]; exact ok_ne_panic _
  | succ n ih =>
    intro prev dr
    rw [readOffsets]
    apply bind_ne_panic (readOffset_ne_panic dr)
    rintro ⟨o, d1⟩ _
    simp only
    apply ite_ne_panic (fun _ => other_ne_panic); intro _
    apply bind_ne_panic (ih _ _)
    rintro ⟨os, d2⟩ _
    exact ok_ne_panic _

/-- items delimited by a monotone offset list: each took exactly its span, so the spans are the
    lengths of the parts and `offsetsOf` reproduces the offsets -/
theorem offsetItems_sound {h : HashFn} {e : Ty} (he : Sound h e) (hnl : isLeafTy e = false)
    (scope : Nat) :
    ∀ (os : List Nat) (o : Nat) (dr : DR) (ns : List Node) (dr' : DR), Mono o os →
      decodeOffsetItems (fun d => decode h e d) scope (o :: os) dr = .ok (ns, dr') →
      ∃ vs : List Val, vs.length = os.length + 1 ∧ allHaveType e vs = true ∧
        constructList h e vs = .ok ns ∧ o ≤ scope ∧
        Span dr dr' (scope - o) (serList e vs).flatten ∧
        offsetsOf o (serList e vs) = (o :: os).map (leBytes 4) := by
  have hleaf : ∀ c : Nat, isLeafTy e = true → c = e.fixedSize := by
    intro c hc; rw [hnl] at hc; cases hc
  intro os
  induction os with
  | nil =>
    intro o dr ns dr' _ hd
    rw [decodeOffsetItems] at hd
    obtain ⟨hle, hd⟩ := ite_err_eq_ok hd
    obtain ⟨⟨x, d1⟩, h1, hd⟩ := bind_eq_ok hd
    cases hd
    obtain ⟨v, hv, hcon, sp⟩ := inSub_span he (hleaf _) h1
    exact ⟨[v], rfl, allHaveType_cons hv rfl, constructList_cons hcon rfl, Nat.le_of_not_lt hle,
      sp.cast rfl (List.append_nil _).symm, rfl⟩
  | cons o' rest ih =>
    intro o dr ns dr' hm hd
    obtain ⟨hoo, hm'⟩ := hm
    rw [decodeOffsetItems] at hd
    obtain ⟨⟨x, d1⟩, h1, hd⟩ := bind_eq_ok hd
    obtain ⟨⟨xs, d2⟩, h2, hd⟩ := bind_eq_ok hd
    cases hd
    obtain ⟨v, hv, hcon, sp⟩ := inSub_span he (hleaf _) h1
    obtain ⟨vs, hvl, hvt, hcon2, hos, sp2, htab⟩ := ih o' d1 xs _ hm' h2
    refine ⟨v :: vs, congrArg (· + 1) hvl, allHaveType_cons hv hvt, constructList_cons hcon hcon2,
      Nat.le_trans hoo hos,
      (sp.append sp2).cast ((Nat.add_comm _ _).trans (Nat.sub_add_sub_cancel hos hoo)) rfl, ?_⟩
    rw [serList, offsetsOf, sp.length, Nat.add_sub_cancel' hoo, htab]; rfl

theorem offsetItems_length {f : DR → R (Node × DR)} {scope : Nat} :
    ∀ (os : List Nat) (o : Nat) (dr : DR) (ns : List Node) (dr' : DR),
      decodeOffsetItems f scope (o :: os) dr = .ok (ns, dr') → ns.length = os.length + 1 := by
  intro os
  induction os with
  | nil =>
    intro o dr ns dr' hd
    rw [decodeOffsetItems] at hd
    obtain ⟨_, hd⟩ := ite_err_eq_ok hd
    obtain ⟨⟨x, d1⟩, h1, hd⟩ := bind_eq_ok hd
    cases hd; rfl
  | cons o' rest ih =>
    intro o dr ns dr' hd
    rw [decodeOffsetItems] at hd
    obtain ⟨⟨x, d1⟩, h1, hd⟩ := bind_eq_ok hd
    obtain ⟨⟨xs, d2⟩, h2, hd⟩ := bind_eq_ok hd
    cases hd
    simp [ih _ _ _ _ h2]

theorem offsetItems_ne_panic {f : DR → R (Node × DR)} (hf : ∀ d, f d ≠ .error .panic) {scope : Nat} :
    ∀ (os : List Nat) (dr : DR), decodeOffsetItems f scope os dr ≠ .error .panic := by
  intro os
  induction os with
  | nil => intro dr; rw [decodeOffsetItems]; exact ok_ne_panic _
  | cons o rest ih =>
    intro dr
    cases rest with
    | nil =>
      rw [decodeOffsetItems]
      apply ite_ne_panic (fun _ => other_ne_panic); intro _
      apply bind_ne_panic (inSub_ne_panic _ _ _ hf)
      rintro ⟨x, d1⟩ _
      exact ok_ne_panic _
    | cons o' rest =>
      rw [decodeOffsetItems]
      apply bind_ne_panic (inSub_ne_panic _ _ _ hf)
      rintro ⟨x, d1⟩ _
      apply bind_ne_panic (ih d1)
      rintro ⟨xs, d2⟩ _
      exact ok_ne_panic _

/-- first offset `4 * m`, `m - 1` further monotone offsets, items decoded
    in the spans they delimit (the last one ending at `scope`): the bytes taken are exactly
    `serVarParts` of the item encodings -/
theorem varSeries_sound {h : HashFn} {e : Ty} (he : Sound h e) (hnl : isLeafTy e = false)
    {scope first m : Nat} {dr dr1 dr2 dr3 : DR} {os : List Nat} {ns : List Node}
    (hm : 1 ≤ m) (hfirst : first = 4 * m)
    (h1 : dr.readOffset = .ok (first, dr1))
    (h2 : readOffsets (m - 1) first dr1 = .ok (os, dr2))
    (h3 : decodeOffsetItems (fun d => decode h e d) scope (first :: os) dr2 = .ok (ns, dr3)) :
    ∃ vs : List Val, vs.length = m ∧ allHaveType e vs = true ∧ constructList h e vs = .ok ns ∧
      Span dr dr3 scope (serVarParts (serList e vs)) := by
  obtain ⟨hlen, hmono, sp2⟩ := readOffsets_span _ _ _ _ _ h2
  obtain ⟨vs, hvl, hvt, hcon, hfs, sp3, hoff⟩ :=
    offsetItems_sound he hnl scope os first dr2 ns dr3 hmono h3
  have hvm : vs.length = m := by rw [hvl, hlen]; exact Nat.sub_add_cancel hm
  refine ⟨vs, hvm, hvt, hcon, (((readOffset_span h1).append sp2).append sp3).cast (by omega) ?_⟩
  rw [serVarParts, serList_length, hvm, ← hfirst, hoff]; rfl

end ZtypV.DecodeProofs
