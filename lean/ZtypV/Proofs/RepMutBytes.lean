/-
C04, packed slots: byte- and bit-level facts behind the sub-chunk read-modify-write of
`BackingFromBase` (`basicIntoChunk`) and `BackingFromBitfieldBase` (`bitIntoChunk`):
rewriting one packed element / one bit inside the chunk that holds it yields the
corresponding chunk of the updated byte string, and leaves every other chunk unchanged.
Everything is phrased through `getD` (bytes beyond the end read as zero), which covers
`Set`, `Append` (write at the end) and `Pop` (clear the last element) uniformly.
The outcome is packaged as `PackedWrite per ..` for a series packed `per` elements to a chunk
(uint elements of `b` bytes: `b * per = 32`, arithmetic in Proofs/ViewSer.lean; bits:
`per = 256`).
-/
import ZtypV.Proofs.RepMutBase
namespace ZtypV
open ZtypV.View ZtypV.Sim
namespace RepMut

/-! ### `getD` through list operations -/

theorem getD_append' {α : Type} (l r : List α) (i : Nat) (d : α) :
    (l ++ r).getD i d = if i < l.length then l.getD i d else r.getD (i - l.length) d := by
  simp only [List.getD_eq_getElem?_getD, List.getElem?_append]
  split <;> rfl

theorem getD_take' {α : Type} (l : List α) (n i : Nat) (d : α) :
    (l.take n).getD i d = if i < n then l.getD i d else d := by
  simp only [List.getD_eq_getElem?_getD, List.getElem?_take]
  split <;> rfl

theorem getD_drop' {α : Type} (l : List α) (n i : Nat) (d : α) :
    (l.drop n).getD i d = l.getD (n + i) d := by
  simp only [List.getD_eq_getElem?_getD, List.getElem?_drop]

theorem getD_ge {α : Type} (l : List α) (i : Nat) (d : α) (h : l.length ≤ i) : l.getD i d = d := by
  rw [List.getD_eq_getElem?_getD, List.getElem?_eq_none h]; rfl

theorem getD_replicate_self {α : Type} (n i : Nat) (d : α) : (List.replicate n d).getD i d = d := by
  rw [List.getD_eq_getElem?_getD, List.getElem?_replicate]
  split <;> rfl

theorem ext_getD {α : Type} {a b : List α} (d : α) (hl : a.length = b.length)
    (h : ∀ q, q < a.length → a.getD q d = b.getD q d) : a = b := by
  apply List.ext_getElem hl
  intro q h1 h2
  have := h q h1
  rw [List.getD_eq_getElem?_getD, List.getD_eq_getElem?_getD, List.getElem?_eq_getElem h1,
    List.getElem?_eq_getElem h2] at this
  exact this

/-! ### chunks -/

/-- chunk `k` of a byte string (zero padded) -/
def chunkAt (X : Bytes) (k : Nat) : Root := chunkOf (X.drop (32 * k))

def chunkCount (X : Bytes) : Nat := (X.length + 31) / 32

@[simp] theorem chunkAt_length (X : Bytes) (k : Nat) : (chunkAt X k).length = 32 := by
  simp [chunkAt]

theorem chunkAt_getD (X : Bytes) (k q : Nat) (hq : q < 32) :
    (chunkAt X k).getD q 0 = X.getD (32 * k + q) 0 := by
  unfold chunkAt
  rw [chunkOf_getD _ _ hq, getD_drop']

theorem chunkAt_ext {X Y : Bytes} {k j : Nat}
    (h : ∀ q, q < 32 → X.getD (32 * k + q) 0 = Y.getD (32 * j + q) 0) : chunkAt X k = chunkAt Y j := by
  apply ext_getD 0 (by simp)
  intro q hq
  have hq' : q < 32 := by simpa using hq
  rw [chunkAt_getD _ _ _ hq', chunkAt_getD _ _ _ hq', h q hq']

theorem chunks_eq (X : Bytes) : chunks X = (List.range (chunkCount X)).map (chunkAt X) := rfl

theorem chunkAt_of_chunkCount_le {X : Bytes} {k : Nat} (hk : chunkCount X ≤ k) : chunkAt X k = z0 := by
  unfold chunkAt
  rw [List.drop_of_length_le (by unfold chunkCount at hk; omega)]; rfl

/-! ### packed bottom nodes -/

theorem packedNodes_chunkCount (X : Bytes) : (packedNodes X).length = chunkCount X :=
  packedNodes_length X

theorem packedNodes_get (X : Bytes) (k : Nat) (hk : k < (packedNodes X).length) :
    (packedNodes X)[k] = .leaf (chunkAt X k) :=
  packedNodes_getElem X k hk

/-- same number of chunks, all but chunk `j` unchanged -/
theorem packedNodes_set_eq (X X' : Bytes) (j : Nat) (hc : chunkCount X' = chunkCount X)
    (hoth : ∀ k, k ≠ j → chunkAt X' k = chunkAt X k) :
    (packedNodes X).set j (.leaf (chunkAt X' j)) = packedNodes X' := by
  apply List.ext_getElem
  · rw [List.length_set, packedNodes_chunkCount, packedNodes_chunkCount, hc]
  · intro k h1 h2
    rw [List.getElem_set, packedNodes_get X' k h2]
    split
    · rename_i hjk; rw [hjk]
    · rename_i hjk
      rw [packedNodes_get, hoth k (fun hh => hjk hh.symm)]

/-- one more chunk, the old ones unchanged -/
theorem packedNodes_snoc_eq (X X' : Bytes) (hc : chunkCount X' = chunkCount X + 1)
    (hoth : ∀ k, k < chunkCount X → chunkAt X' k = chunkAt X k) :
    packedNodes X' = packedNodes X ++ [.leaf (chunkAt X' (chunkCount X))] := by
  apply List.ext_getElem
  · rw [List.length_append, packedNodes_chunkCount, packedNodes_chunkCount, hc]; rfl
  · intro k h1 h2
    rw [packedNodes_get X' k h1]
    by_cases hk : k < chunkCount X
    · rw [List.getElem_append_left (by rw [packedNodes_chunkCount]; exact hk), packedNodes_get,
        hoth k hk]
    · have hk' : k = chunkCount X := by
        rw [packedNodes_chunkCount, hc] at h1; omega
      subst hk'
      rw [List.getElem_append_right (by rw [packedNodes_chunkCount]; omega)]
      simp only [packedNodes_chunkCount, Nat.sub_self, List.getElem_cons_zero]

/-- one chunk fewer: the old last chunk position now holds the zero chunk -/
theorem packedNodes_shrink_eq (X X' : Bytes) (hc : chunkCount X' + 1 = chunkCount X)
    (hoth : ∀ k, k < chunkCount X' → chunkAt X' k = chunkAt X k) :
    (packedNodes X).set (chunkCount X') (.leaf z0) = packedNodes X' ++ [.leaf z0] := by
  have h1 := packedNodes_snoc_eq X' X hc.symm (fun k hk => (hoth k hk).symm)
  rw [h1, List.set_append, if_neg (by rw [packedNodes_chunkCount]; omega), packedNodes_chunkCount,
    Nat.sub_self]
  rfl

/-! ### splicing a piece into a byte string -/

/-- `X'` is `X` with the bytes `[a, a + new.length)` replaced by `new` (reading zeros beyond
    the ends) -/
def Upd (X X' : Bytes) (a : Nat) (new : Bytes) : Prop :=
  ∀ p, X'.getD p 0 = if a ≤ p ∧ p < a + new.length then new.getD (p - a) 0 else X.getD p 0

theorem upd_splice (X : Bytes) (a : Nat) (new : Bytes) (hfit : a + new.length ≤ X.length) :
    Upd X (X.take a ++ new ++ X.drop (a + new.length)) a new := by
  intro p
  rw [getD_append', getD_append', getD_take', getD_drop']
  have hl : (X.take a).length = a := by simp; omega
  simp only [List.length_append, hl]
  by_cases h1 : p < a
  · rw [if_pos (by omega), if_pos h1, if_pos h1, if_neg (by omega)]
  · by_cases h2 : p < a + new.length
    · rw [if_pos h2, if_neg h1, if_pos (by omega)]
    · rw [if_neg h2, if_neg (by omega)]
      congr 1; omega

theorem upd_append (X : Bytes) (new : Bytes) : Upd X (X ++ new) X.length new := by
  intro p
  rw [getD_append']
  by_cases h1 : p < X.length
  · rw [if_pos h1, if_neg (by omega)]
  · rw [if_neg h1]
    by_cases h2 : p < X.length + new.length
    · rw [if_pos ⟨by omega, h2⟩]
    · rw [if_neg (by omega), getD_ge _ _ _ (by omega), getD_ge _ _ _ (by omega)]

theorem upd_truncate (X : Bytes) (a : Nat) (ha : a ≤ X.length) :
    Upd X (X.take a) a (List.replicate (X.length - a) 0) := by
  intro p
  rw [getD_take', getD_replicate_self, List.length_replicate]
  by_cases h1 : p < a
  · rw [if_pos h1, if_neg (by omega)]
  · rw [if_neg h1]
    by_cases h2 : p < X.length
    · rw [if_pos ⟨by omega, by omega⟩]
    · rw [if_neg (by omega), getD_ge _ _ _ (by omega)]

/-- splice inside one 32-byte root -/
def spliceRoot (r : Root) (off : Nat) (new : Bytes) : Root :=
  r.take off ++ new ++ r.drop (off + new.length)

theorem spliceRoot_length (r : Root) (off : Nat) (new : Bytes) (hr : r.length = 32)
    (hfit : off + new.length ≤ 32) : (spliceRoot r off new).length = 32 := by
  simp [spliceRoot, hr]; omega

/-- the read-modify-write of the chunk `c` holding the replaced piece, at offset `o` -/
theorem upd_chunk_hit {X X' : Bytes} {a c o : Nat} {new : Bytes} (hu : Upd X X' a new)
    (ha : a = 32 * c + o) (hfit : o + new.length ≤ 32) :
    spliceRoot (chunkAt X c) o new = chunkAt X' c := by
  have hsl := spliceRoot_length (chunkAt X c) o new (by simp) hfit
  apply ext_getD 0 (by simp [hsl])
  intro q hq
  have hq' : q < 32 := by omega
  rw [chunkAt_getD _ _ _ hq', hu]
  have := upd_splice (chunkAt X c) o new (by simp; omega) q
  unfold spliceRoot
  rw [this, chunkAt_getD _ _ _ hq']
  by_cases hc : o ≤ q ∧ q < o + new.length
  · rw [if_pos hc, if_pos ⟨by omega, by omega⟩]
    congr 1; omega
  · rw [if_neg hc, if_neg (by omega)]

/-- every other chunk is untouched -/
theorem upd_chunk_miss {X X' : Bytes} {a c o : Nat} {new : Bytes} (hu : Upd X X' a new)
    (ha : a = 32 * c + o) (hfit : o + new.length ≤ 32) (k : Nat) (hk : k ≠ c) :
    chunkAt X' k = chunkAt X k := by
  apply chunkAt_ext
  intro q hq
  rw [hu, if_neg]
  rcases Nat.lt_or_gt_of_ne hk with h | h <;> omega

theorem basicIntoChunk_eq (size : Nat) (r : Root) (i val : Nat) :
    basicIntoChunk size r i val = spliceRoot r (size * i) (leBytes size val) := by
  simp [basicIntoChunk, spliceRoot]

/-! ### uniform pieces -/

theorem flatten_set_uniform {α : Type} (b : Nat) (l' : List α) : ∀ (ls : List (List α)) (i : Nat),
    i < ls.length → (∀ l ∈ ls, l.length = b) →
    (ls.set i l').flatten = ls.flatten.take (b * i) ++ l' ++ ls.flatten.drop (b * i + b) := by
  intro ls
  induction ls with
  | nil => intro i hi; simp at hi
  | cons l ls ih =>
    intro i hi hall
    have hl : l.length = b := hall l List.mem_cons_self
    cases i with
    | zero =>
      simp only [List.set_cons_zero, List.flatten_cons, Nat.mul_zero, List.take_zero, List.nil_append,
        Nat.zero_add]
      rw [← hl, List.drop_left]
    | succ i =>
      simp only [List.set_cons_succ, List.flatten_cons]
      rw [ih i (by simpa using hi) (fun x hx => hall x (List.mem_cons_of_mem _ hx))]
      have e1 : b * (i + 1) = l.length + b * i := by rw [Nat.mul_succ, hl]; omega
      rw [e1, Nat.add_assoc, List.take_length_add_append, List.drop_length_add_append]
      simp

theorem flatten_dropLast_uniform {α : Type} (b : Nat) : ∀ (ls : List (List α)),
    (∀ l ∈ ls, l.length = b) → ls.dropLast.flatten = ls.flatten.take (b * (ls.length - 1)) := by
  intro ls
  induction ls with
  | nil => intro _; simp
  | cons l ls ih =>
    intro hall
    have hl : l.length = b := hall l List.mem_cons_self
    cases ls with
    | nil => simp
    | cons l2 ls =>
      simp only [List.dropLast_cons_cons, List.flatten_cons, List.length_cons]
      have := ih (fun x hx => hall x (List.mem_cons_of_mem _ hx))
      simp only [List.flatten_cons, List.length_cons] at this
      rw [this]
      have e1 : b * (ls.length + 1 + 1 - 1) = l.length + b * (ls.length + 1 - 1) := by
        rw [hl]; simp [Nat.mul_succ]; omega
      rw [e1, List.take_length_add_append]

/-! ### packed uint series -/

/-- the flattened element bytes of a uint series -/
def flat (b : Nat) (vs : List Val) : Bytes := (serList (.uint b) vs).flatten

theorem flat_length (b : Nat) (vs : List Val) (hall : allHaveType (.uint b) vs = true) :
    (flat b vs).length = b * vs.length := by
  unfold flat; rw [basic_flatten_length b vs hall, Nat.mul_comm]

theorem flat_set (b : Nat) (vs : List Val) (i m : Nat) (hi : i < vs.length)
    (hall : allHaveType (.uint b) vs = true) :
    Upd (flat b vs) (flat b (vs.set i (.num m))) (b * i) (leBytes b m) := by
  have hfl := flat_length b vs hall
  have : flat b (vs.set i (.num m)) =
      (flat b vs).take (b * i) ++ leBytes b m ++ (flat b vs).drop (b * i + b) := by
    unfold flat
    rw [serList_eq_map, List.map_set, ← serList_eq_map,
      flatten_set_uniform b _ _ i (by simpa using hi) (serList_fixed_length (e := .uint b) rfl vs hall)]
    simp only [serialize]
  rw [this]
  have h2 := upd_splice (flat b vs) (b * i) (leBytes b m) (by
    rw [hfl, leBytes_length]
    have : b * i + b = b * (i + 1) := by rw [Nat.mul_succ]
    rw [this]; exact Nat.mul_le_mul_left b hi)
  simpa using h2

theorem flat_append (b : Nat) (vs : List Val) (m : Nat) (hall : allHaveType (.uint b) vs = true) :
    Upd (flat b vs) (flat b (vs ++ [.num m])) (b * vs.length) (leBytes b m) := by
  have hfl := flat_length b vs hall
  have : flat b (vs ++ [.num m]) = flat b vs ++ leBytes b m := by
    unfold flat
    rw [serList_eq_map, List.map_append, ← serList_eq_map]
    simp [serialize]
  rw [this, ← hfl]
  exact upd_append _ _

theorem flat_dropLast (b : Nat) (vs : List Val) (hne : 0 < vs.length)
    (hall : allHaveType (.uint b) vs = true) :
    Upd (flat b vs) (flat b vs.dropLast) (b * (vs.length - 1)) (leBytes b 0) := by
  have hfl := flat_length b vs hall
  have : flat b vs.dropLast = (flat b vs).take (b * (vs.length - 1)) := by
    unfold flat
    rw [serList_eq_map, List.map_dropLast, ← serList_eq_map,
      flatten_dropLast_uniform b _ (serList_fixed_length (e := .uint b) rfl vs hall), serList_length]
  rw [this, leBytes_zero]
  have hle : b * (vs.length - 1) ≤ (flat b vs).length := by
    rw [hfl]; exact Nat.mul_le_mul_left b (by omega)
  have h2 := upd_truncate (flat b vs) (b * (vs.length - 1)) hle
  have e : (flat b vs).length - b * (vs.length - 1) = b := by
    rw [hfl]
    have : vs.length = (vs.length - 1) + 1 := by omega
    conv => lhs; lhs; rw [this, Nat.mul_succ]
    omega
  rw [e] at h2
  exact h2

/-! ### bits -/

/-- `bs'` is `bs` with position `i` set to `b` (reading `false` beyond the end) -/
def BUpd (bs bs' : List Bool) (i : Nat) (b : Bool) : Prop :=
  ∀ p, bs'.getD p false = if p = i then b else bs.getD p false

theorem bupd_set (bs : List Bool) (i : Nat) (b : Bool) (hi : i < bs.length) :
    BUpd bs (bs.set i b) i b := by
  intro p
  simp only [List.getD_eq_getElem?_getD, List.getElem?_set]
  by_cases hp : p = i
  · subst hp; simp [hi]
  · rw [if_neg (fun hh => hp hh.symm), if_neg hp]

theorem bupd_append (bs : List Bool) (b : Bool) : BUpd bs (bs ++ [b]) bs.length b := by
  intro p
  rw [getD_append']
  by_cases hp : p = bs.length
  · subst hp; simp
  · rw [if_neg hp]
    by_cases h1 : p < bs.length
    · rw [if_pos h1]
    · rw [if_neg h1, getD_ge _ _ _ (by simp; omega), getD_ge _ _ _ (by omega)]

theorem bupd_dropLast (bs : List Bool) (hne : 0 < bs.length) :
    BUpd bs bs.dropLast (bs.length - 1) false := by
  intro p
  simp only [List.getD_eq_getElem?_getD, List.getElem?_dropLast]
  by_cases hp : p = bs.length - 1
  · rw [if_pos hp, if_neg (by omega)]; rfl
  · rw [if_neg hp]
    by_cases h1 : p < bs.length - 1
    · rw [if_pos h1]
    · rw [if_neg h1, List.getElem?_eq_none (by omega)]

/-- bit `m` of a byte -/
def byteBit (x : UInt8) (m : Nat) : Bool := x.toNat / 2 ^ m % 2 == 1

theorem byteBit_eq_testBit (x : UInt8) (m : Nat) : byteBit x m = x.toNat.testBit m := by
  unfold byteBit
  rw [Nat.testBit_eq_decide_div_mod_eq]
  cases h : x.toNat / 2 ^ m % 2 == 1 <;> simp_all

theorem byte_ext {x y : UInt8} (h : ∀ m, m < 8 → byteBit x m = byteBit y m) : x = y := by
  apply UInt8.toNat_inj.mp
  apply Nat.eq_of_testBit_eq
  intro m
  by_cases hm : m < 8
  · rw [← byteBit_eq_testBit, ← byteBit_eq_testBit, h m hm]
  · have h256 : (2 : Nat) ^ 8 ≤ 2 ^ m := Nat.pow_le_pow_right (by omega) (by omega)
    rw [Nat.testBit_lt_two_pow (Nat.lt_of_lt_of_le x.toNat_lt h256),
      Nat.testBit_lt_two_pow (Nat.lt_of_lt_of_le y.toNat_lt h256)]

theorem not_mask_testBit : ∀ s, s < 8 → ∀ m, m < 8 → (255 - 2 ^ s).testBit m = decide (m ≠ s) := by
  decide

/-- the byte written by `bitIntoChunk` -/
def setBit (x : UInt8) (s : Nat) (b : Bool) : UInt8 :=
  if b then x ||| UInt8.ofNat (2 ^ s) else x &&& (~~~ UInt8.ofNat (2 ^ s))

theorem setBit_bit (x : UInt8) (s : Nat) (b : Bool) (hs : s < 8) (m : Nat) (hm : m < 8) :
    byteBit (setBit x s b) m = if m = s then b else byteBit x m := by
  have hmask : (UInt8.ofNat (2 ^ s)).toNat = 2 ^ s := by
    rw [UInt8.toNat_ofNat']
    apply Nat.mod_eq_of_lt
    have : (2 : Nat) ^ s < 2 ^ 8 := Nat.pow_lt_pow_right (by omega) hs
    omega
  rw [byteBit_eq_testBit, byteBit_eq_testBit]
  unfold setBit
  cases b
  · simp only [Bool.false_eq_true, if_false]
    rw [UInt8.toNat_and, UInt8.toNat_not, hmask, Nat.testBit_and]
    have : UInt8.size - 1 = 255 := rfl
    rw [this, not_mask_testBit s hs m hm]
    by_cases hms : m = s
    · simp [hms]
    · simp [hms]
  · simp only [if_true]
    rw [UInt8.toNat_or, hmask, Nat.testBit_or, Nat.testBit_two_pow]
    by_cases hms : m = s
    · simp [hms]
    · have : ¬ s = m := fun hh => hms hh.symm
      simp [hms, this]

theorem packBits_bit (bs : List Bool) (q m : Nat) (hm : m < 8) :
    byteBit ((packBits bs).getD q 0) m = bs.getD (8 * q + m) false :=
  packBits_getD_bit bs q m hm

/-- at byte level, setting one bit replaces one byte -/
theorem bupd_bytes {bs bs' : List Bool} {i : Nat} {b : Bool} (hu : BUpd bs bs' i b) :
    Upd (packBits bs) (packBits bs') (i / 8) [setBit ((packBits bs).getD (i / 8) 0) (i % 8) b] := by
  intro p
  simp only [List.length_singleton]
  by_cases hp : i / 8 ≤ p ∧ p < i / 8 + 1
  · have hpe : p = i / 8 := by omega
    rw [if_pos hp, hpe, Nat.sub_self]
    simp only [List.getD_cons_zero]
    apply byte_ext
    intro m hm
    rw [packBits_bit _ _ _ hm, hu, setBit_bit _ _ _ (by omega) m hm, packBits_bit _ _ _ hm]
    by_cases hms : m = i % 8
    · rw [if_pos hms, if_pos (by omega)]
    · rw [if_neg hms, if_neg (by omega)]
  · rw [if_neg hp]
    apply byte_ext
    intro m hm
    rw [packBits_bit _ _ _ hm, packBits_bit _ _ _ hm, hu, if_neg (by omega)]

theorem bitIntoChunk_eq (r : Root) (i : Nat) (b : Bool) :
    bitIntoChunk r i b = spliceRoot r (i % 256 / 8) [setBit (r.getD (i % 256 / 8) 0) (i % 256 % 8) b] := by
  unfold bitIntoChunk spliceRoot setBit
  cases b <;> simp

theorem bits_chunkCount (bs : List Bool) :
    chunkCount (packBits bs) = (bs.length + 256 - 1) / 256 := by
  unfold chunkCount
  rw [packBits_length, bits_chunks]
  rfl

/-! ### series packed `per` elements to a chunk -/

/-- One element of a series packed `per` to a chunk is rewritten: `X`, holding `N` elements,
    becomes `X'`, holding `N'`; the chunk of element `i` becomes `c'` and no other chunk
    changes.  Instances: `packedWrite_uint` (byte series), `packedWrite_bits` (bitfields). -/
structure PackedWrite (per : Nat) (X X' : Bytes) (N N' i : Nat) (c' : Root) : Prop where
  count : chunkCount X = (N + per - 1) / per
  count' : chunkCount X' = (N' + per - 1) / per
  hit : chunkAt X' (i / per) = c'
  miss : ∀ k, k ≠ i / per → chunkAt X' k = chunkAt X k

namespace PackedWrite
variable {per : Nat} {X X' : Bytes} {N N' i : Nat} {c' : Root}

theorem same (hw : PackedWrite per X X' N N' i c')
    (hc : (N' + per - 1) / per = (N + per - 1) / per) :
    (packedNodes X).set (i / per) (.leaf c') = packedNodes X' := by
  rw [← hw.hit]
  exact packedNodes_set_eq X X' _ (by rw [hw.count, hw.count', hc]) hw.miss

end PackedWrite

/-- a splice inside one chunk is a packed write -/
theorem PackedWrite.of_upd {per : Nat} {X X' : Bytes} {N N' i a o : Nat} {new : Bytes}
    (hu : Upd X X' a new) (ha : a = 32 * (i / per) + o) (hfit : o + new.length ≤ 32)
    (hc : chunkCount X = (N + per - 1) / per) (hc' : chunkCount X' = (N' + per - 1) / per) :
    PackedWrite per X X' N N' i (spliceRoot (chunkAt X (i / per)) o new) :=
  ⟨hc, hc', (upd_chunk_hit hu ha hfit).symm, upd_chunk_miss hu ha hfit⟩

theorem packedWrite_uint {b per : Nat} (hper : b * per = 32) {X X' : Bytes}
    {N N' i m : Nat} (hu : Upd X X' (b * i) (leBytes b m)) (hX : X.length = b * N)
    (hX' : X'.length = b * N') :
    PackedWrite per X X' N N' i (basicIntoChunk b (chunkAt X (i / per)) (i % per) m) := by
  obtain ⟨key, hfit⟩ := packed_pos hper i
  rw [basicIntoChunk_eq]
  exact .of_upd hu key (by rw [leBytes_length]; exact hfit)
    (by unfold chunkCount; rw [hX, ceilDiv_bytes hper])
    (by unfold chunkCount; rw [hX', ceilDiv_bytes hper])

theorem bitIntoChunk_mod (r : Root) (i : Nat) (b : Bool) :
    bitIntoChunk r i b = bitIntoChunk r (i % 256) b := by
  simp only [bitIntoChunk, Nat.mod_mod]

theorem packedWrite_bits {bs bs' : List Bool} {i : Nat} {v : Bool} (hu : BUpd bs bs' i v) :
    PackedWrite 256 (packBits bs) (packBits bs') bs.length bs'.length i
      (bitIntoChunk (chunkAt (packBits bs) (i / 256)) (i % 256) v) := by
  -- byte `i / 8` of the packed bits is byte `i / 8 % 32` of chunk `i / 256`
  have h8 : i % 256 / 8 = i / 8 % 32 := Nat.mod_mul_right_div_self i 8 32
  have hm : i % 256 % 8 = i % 8 := Nat.mod_mul_right_mod i 8 32
  have hlt : i / 8 % 32 < 32 := Nat.mod_lt _ (by decide)
  have hq : 32 * (i / 256) + i / 8 % 32 = i / 8 := by
    rw [show i / 256 = i / 8 / 32 from (Nat.div_div_eq_div_mul i 8 32).symm]
    exact Nat.div_add_mod _ 32
  rw [bitIntoChunk_eq, Nat.mod_mod, h8, hm, chunkAt_getD _ _ _ hlt, hq]
  exact .of_upd (bupd_bytes hu) hq.symm hlt (bits_chunkCount bs) (bits_chunkCount bs')

end RepMut
end ZtypV
