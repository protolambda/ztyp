/-
Model of the FLAT codec, cost semantics (property C20, flat side): an allocation-instrumented
twin of `ZtypV.Flat.flatDecode` (Model/Flat.lean).  Same functions, same case splits, same order
of checks; next to the result every function returns the number of allocation UNITS requested
on that run, including runs that end in an error (what was requested before the failure
counts).  `flatDecodeM_res` (Proofs/FlatCostRes.lean) proves that the result component IS
`flatDecode`, the flat decoder validated against the real code.

What is counted (one unit ~ one byte requested from the allocator), Go statement by Go statement
(/repo/codec/decoder.go, /repo/tree/root.go; the user side is /verif/harness/flat.go):

  ByteVector/ByteList/BitVector/BitList
      `*dst = make([]byte, n, n)`, ONLY in the branch `cap(*dst) < n`            n
  Vector   `offsets := make([]uint64, length, length)` (BEFORE any check; `length` is the
           type's vector length, a type constant)                              8 · length
  List     `offsets := make([]uint64, 0, length)` (AFTER the repaired check
           `firstOffset == 0 || firstOffset > scope`, so `4·length ≤ scope`)     8 · length
  ReadRoots  `*roots = make([]Root, length, length)` when len ≠ length and cap < length
                                                                               32 · length
  SubScope   `&DecodingReader{…}` + `io.LimitReader` (as on the view side)       96
  Container  `offsets = append(offsets, …)`, `dynFields = append(dynFields, f)`: 16 units per
             append statement, i.e. 32 per dynamic field (true element sizes are 8 and 16 bytes;
             Go's amortised doubling, which may request up to about twice the final size in
             total, is NOT modelled: every append is charged its flat 16)
  List     `item := add()`: the caller's callback creating one zero element (harness:
           `newFlat(t.Elem)` + `append`): a TYPE constant                       64 + 64 · footprint e
  Union    `selectFn(selector)` creating the destination of the chosen option  64 + 64 · footprint t
  basic values (`Uint*View`, `BoolView`, `Root`): plain reads through the scratch pad   0

`footprint` is `ZtypV.View.footprint` (Model/DecodeCost.lean).  NOTE on the two caller-side
constants: they are the numbers fixed for this model; the harness's real `newFlat` is smaller for
lists and unions (nil slice / nil pointer) and is the PRODUCT of the vector lengths for nested
vectors (`newFlat` of a vector creates every slot).  Neither depends on the input.
Not counted: error values (`fmt.Errorf`), the variadic `fields...` slice the caller builds
(`desFields()`), the scratch pad.  `Vector`'s `item(i)` returns an existing slot: 0.
-/
import ZtypV.Model.Flat
import ZtypV.Model.DecodeCost
namespace ZtypV.Flat
open ZtypV ZtypV.View ZtypV.View.CR

/-- a `codec.Deserializable` with its allocation units -/
structure DesC where
  fixedLength : Nat
  run : DR → CR (Val × DR)

/-- forget the units -/
def DesC.erase (c : DesC) : Des := ⟨c.fixedLength, fun d => (c.run d).res⟩

/-- `if cap(*dst) < n { *dst = make([]byte, n, n) } else { *dst = (*dst)[:n] }` -/
def Slice.resizeC (s : Slice) (n : Nat) : CR Slice :=
  ⟨.ok (s.resize n), if s.cap < n then n else 0⟩     -- make([]byte, n, n)

/-- twin of `decByteVector` -/
def decByteVectorC (dst : Slice) (byteLength : Nat) (dr : DR) : CR (Slice × DR) := do
  let d ← dst.resizeC byteLength                     -- if cap(*dst) < byteLength { make([]byte, byteLength, byteLength) }
  lift (d.readFull dr)                               -- dr.Read(*dst)

/-- twin of `decByteList` -/
def decByteListC (dst : Slice) (byteLimit : Nat) (dr : DR) : CR (Slice × DR) :=
  let byteLen := dr.scope
  if byteLen > byteLimit then fail .other
  else do
    let d ← dst.resizeC byteLen                      -- if cap(*dst) < byteLen { make([]byte, byteLen, byteLen) }
    lift (d.readFull dr)

/-- twin of `decBitVector` -/
def decBitVectorC (dst : Slice) (bitLength : Nat) (dr : DR) : CR (Slice × DR) := do
  let byteLen := (bitLength + 7) / 8
  let d ← dst.resizeC byteLen                        -- if cap(*dst) < byteLen { make([]byte, byteLen, byteLen) }
  let (s, dr') ← lift (d.readFull dr)
  if bitvectorCheck s.bytes bitLength then pure (s, dr') else fail .other

/-- twin of `decBitList` -/
def decBitListC (dst : Slice) (bitLimit : Nat) (dr : DR) : CR (Slice × DR) :=
  let byteLen := dr.scope
  if byteLen > bitListByteLimit bitLimit then fail .other
  else do
    let d ← dst.resizeC byteLen                      -- if cap(*dst) < byteLen { make([]byte, byteLen, byteLen) }
    let (s, dr') ← lift (d.readFull dr)
    if bitlistCheck s.bytes bitLimit then pure (s, dr') else fail .other

/-- twin of `readRoots` -/
def readRootsC (dst : RSlice) (length : Nat) (dr : DR) : CR (RSlice × DR) := do
  -- if len(*roots) != length { if cap(*roots) >= length { reslice } else { *roots = make([]Root, length, length) } }
  tick (if dst.len ≠ length ∧ dst.cap < length then 32 * length else 0)
  lift (readRoots dst length dr)                     -- the reads go straight into dst[i][:]

/-- twin of `readRootsLimited` -/
def readRootsLimitedC (dst : RSlice) (limit : Nat) (dr : DR) : CR (RSlice × DR) :=
  let scope := dr.scope
  if scope % 32 ≠ 0 then fail .other
  else
    let length := scope / 32
    if length > limit then fail .other
    else readRootsC dst length dr

/-- twin of `decFixedItems`; `pre` = units of obtaining the item (`item(i)`: 0, `add()`: the
    caller's constant), requested BEFORE `SubScope` -/
def decFixedItemsC (pre size : Nat) : List DesC → DR → CR (List Val × DR)
  | [], dr => pure ([], dr)
  | it :: its, dr => do
    tick pre                                         -- item(i) / item := add()
    let (x, dr') ← dr.inSubC size it.run             -- sub, err := dr.SubScope(fixedElemSize); item.Deserialize(sub)
    let (xs, dr'') ← decFixedItemsC pre size its dr'
    pure (x :: xs, dr'')

/-- twin of `readOffsetsN` (reads go through the scratch pad) -/
def readOffsetsNC (n : Nat) (dr : DR) : CR (List Nat × DR) := lift (readOffsetsN n dr)

/-- twin of `decOffsetItems` -/
def decOffsetItemsC (pre : Nat) (vec : Bool) (scope : Nat) :
    Nat → List Nat → List DesC → DR → CR (List Val × DR)
  | _, [], _, dr => pure ([], dr)
  | _, _ :: _, [], _ => fail .panic
  | prev, off :: rest, it :: its, dr =>
    if prev > off then fail .other
    else do
      tick pre                                       -- item := item(uint64(i)) / item := add()
      let next := rest.headD scope
      if next < off then fail .other                 -- `next - off` wraps, `SubScope` refuses
      else do
        let (x, dr') ← dr.inSubC (next - off) it.run -- sub, err := dr.SubScope(next - off); item.Deserialize(sub)
        let (xs, dr'') ← decOffsetItemsC pre vec scope (if vec then next else off) rest its dr'
        pure (x :: xs, dr'')

/-- twin of `decVector` -/
def decVectorC (items : List DesC) (fixedElemSize : Nat) (dr : DR) : CR (List Val × DR) :=
  if fixedElemSize ≠ 0 then decFixedItemsC 0 fixedElemSize items dr
  else
    let scope := dr.scope
    let length := items.length
    do
      tick (8 * length)                              -- offsets := make([]uint64, length, length): BEFORE any check
      let (offs, dr1) ← readOffsetsNC length dr
      if length > 0 ∧ offs.headD 0 ≠ length * 4 then fail .other
      else decOffsetItemsC 0 true scope 0 offs items dr1

/-- twin of `decList`; `addCost` = units of one `add()` call -/
def decListC (addCost : Nat) (add : DR → CR (Val × DR)) (fixedElemSize limit : Nat) (dr : DR) :
    CR (List Val × DR) :=
  let scope := dr.scope
  if scope = 0 then pure ([], dr)
  else if fixedElemSize ≠ 0 then
    if scope % fixedElemSize ≠ 0 then fail .other
    else
      let length := scope / fixedElemSize
      if length > limit then fail .other
      else decFixedItemsC addCost fixedElemSize (List.replicate length ⟨fixedElemSize, add⟩) dr
  else do
    let (first, dr1) ← lift dr.readOffset
    if first % 4 ≠ 0 then fail .other
    else if first = 0 ∨ first > scope then fail .other    -- the repaired check: firstOffset ≤ scope …
    else
      let length := first / 4
      if length > limit then fail .other
      else do
        tick (8 * length)                            -- … BEFORE offsets := make([]uint64, 0, length)
        let (os, dr2) ← readOffsetsNC (length - 1) dr1
        decOffsetItemsC addCost false scope 0 (first :: os) (List.replicate length ⟨0, add⟩) dr2

/-- twin of `decFixedLenContainer` (no `SubScope`) -/
def decFixedLenContainerC : List DesC → DR → CR (List Val × DR)
  | [], dr => pure ([], dr)
  | f :: fs, dr => do
    let (x, dr') ← f.run dr                          -- f.Deserialize(dr)
    let (xs, dr'') ← decFixedLenContainerC fs dr'
    pure (x :: xs, dr'')

/-- `prev` after the first loop of `Container` -/
def containerFixedLenC : List DesC → Nat
  | [] => 0
  | f :: fs => (if f.fixedLength ≠ 0 then f.fixedLength else 4) + containerFixedLenC fs

/-- twin of `decContainerFixed` -/
def decContainerFixedC : List DesC → DR → CR (List (Option Val) × List Nat × List DesC × DR)
  | [], dr => pure ([], [], [], dr)
  | f :: fs, dr =>
    if f.fixedLength ≠ 0 then do
      let (x, dr') ← dr.inSubC f.fixedLength f.run   -- sub, err := dr.SubScope(fix); f.Deserialize(sub)
      let (slots, offs, dyn, dr'') ← decContainerFixedC fs dr'
      pure (some x :: slots, offs, dyn, dr'')
    else do
      let (o, dr') ← lift dr.readOffset
      tick 16                                        -- offsets = append(offsets, uint64(off))
      tick 16                                        -- dynFields = append(dynFields, f)
      let (slots, offs, dyn, dr'') ← decContainerFixedC fs dr'
      pure (Option.none :: slots, o :: offs, f :: dyn, dr'')

/-- twin of `decContainerDyn` -/
def decContainerDynC (scope : Nat) : List Nat → List DesC → DR → CR (List Val × DR)
  | [], _, dr => pure ([], dr)
  | _ :: _, [], _ => fail .panic
  | off :: rest, f :: fs, dr =>
    let next := rest.headD scope
    if next < off then fail .other
    else do
      let (x, dr') ← dr.inSubC (next - off) f.run    -- sub, err := dr.SubScope(next - off); f.Deserialize(sub)
      let (xs, dr'') ← decContainerDynC scope rest fs dr'
      pure (x :: xs, dr'')

/-- twin of `decContainer` -/
def decContainerC (fields : List DesC) (dr : DR) : CR (List Val × DR) :=
  let scope := dr.scope
  do
    let (slots, offs, dyn, dr1) ← decContainerFixedC fields dr
    if dyn.isEmpty ∨ offs.isEmpty then pure (mergeSlots slots [], dr1)
    else if containerFixedLenC fields ≠ offs.headD 0 then fail .other
    else do
      let (vs, dr2) ← decContainerDynC scope offs dyn dr1
      pure (mergeSlots slots vs, dr2)

/-- twin of `decUnion`; the `selectFn` allocates the destination -/
def decUnionC (select : Nat → CR (Option DesC)) (dr : DR) : CR ((Nat × Option Val) × DR) := do
  let (sb, dr1) ← lift (dr.read 1)                   -- selector, err := dr.ReadByte()
  let sel := (sb.headD 0).toNat
  let dest ← select sel                              -- dest, err := selectFn(selector)
  match dest with
  | Option.none =>
    if sel ≠ 0 then fail .other
    else if dr1.scope ≠ 0 then fail .other
    else pure ((sel, Option.none), dr1)
  | some d =>
    if d.fixedLength ≠ 0 ∧ d.fixedLength ≠ dr1.scope then fail .other
    else do
      let (v, dr2) ← d.run dr1                       -- dest.Deserialize(dr): same reader, no SubScope
      pure ((sel, some v), dr2)

/-- units of the caller creating one zero destination of type `t` (`add()` of a list, the
    `selectFn` of a union): a type constant -/
def zeroCost (t : Ty) : Nat := 64 + 64 * footprint t

mutual
/-- `Deserialize(dr)` of the flat destination that held `prior`, with its allocation units -/
def flatDecodeM : Ty → Val → DR → CR (Val × DR)
  | .uint b, _, dr => lift (decUint b dr)            -- (*UintNView).Deserialize: scratch pad only
  | .bool, _, dr => lift (decBool dr)                -- (*BoolView).Deserialize
  | .bytesN n, p, dr =>
    if n = 32 then lift (decRoot dr)                 -- (*Root).Deserialize: dr.Read(r[:])
    else do
      let (s, dr') ← decByteVectorC (priorSlice (.bytesN n) p) n dr
      pure (.bytes s.bytes, dr')
  | .bitvector n, p, dr => do
    let (s, dr') ← decBitVectorC (priorSlice (.bitvector n) p) n dr
    pure (.bits (unpackBits s.bytes n), dr')
  | .bitlist lim, p, dr => do
    let (s, dr') ← decBitListC (priorSlice (.bitlist lim) p) lim dr
    pure (.bits (unpackBitlist s.bytes), dr')
  | .vector e n, p, dr =>
    if isU8 e then do
      let (s, dr') ← decByteVectorC (priorSlice (.vector e n) p) n dr
      pure (.seq (s.bytes.map numOfByte), dr')
    else if isRootTy e then do
      let (s, dr') ← readRootsC (priorRoots p) n dr
      pure (.seq (s.roots.map Val.bytes), dr')
    else do
      let items := (List.range n).map fun i =>
        (⟨flatFixedLength e, fun d => flatDecodeM e (priorElem p i) d⟩ : DesC)
      let (vs, dr') ← decVectorC items (flatFixedLength e) dr
      pure (.seq vs, dr')
  | .list e lim, p, dr =>
    if isU8 e then do
      let (s, dr') ← decByteListC (priorSlice (.list e lim) p) lim dr
      pure (.seq (s.bytes.map numOfByte), dr')
    else if isRootTy e then do
      let (s, dr') ← readRootsLimitedC (priorRoots p) lim dr
      pure (.seq (s.roots.map Val.bytes), dr')
    else do
      -- `*l = (*l)[:0]`; add(): `e := newFlat(t.Elem); f.elems = append(f.elems, e)`
      let (vs, dr') ← decListC (zeroCost e) (fun d => flatDecodeM e Val.none d) (flatFixedLength e) lim dr
      pure (.seq vs, dr')
  | .container fs, p, dr =>
    if Ty.allFixed fs then do
      let (vs, dr') ← decFixedLenContainerC (flatFieldDesM fs p 0) dr
      pure (.seq vs, dr')
    else do
      let (vs, dr') ← decContainerC (flatFieldDesM fs p 0) dr
      pure (.seq vs, dr')
  | .union hasNone opts, _, dr => do
    let select : Nat → CR (Option DesC) := fun sel =>
      if sel ≥ opts.length + (if hasNone then 1 else 0) then fail .other
      else if hasNone && sel == 0 then pure Option.none
      else flatSelectM opts (if hasNone then sel - 1 else sel)
    let ((sel, ov), dr') ← decUnionC select dr
    match ov with
    | Option.none => pure (.union sel Val.none, dr')
    | some v => pure (.union sel v, dr')
/-- twin of `flatFieldDes` -/
def flatFieldDesM : List Ty → Val → Nat → List DesC
  | [], _, _ => []
  | t :: ts, p, i => ⟨flatFixedLength t, fun d => flatDecodeM t (priorElem p i) d⟩ :: flatFieldDesM ts p (i + 1)
/-- twin of `flatSelect`: `f.inner = newFlat(ot)` -/
def flatSelectM : List Ty → Nat → CR (Option DesC)
  | [], _ => fail .panic
  | t :: _, 0 => do
    tick (zeroCost t)                                -- f.inner = newFlat(ot)
    pure (some ⟨flatFixedLength t, fun d => flatDecodeM t Val.none d⟩)
  | _ :: ts, k + 1 => flatSelectM ts k
end

/-- the instrumented flat decoder: result and allocation units of one `Deserialize` call -/
def flatDecodeC (t : Ty) (prior : Val) (dr : DR) : R (Val × DR) × Nat :=
  ((flatDecodeM t prior dr).res, (flatDecodeM t prior dr).cost)

/-! ### the type constant of the flat bound -/

mutual
/-- `footprint` of the flat side: as `View.footprint` (fields / vector slots of the fixed
    structure, a list counts 1), except that a bit vector counts its BYTE length: the flat
    `BitVector` sizes the destination by the type before it reads or checks anything. -/
def flatFootprint : Ty → Nat
  | .bitvector n => (n + 7) / 8
  | .vector e n => n + flatFootprint e
  | .list e _ => 1 + flatFootprint e
  | .container fs => fs.length + flatFootprints fs
  | .union _ fs => 1 + flatFootprints fs
  | _ => 1
def flatFootprints : List Ty → Nat
  | [] => 0
  | t :: ts => flatFootprint t + flatFootprints ts
end

mutual
/-- allocation units per consumed input byte (structural; no limit, no offset value): the rate
    proved for successful runs, `cost ≤ flatRate t · (bytes consumed)`.
    Leaves: 1 unit per byte (the destination slice).  A vector slot: 96 (`SubScope`) + 8 (offset
    slot).  A list element: `add()`, one `SubScope`, 8 (offset slot).  A container field: one
    `SubScope` per field; the two appends and the second `SubScope` of a dynamic field are paid
    by the 4 bytes of its offset.  A union: the `selectFn` destination, paid by the selector
    byte.  Children add up along the nesting (each byte is charged once per level). -/
def flatRate : Ty → Nat
  | .uint _ | .bool => 0
  | .bytesN _ | .bitvector _ | .bitlist _ => 1
  | .vector e _ => 104 + flatRate e
  | .list e _ => 104 + zeroCost e + flatRate e
  | .container fs => 96 + flatRates fs
  | .union _ fs => 64 + 64 * footprints fs + flatRates fs
def flatRates : List Ty → Nat
  | [] => 0
  | t :: ts => max (flatRate t) (flatRates ts)
end

/-- units per input byte, per footprint slot and per nesting level in `C20_flat` -/
def flatCostK : Nat := 512

/-- the proved closed-form bound of C20 (flat side) on the allocation units of one
    `Deserialize` call on an input of `len` bytes -/
def flatCostBound (t : Ty) (len : Nat) : Nat := flatCostK * (len + 1) * flatFootprint t * (1 + nest t)

/-! ### the ORIGINAL upstream `DecodingReader.List`, offsets branch, for contrast -/

/-- `DecodingReader.List` with `fixedElemSize == 0` as upstream had it: `firstOffset` is only
    checked to be a multiple of 4 and (as `length`) against the LIMIT before
    `offsets := make([]uint64, 0, length)`; there is no `firstOffset ≤ scope` check.  Only the part
    up to the end of the offsets loop is modelled (all the counterexample needs). -/
def listOffsetsCostUnrepaired (limit : Nat) (dr : DR) : CR Unit :=
  let scope := dr.scope
  if scope = 0 then pure ()
  else do
    let (first, dr1) ← lift dr.readOffset
    if first % 4 ≠ 0 then fail .other
    else
      let length := first / 4
      if length > limit then fail .other
      else do
        tick (8 * length)                            -- offsets := make([]uint64, 0, length): sized by an OFFSET VALUE
        let (_, _) ← readOffsetsNC (length - 1) dr1
        pure ()

end ZtypV.Flat
